import LowProofs.E2E.C03Strict
import LowProofs.Tie8.bmtree_PathToIndex_debug
/-
  C03 end to end, the `-tags debug` clauses, part 1 (`PathToIndex`; part 2 with `PathToIndexLoose` and `C03_contracts` is
  `E2E8/C03.lean` — kept apart, as `E2E/C03Strict.lean` is, so that the C04 clause, whose statement mentions `PathToIndex`
  only, does not depend on `PathToIndexLoose`): `C03_strict_debug` stated PURELY about the definitions REGENERATED by
  tools/ssa2lean8 from the go/ssa form of the build with tag `debug` (`Generated/Ssa8/*_debug.lean`: the contract
  functions `bitmapSizeCheck`, `pathCheck`, `bitmapMustHaveLevel`, `bitmapPathMustHaveEqualHeight`, the closure that
  `PathToIndex` hands to `must.Be.OK`, and the function itself, in which the closure is called before anything is
  computed).  No model function occurs in the statements: only generated code and the specifications `encPath`,
  `preIdx`.  "`none`" is a panic of the Go code (a failed contract check, or a run-time panic), so "`= some …`" says: no
  contract fires, and the value is ….  As in `E2E/C03Strict.lean`, "`h` is the height of the tree with level bitmap `T`"
  is the input condition `2^h ≤ T < 2^(h+1)`, `h ≤ 30`.  `E2E8_C03_strict_debug_eq_release` relates the debug build to the
  RELEASE build on regenerated code of both (`Generated/Ssa2`): same value.
-/
namespace Low
open Low.C03L

/-- `C03_strict_debug` on generated code.  The code of `PathToIndex` in the DEBUG build, under the same conditions,
    for a node whose level is stored and EVERY `fuel ≥ 33`: no contract fires, no other panic, terminates, and the
    result is the number of stored nodes before `n` in pre-order.
    Hypotheses: `2^h ≤ T`, `T < 2^(h+1)`, `h ≤ 30`, `n.length ≤ h`, `T.testBit n.length = true`, `33 ≤ fuel`. -/
theorem E2E8_C03_strict_debug (T h : Nat) (n : List Bool) (fuel : Nat) (h1 : 2^h ≤ T) (h2 : T < 2^(h+1))
    (h30 : h ≤ 30) (hn : n.length ≤ h) (hs : T.testBit n.length = true) (hfuel : 33 ≤ fuel) :
    Gen.Ssa8.bmtree_PathToIndex_debug fuel (T : Int) (encPath h n) = some (preIdx T 0 n : Int) := by
  obtain ⟨a, b⟩ := E2EL.c03dom h1 h2 h30
  rw [Tie_bmtree_PathToIndex_debug T _ fuel b (encPath_lt64 h30 hn) hfuel,
    (C03_strict_debug T h n a b (height_of_range h1 h2 h30) hn hs).2]

/-- … and this is what the RELEASE build returns. -/
theorem E2E8_C03_strict_debug_eq_release (T h : Nat) (n : List Bool) (fuel : Nat) (h1 : 2^h ≤ T) (h2 : T < 2^(h+1))
    (h30 : h ≤ 30) (hn : n.length ≤ h) (hs : T.testBit n.length = true) (hfuel : 33 ≤ fuel) :
    Gen.Ssa8.bmtree_PathToIndex_debug fuel (T : Int) (encPath h n)
      = Gen.Ssa2.bmtree_PathToIndex fuel (T : Int) (encPath h n) := by
  rw [E2E8_C03_strict_debug T h n fuel h1 h2 h30 hn hs hfuel, E2E_C03_strict T h n fuel h1 h2 h30 hn hs hfuel]

/-- The contracts are not vacuous: for a node whose level is NOT stored the debug build of `PathToIndex` panics
    (`bitmapMustHaveLevel`), for every `fuel` — where the release build returns a number (`E2E_C03_loose`). -/
theorem E2E8_C03_strict_debug_rejects (T h : Nat) (n : List Bool) (fuel : Nat) (h1 : 2^h ≤ T) (h2 : T < 2^(h+1))
    (h30 : h ≤ 30) (hn : n.length ≤ h) (hs : T.testBit n.length = false) (hfuel : 33 ≤ fuel) :
    Gen.Ssa8.bmtree_PathToIndex_debug fuel (T : Int) (encPath h n) = none := by
  obtain ⟨a, b⟩ := E2EL.c03dom h1 h2 h30
  have hlv : bitmapMustHaveLevel T (pathLen (encPath h n)) = false := by
    rw [bitmapMustHaveLevel, pathLen_encPath (by omega) hn]
    have : (T >>> n.length) % 2 = 0 := by
      have e := Nat.testBit_eq_decide_div_mod_eq (x := T) (i := n.length)
      rw [hs] at e
      rw [Nat.shiftRight_eq_div_pow]
      have := Nat.mod_two_eq_zero_or_one (T / 2 ^ n.length)
      rcases this with h | h
      · exact h
      · rw [h] at e; simp at e
    rw [this]; rfl
  rw [Tie_bmtree_PathToIndex_debug T _ fuel b (encPath_lt64 h30 hn) hfuel, pathToIndexDebug, contractsStrict, hlv,
    Bool.and_false]
  rfl

/-! non-vacuity: level bitmap 0x72 (height 6, levels 1, 4, 5, 6 stored) -/
example : Gen.Ssa8.bmtree_PathToIndex_debug 33 0x72 (encPath 6 [true, false, true, true]) = some 79 := by
  decide +kernel
example : Gen.Ssa8.bmtree_PathToIndex_debug 40 ((0x72 : Nat) : Int) (encPath 6 [true, false, true, true])
    = some (preIdx 0x72 0 [true, false, true, true] : Int) :=
  E2E8_C03_strict_debug 0x72 6 _ 40 (by decide +kernel) (by decide +kernel) (by decide +kernel) (by decide +kernel) (by decide +kernel) (by decide +kernel)
example : Gen.Ssa8.bmtree_PathToIndex_debug 33 0x72 (encPath 6 [true, false, true]) = none := by
  decide +kernel
example : Gen.Ssa8.bmtree_PathToIndex_debug 33 ((0x72 : Nat) : Int) (encPath 6 [true, false, true]) = none :=
  E2E8_C03_strict_debug_rejects 0x72 6 _ 33 (by decide +kernel) (by decide +kernel) (by decide +kernel) (by decide +kernel) (by decide +kernel) (by decide +kernel)

end Low
