import LowProofs.E2E.C03
import LowProofs.Tie8.bmtree_PathToIndexLoose_debug
/-
  C03 end to end, the `-tags debug` clauses, part 2: `C03_contracts` and `C03_loose_debug` on the definitions REGENERATED
  by tools/ssa2lean8 from the build with tag `debug` (see `E2E8/C03Strict.lean` for the conventions and for
  `PathToIndex`).  `E2E8_C03_loose_debug_eq_release` relates the debug build to the release build (`Generated/Ssa2`).
-/
namespace Low
open Low.C03L

/-- `C03_contracts` on generated code.  For every level bitmap `T` of height `h ≤ 30` and every node `n` of depth
    `≤ h`, given as its specified path word `encPath h n`, the code of the contract functions in the debug build
    returns without a panic: `bitmapSizeCheck(T)`, `pathCheck(path)`, `bitmapPathMustHaveEqualHeight(T, path)`, and
    the whole closure that `PathToIndexLoose` hands to `must.Be.OK`; if moreover the level of `n` is stored
    (`T.testBit n.length`), also `bitmapMustHaveLevel(T, PathLen(path))` — with `PathLen` the regenerated code — and
    the whole closure of `PathToIndex`.
    Hypotheses: `2^h ≤ T`, `T < 2^(h+1)`, `h ≤ 30`, `n.length ≤ h`. -/
theorem E2E8_C03_contracts (T h : Nat) (n : List Bool) (h1 : 2^h ≤ T) (h2 : T < 2^(h+1)) (h30 : h ≤ 30)
    (hn : n.length ≤ h) :
    Gen.Ssa8.bmtree_bitmapSizeCheck_debug (T : Int) = some () ∧
    Gen.Ssa8.bmtree_pathCheck_debug (encPath h n) = some () ∧
    Gen.Ssa8.bmtree_bitmapPathMustHaveEqualHeight_debug (T : Int) (encPath h n) = some () ∧
    Gen.Ssa8.bmtree_PathToIndexLoose_debug_fn1 (T : Int) (encPath h n) = some () ∧
    (T.testBit n.length = true →
      Gen.Ssa8.bmtree_bitmapMustHaveLevel_debug (T : Int) (Gen.Ssa8.bmtree_PathLen_debug (encPath h n)) = some () ∧
      Gen.Ssa8.bmtree_PathToIndex_debug_fn1 (T : Int) (encPath h n) = some ()) := by
  obtain ⟨a, b⟩ := E2EL.c03dom h1 h2 h30
  have hp := encPath_lt64 h30 hn
  have hc := C03_contracts T h n a b (height_of_range h1 h2 h30) hn
  have hl := hc.1
  simp only [contractsLoose, Bool.and_eq_true] at hl
  have hpl : pathLen (encPath h n) < 2^63 := by
    have : pathLen (encPath h n) ≤ 32 := popc_le _ _
    omega
  refine ⟨?_, ?_, ?_, ?_, ?_⟩
  · rw [Tie_bmtree_bitmapSizeCheck_debug T b, hl.1.1]; rfl
  · rw [Tie_bmtree_pathCheck_debug _ hp, hl.1.2]; rfl
  · rw [Tie_bmtree_bitmapPathMustHaveEqualHeight_debug T _ b hp, hl.2]; rfl
  · rw [PathToIndexLoose_debug_fn1 T _ b hp, hc.1]; rfl
  · intro hs
    have hst := hc.2 hs
    have hlv : bitmapMustHaveLevel T (pathLen (encPath h n)) = true := by
      simp only [contractsStrict, Bool.and_eq_true] at hst; exact hst.2
    exact ⟨by rw [Tie_bmtree_PathLen_debug, Tie_bmtree_bitmapMustHaveLevel_debug T _ hpl, hlv]; rfl,
      by rw [PathToIndex_debug_fn1 T _ b hp, hst]; rfl⟩

/-- `C03_loose_debug` on generated code.  The code of `PathToIndexLoose` in the DEBUG build, for every level bitmap `T`
    of height `h ≤ 30`, every node `n` of depth `≤ h` (as `encPath h n`) and EVERY `fuel ≥ 32`: no contract fires, no
    other panic, terminates, and the result is (number of stored nodes before `n` in pre-order, 1 iff the level of `n`
    is stored).
    Hypotheses: `2^h ≤ T`, `T < 2^(h+1)`, `h ≤ 30`, `n.length ≤ h`, `32 ≤ fuel`. -/
theorem E2E8_C03_loose_debug (T h : Nat) (n : List Bool) (fuel : Nat) (h1 : 2^h ≤ T) (h2 : T < 2^(h+1))
    (h30 : h ≤ 30) (hn : n.length ≤ h) (hfuel : 32 ≤ fuel) :
    Gen.Ssa8.bmtree_PathToIndexLoose_debug fuel (T : Int) (encPath h n)
      = some ((preIdx T 0 n : Int), ((T.testBit n.length).toNat : Int)) := by
  obtain ⟨a, b⟩ := E2EL.c03dom h1 h2 h30
  rw [Tie_bmtree_PathToIndexLoose_debug T _ fuel b (encPath_lt64 h30 hn) hfuel,
    (C03_loose_debug T h n a b (height_of_range h1 h2 h30) hn).2]
  rfl

/-- … and this is what the RELEASE build returns (regenerated code of both builds, same `fuel`). -/
theorem E2E8_C03_loose_debug_eq_release (T h : Nat) (n : List Bool) (fuel : Nat) (h1 : 2^h ≤ T) (h2 : T < 2^(h+1))
    (h30 : h ≤ 30) (hn : n.length ≤ h) (hfuel : 32 ≤ fuel) :
    Gen.Ssa8.bmtree_PathToIndexLoose_debug fuel (T : Int) (encPath h n)
      = Gen.Ssa2.bmtree_PathToIndexLoose fuel (T : Int) (encPath h n) := by
  rw [E2E8_C03_loose_debug T h n fuel h1 h2 h30 hn hfuel, E2E_C03_loose T h n fuel h1 h2 h30 hn hfuel]

/-! non-vacuity: level bitmap 0x72 (height 6, levels 1, 4, 5, 6 stored) -/
example : Gen.Ssa8.bmtree_PathToIndexLoose_debug 32 0x72 (encPath 6 [true, false, true]) = some (72, 0) := by
  decide +kernel
example : Gen.Ssa8.bmtree_PathToIndexLoose_debug_fn1 ((0x72 : Nat) : Int) (encPath 6 [true, false, true]) = some () :=
  (E2E8_C03_contracts 0x72 6 [true, false, true] (by decide +kernel) (by decide +kernel) (by decide +kernel) (by decide +kernel)).2.2.2.1
example : Gen.Ssa8.bmtree_PathToIndex_debug_fn1 ((0x72 : Nat) : Int) (encPath 6 [true, false, true, true]) = some () :=
  ((E2E8_C03_contracts 0x72 6 [true, false, true, true] (by decide +kernel) (by decide +kernel) (by decide +kernel) (by decide +kernel)).2.2.2.2
    (by decide +kernel)).2
-- height 30 (the largest), deepest right-most leaf of the full tree
example : Gen.Ssa8.bmtree_PathToIndexLoose_debug 32 0x7fffffff (encPath 30 (List.replicate 30 true))
    = some (2147483646, 1) := by
  decide +kernel

end Low
