import LowProofs.E2E2.C04
import LowProofs.Tie8.bmtree_Decode_debug
/-
  C04 end to end, the `-tags debug` clause `C04_decode_debug_safe` ("under `-tags debug` the `PathToIndex` calls made by
  `Decode` pass all their contracts and return the release value, so the debug build of `Decode` does not panic and
  agrees with the release build") stated PURELY about definitions REGENERATED by tools/ssa2lean8 from the go/ssa form
  of the build with tag `debug` (`Generated/Ssa8/bmtree_{AllPaths,PathToIndex,Decode}_debug.lean`) — and, for "agrees
  with the release build", the regenerated release definitions (`Generated/Ssa2`, `Ssa3`).  No model function occurs
  in the statements: only generated code and the specifications `preorder`, `encPath`, `preIdx`, `bitAt`.
-/
namespace Low
open Low.C03L

/-- `C04_decode_debug_safe`, call by call.  For every level bitmap `T` of height `h ≤ 30`: the code of
    `AllPaths(T, 0, 1<<63)` (debug build) returns a list `ps`, and for EVERY path `p` in it — these are the arguments
    of the `PathToIndex` calls that `Decode` makes — the closure of contracts that `PathToIndex` hands to `must.Be.OK`
    returns without a panic, and the debug build of `PathToIndex` returns a non-negative index, the very value the
    RELEASE build returns.
    Hypotheses: `2^h ≤ T`, `T < 2^(h+1)`, `h ≤ 30`, `2^h + 32 ≤ fuel` (for `AllPaths`), `33 ≤ fuel'` (for `PathToIndex`). -/
theorem E2E8_C04_decode_debug_safe (T h fuel fuel' : Nat) (h1 : 2^h ≤ T) (h2 : T < 2^(h+1)) (h30 : h ≤ 30)
    (hfuel : 2^h + 32 ≤ fuel) (hfuel' : 33 ≤ fuel') :
    ∃ ps, Gen.Ssa8.bmtree_AllPaths_debug fuel (T : Int) 0 (2^63) = some ps ∧
      ∀ p ∈ ps, Gen.Ssa8.bmtree_PathToIndex_debug_fn1 (T : Int) p = some () ∧
        ∃ idx : Nat, Gen.Ssa8.bmtree_PathToIndex_debug fuel' (T : Int) p = some (idx : Int) ∧
          Gen.Ssa2.bmtree_PathToIndex fuel' (T : Int) p = some (idx : Int) := by
  obtain ⟨a, b⟩ := E2EL.c03dom h1 h2 h30
  have hh := height_of_range h1 h2 h30
  refine ⟨_, Tie_bmtree_AllPaths_debug' T 0 (2^63) fuel a b (by decide) (by decide)
    (by rw [hh, Int.toNat_natCast]; omega), ?_⟩
  intro p hp
  obtain ⟨hp64, hdbg, idx, hidx⟩ := (TieBm.paths_facts a b).2 p hp
  have hc : contractsStrict T p = true := by
    rw [pathToIndexDebug] at hdbg
    cases hcs : contractsStrict T p with
    | true => rfl
    | false => rw [hcs] at hdbg; simp at hdbg
  refine ⟨by rw [PathToIndex_debug_fn1 T p b hp64, hc]; rfl, idx, ?_, ?_⟩
  · rw [Tie_bmtree_PathToIndex_debug T p fuel' b hp64 hfuel', hdbg, hidx]
  · rw [Tie_bmtree_PathToIndex T p fuel' a b hp64 hfuel', hidx]

/-- `C04_decode_debug_safe` for the whole function.  The code of `Decode(T, bm)` in the DEBUG build, for every level
    bitmap `T` of height `h ≤ 30`, ANY bitmap `bm` of fewer than `2^31` words and EVERY `fuel ≥ T + 32`: no contract
    fires, no other panic, terminates, and the result is — in pre-order — exactly the path words of the stored nodes
    `n` whose pre-order index bit `preIdx T 0 n` is 1 in `bm`.
    Hypotheses: `2^h ≤ T`, `T < 2^(h+1)`, `h ≤ 30`, `bm.length < 2^31`, `T + 32 ≤ fuel`. -/
theorem E2E8_C04_decode_debug (T h : Nat) (bm : List Nat) (fuel : Nat) (h1 : 2^h ≤ T) (h2 : T < 2^(h+1))
    (h30 : h ≤ 30) (hbm : bm.length < 2^31) (hfuel : T + 32 ≤ fuel) :
    Gen.Ssa8.bmtree_Decode_debug fuel (T : Int) bm
      = some (((preorder T h 0 []).filter (fun n => bitAt bm (preIdx T 0 n))).map (encPath h)) := by
  obtain ⟨a, b⟩ := E2EL.c03dom h1 h2 h30
  rw [Tie_bmtree_Decode_debug T bm fuel a b hbm hfuel, C04_decode_nodes T h bm a b (height_of_range h1 h2 h30)]

/-- … and this is what the RELEASE build returns (regenerated code of both builds, same `fuel`). -/
theorem E2E8_C04_decode_debug_eq_release (T h : Nat) (bm : List Nat) (fuel : Nat) (h1 : 2^h ≤ T) (h2 : T < 2^(h+1))
    (h30 : h ≤ 30) (hbm : bm.length < 2^31) (hfuel : T + 32 ≤ fuel) :
    Gen.Ssa8.bmtree_Decode_debug fuel (T : Int) bm = Gen.Ssa3.bmtree_Decode fuel (T : Int) bm := by
  rw [E2E8_C04_decode_debug T h bm fuel h1 h2 h30 hbm hfuel, E2E_C04_decode T h bm fuel h1 h2 h30 hbm hfuel]

/-! non-vacuity: level bitmap 5 (height 2: root and leaves stored), bitmap 0b10101 -/
example : Gen.Ssa8.bmtree_Decode_debug 40 5 [0b10101] = some [0, 0x100000003, 0x300000003] := by decide +kernel
example : Gen.Ssa8.bmtree_Decode_debug 40 ((5 : Nat) : Int) [0b10101]
    = some (((preorder 5 2 0 []).filter (fun n => bitAt [0b10101] (preIdx 5 0 n))).map (encPath 2)) :=
  E2E8_C04_decode_debug 5 2 [0b10101] 40 (by decide +kernel) (by decide +kernel) (by decide +kernel) (by decide +kernel) (by decide +kernel)
example : ∃ ps, Gen.Ssa8.bmtree_AllPaths_debug 96 ((0x72 : Nat) : Int) 0 (2^63) = some ps ∧
    ∀ p ∈ ps, Gen.Ssa8.bmtree_PathToIndex_debug_fn1 ((0x72 : Nat) : Int) p = some () ∧
      ∃ idx : Nat, Gen.Ssa8.bmtree_PathToIndex_debug 33 ((0x72 : Nat) : Int) p = some (idx : Int) ∧
        Gen.Ssa2.bmtree_PathToIndex 33 ((0x72 : Nat) : Int) p = some (idx : Int) :=
  E2E8_C04_decode_debug_safe 0x72 6 96 33 (by decide +kernel) (by decide +kernel) (by decide +kernel) (by decide +kernel) (by decide +kernel)

end Low
