import Generated.Ssa3.bitmap_TailBitmap_Get
import LowProofs.Tie3.bitmap_TailBitmap_Get_L
import LowModel.Bitmap.Tail
/-
  Tie: the definition regenerated from the SSA form of `(*bitmap.TailBitmap).Get` (loop-free; the receiver fields
  `Offset`, `Words`, `reclaimed` are passed as arguments) equals the hand-written model `TailBitmap.get`.
-/
namespace Low
open Low.GoSem Low.TieL Low.TailL

/-- Domain: `idx` and `tb.Offset` are int64 values, and the bit indices of `Words` fit an int64
    (`64 * len(Words) < 2^63`).  No hypothesis excludes a panic: an `idx` beyond the stored words gives `none` on
    both sides; this includes the case where `idx - Offset` wraps (Go: negative word index; model: a word index
    `≥ 2^57`, beyond every admissible `Words`).  (Only `idx < 2^63` and `-2^63 ≤ Offset` are used.) -/
theorem Tie_bitmap_TailBitmap_Get (tb : TailBitmap) (idx : Int)
    (hi1 : -9223372036854775808 ≤ idx) (hi2 : idx < 9223372036854775808)
    (ho1 : -9223372036854775808 ≤ tb.offset) (ho2 : tb.offset < 9223372036854775808)
    (hlen : 64 * tb.words.length < 9223372036854775808) :
    Gen.Ssa3.bitmap_TailBitmap_Get tb.offset tb.words tb.reclaimed idx = tb.get idx := by
  rw [Gen.Ssa3.bitmap_TailBitmap_Get, TailBitmap.get]
  by_cases hlt : idx < tb.offset
  · obtain ⟨m, hm, hm64⟩ : ∃ m : Nat, idx % 64 = (m : Int) ∧ m < 64 := ⟨(idx % 64).toNat, by omega, by omega⟩
    simp only [hlt, decide_true, ↓reduceIte, andI64_63, hm, tblBit_ofNat hm64, Int.toNat_natCast, Option.bind_some]
  · simp only [hlt, decide_false, Bool.false_eq_true, ↓reduceIte]
    exact tail_word tb.offset idx tb.words hi2 ho1 hlen hlt
      (fun w j => (tblBit j).bind fun b => some (andU64 w b)) (fun w j => w &&& bit j) fun w j hj => by
      simp only [tblBit_ofNat hj, Option.bind_some, andU64_eq]

example : Gen.Ssa3.bitmap_TailBitmap_Get 128 [5, 0] 0 130 = some 4 := by decide +kernel
example : Gen.Ssa3.bitmap_TailBitmap_Get 128 [5, 0] 0 67 = some 8 := by decide +kernel
example : Gen.Ssa3.bitmap_TailBitmap_Get 128 [5, 0] 0 256 = none := by decide +kernel
example : (TailBitmap.mk 128 [5, 0] 0).get 130 = some 4 := by decide +kernel

end Low
