import Generated.Ssa3.bitword_bitWord_ToStr
import LowProofs.Tie3.Lemmas
import LowModel.Bitword
/-
  Tie: the definition regenerated from the SSA form of `(*bitword.bitWord).ToStr` (two NESTED loops; the outer one
  fills a slice allocated with `make`, the inner one folds `byteCap` words into one byte) equals the hand-written model
  `bwToStr`.  The generated definition takes the receiver's fields `width`, `byteCap`, `wordMask` as arguments; the
  theorem instantiates them with the values that `newBW(n)` stores: `width = n`, `byteCap = 8/n`,
  `wordMask = bwWordMask n` (not read by `ToStr`).

  The loop lemmas are stated for arbitrary `n ≤ 8`, `1 ≤ m ≤ 8`; the case split on `n ∈ {1,2,4,8}` is only needed for
  these bounds in the main theorem.
  * inner loop (`_loop6`, over `j < m`, generic in the outer loop's continuation `k` and in the buffer, which it only
    writes on exit): with accumulator `b` at index `j` it computes the model's fold over `j, j+1, …, m-1` started at
    `b`, stores the result at `buf[i]` and calls `k (i+1)`;
  * outer loop (`_loop3`): the buffer is `pre ++ zeros` with `pre.length = i`, the final prefix.
  uint8 arithmetic: the code computes `addU8 (shlU8 b n) x = ((b <<< n) % 256 + x) % 256` (and `shlU8 b 8 = 0`), the
  model `((b <<< n) + x) % 256` (and `(b <<< 8) % 256`, which is 0): they agree for every `b`, `x` (no hypothesis on the
  bytes of `bs` is needed).
-/
namespace Low
open Low.GoSem Low.GoSem3 Low.TieL Low.Tie2L Low.Tie3L

def ToStr_step (n : Nat) (bs : List Nat) (i m : Nat) (b j : Nat) : Nat :=
  match bs[i * m + j]? with
  | some x => ((b <<< n) + x) % 256
  | none => (b <<< n) % 256

theorem ToStr_packByte_eq (n : Nat) (bs : List Nat) (i m : Nat) :
    bwPackByte n bs i m = (List.range' 0 m).foldl (ToStr_step n bs i m) 0 := by
  rw [bwPackByte, List.range_eq_range']; rfl

/-- `b << n` on a byte, for every shift count `n ≤ 8` (for `n = 8` the Go result is 0, and so is `(b <<< 8) % 256`) -/
theorem ToStr_shlU8 (b : Nat) {n : Nat} (hn : n ≤ 8) : shlU8 b n = (b <<< n) % 256 := by
  unfold shlU8
  by_cases h : n < 8
  · rw [if_pos h]
  · have : n = 8 := by omega
    subst this
    rw [if_neg h]
    omega

theorem ToStr_step_some (n : Nat) (bs : List Nat) (i m b j x : Nat) (hn : n ≤ 8) (hx : bs[i * m + j]? = some x) :
    addU8 (shlU8 b n) x = ToStr_step n bs i m b j := by
  rw [ToStr_step, hx, ToStr_shlU8 b hn]
  exact Nat.mod_add_mod _ _ _

theorem ToStr_step_none (n : Nat) (bs : List Nat) (i m b j : Nat) (hn : n ≤ 8) (hx : bs[i * m + j]? = none) :
    shlU8 b n = ToStr_step n bs i m b j := by
  rw [ToStr_step, hx, ToStr_shlU8 b hn]

/-- inner loop at word `j ≤ m` of output byte `i` with accumulator `b`: folds the remaining `d = m - j` words, stores the
    byte at `buf[i]`, continues with `k (i+1)`; gas `d + 1` -/
theorem ToStr_inner (fuel n m : Nat) (bc : Int) (mask : Nat) (bs : List Nat) (i : Nat)
    (k : Int → List Nat → Option (List Nat)) (hn8 : n ≤ 8) (hm8 : m ≤ 8) (hi : i < 2^33) :
    ∀ (d j gas b : Nat) (buf : List Nat), d = m - j → j ≤ m → d + 1 ≤ gas →
      Gen.Ssa3.bitword_bitWord_ToStr_loop6 fuel (n : Int) bc mask bs (m : Int) (i : Int) k gas b (j : Int) buf
        = (setIdx buf (i : Int) ((List.range' j d).foldl (ToStr_step n bs i m) b)).bind fun buf' =>
            k ((i + 1 : Nat) : Int) buf'
  | 0, j, gas, b, buf, hd, hj, hg => by
    obtain ⟨g, rfl, hg'⟩ := gas_pos hg
    have hjm : ¬ ((j : Int) < (m : Int)) := by omega
    have h1 : i + 1 < 9223372036854775808 := by omega
    have e1 : addI64 (i : Int) 1 = ((i + 1 : Nat) : Int) := addI64_one_ofNat h1
    rw [Gen.Ssa3.bitword_bitWord_ToStr_loop6]
    simp only [hjm, decide_false, Bool.false_eq_true, ↓reduceIte, e1, List.range'_zero, List.foldl_nil]
  | d + 1, j, gas, b, buf, hd, hj, hg => by
    obtain ⟨g, rfl, hg'⟩ := gas_pos hg
    have hjm : j < m := by omega
    have him : i * m ≤ i * 8 := Nat.mul_le_mul_left i hm8
    -- all `omega` calls come before the `Int` equations enter the context (see `FromStr_inner`)
    have H : i * m < 9223372036854775808 ∧ i * m + j < 9223372036854775808 ∧ j + 1 < 9223372036854775808 := by
      omega
    obtain ⟨h1, h2, h4⟩ := H
    have h3 : n < 18446744073709551616 := Nat.lt_of_le_of_lt hn8 (by decide)
    have ih := fun b' => ToStr_inner fuel n m bc mask bs i k hn8 hm8 hi d (j + 1) g b' buf (by omega) hjm hg'
    have e1 : mulI64 (i : Int) (m : Int) = ((i * m : Nat) : Int) := mulI64_ofNat h1
    have e2 : addI64 ((i * m : Nat) : Int) (j : Int) = ((i * m + j : Nat) : Int) := addI64_ofNat h2
    have e3 : toU64 (n : Int) = n := toU64_ofNat_lt h3
    have e4 : addI64 (j : Int) 1 = ((j + 1 : Nat) : Int) := addI64_one_ofNat h4
    have hr : (List.range' j (d + 1)).foldl (ToStr_step n bs i m) b
        = (List.range' (j + 1) d).foldl (ToStr_step n bs i m) (ToStr_step n bs i m b j) := by
      rw [List.range'_succ, List.foldl_cons]
    rw [Gen.Ssa3.bitword_bitWord_ToStr_loop6, hr]
    by_cases hlt : i * m + j < bs.length
    · have hx : bs[i * m + j]? = some bs[i * m + j] := List.getElem?_eq_getElem hlt
      simp only [Int.ofNat_lt, hjm, decide_true, ↓reduceIte, e1, e2, e3, e4, len_eq, hlt, index_ofNat, hx,
        Option.bind_some, ToStr_step_some n bs i m b j _ hn8 hx, ih]
    · have hx : bs[i * m + j]? = none := List.getElem?_eq_none (by omega)
      simp only [Int.ofNat_lt, hjm, decide_true, ↓reduceIte, e1, e2, e3, e4, len_eq, hlt, decide_false,
        Bool.false_eq_true, ToStr_step_none n bs i m b j hn8 hx, ih]

/-- outer loop at output byte `i`: the buffer is `pre ++ zeros` with `pre.length = i`, `d` bytes to go; gas `d + 1`, and
    `fuel ≥ m + 1` for each run of the inner loop -/
theorem ToStr_outer (fuel n m : Nat) (bc : Int) (mask : Nat) (bs : List Nat) (hn8 : n ≤ 8) (hm8 : m ≤ 8)
    (hfuel : m + 1 ≤ fuel) :
    ∀ (d i gas : Nat) (pre : List Nat), pre.length = i → i + d < 2^33 → d + 1 ≤ gas →
      Gen.Ssa3.bitword_bitWord_ToStr_loop3 fuel (n : Int) bc mask bs (m : Int) gas (i : Int)
          (pre ++ List.replicate d 0)
        = some (pre ++ (List.range' i d).map fun i => bwPackByte n bs i m)
  | 0, i, gas, pre, hp, hid, hg => by
    obtain ⟨g, rfl, hg'⟩ := gas_pos hg
    subst hp
    rw [Gen.Ssa3.bitword_bitWord_ToStr_loop3]
    simp only [len_eq, List.replicate_zero, List.append_nil, Int.lt_irrefl, decide_false, Bool.false_eq_true,
      ↓reduceIte, List.range'_zero, List.map_nil]
  | d + 1, i, gas, pre, hp, hid, hg => by
    obtain ⟨g, rfl, hg'⟩ := gas_pos hg
    subst hp
    have hlt : pre.length < (pre ++ List.replicate (d + 1) 0).length := by
      simp only [List.length_append, List.length_replicate]; omega
    have hin := ToStr_inner fuel n m bc mask bs pre.length
      (Gen.Ssa3.bitword_bitWord_ToStr_loop3 fuel (n : Int) bc mask bs (m : Int) g)
      hn8 hm8 (by omega) m 0 fuel 0 (pre ++ List.replicate (d + 1) 0) (by omega) (by omega) (by omega)
    have ih := ToStr_outer fuel n m bc mask bs hn8 hm8 hfuel d (pre.length + 1) g
      (pre ++ [bwPackByte n bs pre.length m]) (by simp) (by omega) (by omega)
    rw [Gen.Ssa3.bitword_bitWord_ToStr_loop3]
    simp only [len_eq, Int.ofNat_lt, hlt, decide_true, ↓reduceIte]
    simp only [Int.natCast_zero] at hin
    rw [hin, ← ToStr_packByte_eq, setIdx_ofNat _ _ hlt, set_append_replicate, Option.bind_some, ih]
    simp only [List.range'_succ, List.map_cons, List.append_assoc, List.cons_append, List.nil_append]

theorem ToStr_main (fuel n m : Nat) (mask : Nat) (bs : List Nat) (hn8 : n ≤ 8) (hm1 : 1 ≤ m) (hm8 : m ≤ 8)
    (hlen : bs.length < 2^32) (hfuel : bs.length + 9 ≤ fuel) :
    Gen.Ssa3.bitword_bitWord_ToStr fuel (n : Int) (m : Int) mask bs
      = some ((List.range ((bs.length + m - 1) / m)).map fun i => bwPackByte n bs i m) := by
  have hszl : (bs.length + m - 1) / m ≤ bs.length := by
    rw [Nat.div_le_iff_le_mul_add_pred (by omega)]
    have : bs.length * 1 ≤ bs.length * m := Nat.mul_le_mul_left _ hm1
    rw [Nat.mul_comm m]; omega
  have h1 : bs.length + m < 9223372036854775808 := by omega
  have h2 : (1 : Nat) ≤ bs.length + m := by omega
  have h3 : (bs.length + m - 1) / m < 9223372036854775808 := by omega
  have hm0 : ¬ ((m : Int) = 0) := by omega
  have h := ToStr_outer fuel n m (m : Int) mask bs hn8 hm8 (by omega) ((bs.length + m - 1) / m) 0 fuel []
    rfl (by omega) (by omega)
  have e2 : subI64 ((bs.length + m : Nat) : Int) 1 = ((bs.length + m - 1 : Nat) : Int) :=
    subI64_ofNat (b := 1) h2 h1
  have e3 : quoI64 ((bs.length + m - 1 : Nat) : Int) (m : Int) = some (((bs.length + m - 1) / m : Nat) : Int) := by
    rw [quoI64, if_neg hm0, ← Int.ofNat_tdiv, wrap64_ofNat h3]
  rw [Gen.Ssa3.bitword_bitWord_ToStr]
  simp only [len_eq, addI64_ofNat h1, e2, e3, Option.bind_some, makeSlice_ofNat]
  simp only [List.nil_append, Int.natCast_zero] at h
  rw [h, List.range_eq_range']

/-- Domain: `n ∈ {1,2,4,8}` (the widths `newBW` accepts; the fields are `width = n`, `byteCap = 8/n`,
    `wordMask = bwWordMask n`), `bs` any byte slice shorter than `2^32` (`hlen`: the `int` sums and products
    `len(bs)+byteCap`, `i*byteCap+j` do not wrap; NO hypothesis on the bytes: the uint8 arithmetic of the generated code
    and the `% 256` of the model agree for all values).  Fuel: every `fuel ≥ len(bs) + 9` (the outer loop needs
    `⌈len(bs)/byteCap⌉ + 1 ≤ len(bs) + 1` iterations of gas, each instance of the inner loop `8/n + 1 ≤ 9`).
    The Go function cannot panic on this domain: the result is `some`. -/
theorem Tie_bitword_bitWord_ToStr (n : Nat) (bs : List Nat) (fuel : Nat) (hn : n = 1 ∨ n = 2 ∨ n = 4 ∨ n = 8)
    (hlen : bs.length < 2^32) (hfuel : bs.length + 9 ≤ fuel) :
    Gen.Ssa3.bitword_bitWord_ToStr fuel (n : Int) ((8 / n : Nat) : Int) (bwWordMask n) bs = some (bwToStr n bs) := by
  have hb : n ≤ 8 ∧ 1 ≤ 8 / n ∧ 8 / n ≤ 8 := by rcases hn with h | h | h | h <;> subst h <;> decide
  rw [ToStr_main fuel n (8 / n) (bwWordMask n) bs hb.1 hb.2.1 hb.2.2 hlen hfuel, bwToStr]

example : Gen.Ssa3.bitword_bitWord_ToStr 17 2 4 3 [0, 1, 2, 3, 3, 2, 1, 0] = some [0x1b, 0xe4] := by decide +kernel
example : bwToStr 2 [0, 1, 2, 3, 3, 2, 1, 0] = [0x1b, 0xe4] := by decide +kernel
-- a partial last byte is padded with zero words
example : Gen.Ssa3.bitword_bitWord_ToStr 12 4 2 15 [1, 11, 7] = some [0x1b, 0x70] := by decide +kernel
example : bwToStr 4 [1, 11, 7] = [0x1b, 0x70] := by decide +kernel
-- width 8: `b << 8` is 0 on a byte
example : Gen.Ssa3.bitword_bitWord_ToStr 11 8 1 255 [0x1b, 7] = some [0x1b, 7] := by decide +kernel
-- out of fuel: the outer loop needs 3 iterations of gas
example : Gen.Ssa3.bitword_bitWord_ToStr 2 2 4 3 [0, 1, 2, 3, 3, 2, 1, 0] = none := by decide +kernel
-- out of fuel in the inner loop (needs 9 for n = 1)
example : Gen.Ssa3.bitword_bitWord_ToStr 8 1 8 1 [1, 0, 1] = none := by decide +kernel

end Low
