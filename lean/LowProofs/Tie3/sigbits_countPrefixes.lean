import LowProofs.Tie3.sigbits_countPrefixes_L
/-
  Tie: the definition regenerated from the SSA form of `sigbits.countPrefixes` equals the hand-written model
  `countPrefixes` (`LowModel/Sigbits.lean`).  Three loops in sequence: `min` over `firstdiffs`; the table
  `counts[d - min]++`; the prefix sums `rst[i+1] = rst[i] + counts[i]`.  The loop lemmas are in
  `sigbits_countPrefixes_L.lean` (`Low.CountPrefixesL`).
-/
namespace Low
open Low.GoSem Low.GoSem3 Low.TieL Low.Tie2L Low.Tie3L Low.CountPrefixesL

/-- `maxitem = m + 1 ≥ 1`: no panic -/
theorem countPrefixes_pos (fds : List Nat) (m : Nat) (fuel : Nat) (hfd : ∀ d ∈ fds, d < 2^31)
    (hn : fds.length + 1 < 2^31) (hm : m + 1 < 2^31) (hfuel : fds.length + 1 ≤ fuel ∧ m + 1 ≤ fuel) :
    Gen.Ssa3.sigbits_countPrefixes_loop1 fuel (fds.map Int.ofNat) ((m + 1 : Nat) : Int) (fds.length : Int) fuel
        2147483647 (-1)
      = some (((fds.foldl (fun mn d => if mn > d then d else mn) 0x7fffffff : Nat) : Int),
          ((countsOf (fds.foldl (fun mn d => if mn > d then d else mn) 0x7fffffff) m fds).foldl
            (fun (acc : List Nat × Nat) c => (acc.1 ++ [acc.2 + c], acc.2 + c)) ([1], 1)).1.map Int.ofNat) := by
  have hM : subI32 ((m + 1 : Nat) : Int) 1 = (m : Int) := subI32_ofNat (b := 1) (by omega) (by omega)
  have hmn : ∀ d ∈ fds, fds.foldl (fun mn d => if mn > d then d else mn) 0x7fffffff ≤ d :=
    foldl_min_le_mem fds _
  have e0 : (-1 : Int) = ((0 : Nat) : Int) - 1 := rfl
  have e1 : (2147483647 : Int) = ((0x7fffffff : Nat) : Int) := rfl
  have h1 := minLoop fuel fds ((m + 1 : Nat) : Int) (by omega) fds 0 fuel 0x7fffffff (by simp) (by omega) (by omega)
  rw [← e0, ← e1] at h1
  rw [h1, hM, makeSlice_ofNat, Option.bind_some]
  clear h1
  generalize fds.foldl (fun mn d => if mn > d then d else mn) 0x7fffffff = mn at hmn ⊢
  have hC : (countsOf mn m fds).length = m := countsOf_length _ _ _
  have h5 := countLoop fuel fds ((m + 1 : Nat) : Int) mn m hM hmn hfd (by omega) fds 0 fuel (by simp) (by omega) (by omega)
  rw [← e0, List.take_zero, countsOf_nil, List.map_replicate] at h5
  rw [show Int.ofNat 0 = (0 : Int) from rfl] at h5
  have es : setIdx (List.replicate (m + 1) (0 : Int)) 0 1 = some ((List.replicate (m + 1) (0 : Int)).set 0 1) :=
    setIdx_ofNat (i := 0) _ _ (by simp)
  rw [h5, makeSlice_ofNat, Option.bind_some, es]
  have h11 := prefixSumLoop fuel (fds.map Int.ofNat) ((m + 1 : Nat) : Int) (mn : Int) (countsOf mn m fds)
    (by rw [hM, hC]) (by omega) (countsOf mn m fds) fuel [] 1 (by simp) (by omega)
    (by have := countsOf_sum_le mn m fds; omega)
  rw [hC] at h11
  have eb : (List.replicate (m + 1) (0 : Int)).set 0 1 = ([] ++ [1]).map Int.ofNat ++ List.replicate m 0 := by
    simp [List.replicate_succ]
  exact h11

/-- Domain: `firstdiffs` = non-negative `int32` values (`FirstDiffBits` produces bit positions), fewer than
    `2^31 - 1` of them; `maxitem` any `int32`.  Fuel: every `fuel ≥ len(firstdiffs) + max(maxitem, 0) + 1`
    (what is used: `len(firstdiffs) + 1` iterations for each of the first two loops, `maxitem` for the third).
    `maxitem < 1`: both sides panic (`make` with a negative length; for `maxitem = -2^31` the first `make` gets the
    wrapped length `2^31 - 1` and succeeds, the second one, `make([]int32, maxitem)`, panics).
    FINDING (boundary): with exactly `2^31 - 1` elements (allowed by `len < 2^31`) the last sum
    `rst[maxitem-1]` can be `len + 1 = 2^31`, which wraps to `-2^31` in the Go `int32` but not in the model's `Nat`;
    hence `hn : fds.length + 1 < 2^31` rather than `fds.length < 2^31`.  (A `SigBits` over `int32` key indices
    never has that many first-diff entries: see `Tie_sigbits_SigBits_CountPrefixes`, where no such hypothesis is needed.) -/
theorem Tie_sigbits_countPrefixes (fds : List Nat) (maxitem : Int) (fuel : Nat) (hfd : ∀ d ∈ fds, d < 2^31)
    (hn : fds.length + 1 < 2^31) (hm : -2^31 ≤ maxitem ∧ maxitem < 2^31)
    (hfuel : fds.length + maxitem.toNat + 1 ≤ fuel) :
    Gen.Ssa3.sigbits_countPrefixes fuel (fds.map Int.ofNat) maxitem
      = (countPrefixes fds maxitem).map (fun r => ((r.1 : Int), r.2.map Int.ofNat)) := by
  rw [Gen.Ssa3.sigbits_countPrefixes, countPrefixes]
  by_cases h1 : maxitem < 1
  · rw [if_pos h1]
    apply minLoop_none
    intro t1
    by_cases h0 : maxitem = 0
    · subst h0
      rw [show subI32 0 1 = -1 from by decide]; rfl
    · have hneg : maxitem < 0 := by omega
      cases makeSlice (0 : Int) (subI32 maxitem 1) with
      | none => rfl
      | some t9 => exact countLoop_neg fuel _ maxitem t1 _ hneg fuel _ _
  · rw [if_neg h1]
    obtain ⟨m, rfl⟩ : ∃ m : Nat, maxitem = ((m + 1 : Nat) : Int) := ⟨(maxitem - 1).toNat, by omega⟩
    have := countPrefixes_pos fds m fuel hfd hn (by omega) (by omega)
    simp only [len_eq, List.length_map, Int.toNat_natCast, Nat.add_sub_cancel, Option.map_some]
    exact this

example : Gen.Ssa3.sigbits_countPrefixes 8 [5, 3, 4, 3] 4 = some (3, [1, 3, 4, 5]) := by decide +kernel
example : countPrefixes [5, 3, 4, 3] 4 = some (3, [1, 3, 4, 5]) := by decide +kernel
example : Gen.Ssa3.sigbits_countPrefixes 8 [5, 3, 9, 3] 3 = some (3, [1, 3, 3]) := by decide +kernel
-- maxitem = 0: make([]int32, -1) panics
example : Gen.Ssa3.sigbits_countPrefixes 8 [5, 3, 4, 3] 0 = none := by decide +kernel
-- out of fuel (the first loop needs len + 1 = 5 iterations)
example : Gen.Ssa3.sigbits_countPrefixes 4 [5, 3, 4, 3] 4 = none := by decide +kernel

end Low
