import Generated.Ssa3.sigbits_sFirstDiffBit
import LowProofs.Tie3.sigbits_get64Bits
import LowModel.Sigbits
/-
  Tie: the definition regenerated from the SSA form of `sigbits.sFirstDiffBit` (a read-only loop `i += 8` that calls
  `get64Bits` on the suffixes `a[i:]`, `b[i:]`) equals the hand-written model `sFirstDiffBit`.  The model's loop
  `sFirstDiffLoop` has its own fuel `len(a)/8 + 1`; `sFirstDiffBit_loop` relates the generated loop at `i = 8*j` with
  `gas` units of fuel to the model's loop at `i = 8*j` with `mf` units, by induction on `mf`
  (`len(a)/8 + 1 ≤ mf + j`: when the model's fuel is exhausted, `i ≥ len(a)` and the Go loop exits, too).
  `leadingZeros64` is unfolded with `rw [show leadingZeros64 … = … from rfl]`, which also rewrites the `Decidable`
  instance argument of `decide (t13 < 64)` (`simp only` does not, and `generalize lz … = first` then fails); the
  arithmetic after it is `sFirstDiffBit_step`.
-/
namespace Low
open Low.GoSem Low.TieL Low.Tie2L

/-- the part of the loop body after `first := bits.LeadingZeros64(au ^ bu)`; `k` = the next iteration -/
theorem sFirstDiffBit_step (j first minl : Nat) (k : Option Int) (hj : 8 * j < 2^28) (hm : minl < 2^31) (hfi : first ≤ 64) :
    (if decide (((first : Nat) : Int) < 64) = true then
      if decide (addI64 (shlI64 ((8 * j : Nat) : Int) 3) (first : Int) < (minl : Int)) = true then
        some (toI32 (addI64 (shlI64 ((8 * j : Nat) : Int) 3) (first : Int)))
      else some (toI32 (minl : Int))
    else k)
      = if first < 64 then some (((if 8 * j * 8 + first < minl then 8 * j * 8 + first else minl : Nat)) : Int) else k := by
  have em : toI32 (minl : Int) = (minl : Int) := toI32_ofNat_lt (by omega)
  have e2 : shlI64 ((8 * j : Nat) : Int) 3 = ((8 * j * 8 : Nat) : Int) := by
    rw [shlI64]
    have : ((8 * j : Nat) : Int) * 2 ^ 3 = ((8 * j * 8 : Nat) : Int) := by simp
    rw [this]; exact wrap64_ofNat (by omega)
  have e3 : addI64 ((8 * j * 8 : Nat) : Int) (first : Int) = ((8 * j * 8 + first : Nat) : Int) :=
    addI64_ofNat (by omega)
  rw [e2, e3, em]
  by_cases hf : first < 64
  · have hf' : ((first : Nat) : Int) < 64 := by omega
    simp only [hf, hf', decide_true, ↓reduceIte, Int.ofNat_lt]
    by_cases hlt : 8 * j * 8 + first < minl
    · simp only [hlt, decide_true, ↓reduceIte, toI32_ofNat_lt (by omega : 8 * j * 8 + first < 2147483648)]
    · simp only [hlt, decide_false, Bool.false_eq_true, ↓reduceIte]
  · have hf' : ¬ (((first : Nat) : Int) < 64) := by omega
    simp only [hf, hf', decide_false, Bool.false_eq_true, ↓reduceIte]

theorem sFirstDiffBit_loop (fuel : Nat) (a b : List Nat) (minl : Nat) (ha : ∀ x ∈ a, x < 256) (hb : ∀ x ∈ b, x < 256)
    (hla : a.length < 2^28) (hm : minl < 2^31) :
    ∀ (mf j gas : Nat), a.length / 8 + 1 ≤ mf + j → mf + 1 ≤ gas →
      Gen.Ssa3.sigbits_sFirstDiffBit_loop5 fuel a b (a.length : Int) (b.length : Int) (minl : Int) gas ((8 * j : Nat) : Int)
        = some ((sFirstDiffLoop a b minl mf (8 * j) : Nat) : Int)
  | 0, j, gas, hj, hg => by
    obtain ⟨g, rfl, hg'⟩ := gas_pos hg
    have hnl : ¬ (8 * j < a.length) := by omega
    rw [Gen.Ssa3.sigbits_sFirstDiffBit_loop5, sFirstDiffLoop]
    simp only [Int.ofNat_lt, hnl, decide_false, Bool.false_eq_true, ↓reduceIte,
      toI32_ofNat_lt (by omega : minl < 2147483648)]
  | mf + 1, j, gas, hj, hg => by
    obtain ⟨g, rfl, hg'⟩ := gas_pos hg
    have em : toI32 (minl : Int) = (minl : Int) := toI32_ofNat_lt (by omega)
    rw [Gen.Ssa3.sigbits_sFirstDiffBit_loop5, sFirstDiffLoop]
    by_cases h1 : 8 * j < a.length
    · by_cases h2 : 8 * j < b.length
      · have ih := sFirstDiffBit_loop fuel a b minl ha hb hla hm mf (j + 1) g (by omega) (by omega)
        have hga := Tie_sigbits_get64Bits (a.drop (8 * j)) (fun x hx => ha x (List.mem_of_mem_drop hx))
        have hgb := Tie_sigbits_get64Bits (b.drop (8 * j)) (fun x hx => hb x (List.mem_of_mem_drop hx))
        have e1 : addI64 ((8 * j : Nat) : Int) 8 = ((8 * (j + 1) : Nat) : Int) := by
          have := addI64_ofNat (a := 8 * j) (b := 8) (by omega)
          simpa [Nat.mul_add] using this
        simp only [len_eq, Int.ofNat_lt, h1, h2, decide_true, ↓reduceIte, and_self]
        rw [slice_from_ofNat a (Nat.le_of_lt h1), Option.bind_some, hga, Option.bind_some,
          slice_from_ofNat b (Nat.le_of_lt h2), Option.bind_some, hgb, Option.bind_some, e1, ih]
        generalize get64Bits (List.drop (8 * j) a) = au
        generalize get64Bits (List.drop (8 * j) b) = bu
        rw [show leadingZeros64 (xorU64 au bu) = ((lz (au ^^^ bu) 64 : Nat) : Int) from rfl,
          sFirstDiffBit_step j _ minl _ (by omega) hm (lz_le _ _), Nat.mul_add]
        by_cases hf : lz (au ^^^ bu) 64 < 64
        · simp only [hf, ↓reduceIte]
        · simp only [hf, ↓reduceIte]
      · simp only [Int.ofNat_lt, h1, h2, decide_true, decide_false, Bool.false_eq_true, ↓reduceIte, and_false, em]
    · simp only [Int.ofNat_lt, h1, decide_false, Bool.false_eq_true, ↓reduceIte, false_and, em]

/-- Domain: `a`, `b` byte strings (`BytesOK`) shorter than `2^28` bytes (so that `len*8` fits the `int32` result type).
    Fuel: every `fuel ≥ len(a)/8 + 2`.  The Go function cannot panic on this domain: the result is `some`. -/
theorem Tie_sigbits_sFirstDiffBit (a b : List Nat) (fuel : Nat) (ha : ∀ x ∈ a, x < 256) (hb : ∀ x ∈ b, x < 256)
    (hla : a.length < 2^28) (hlb : b.length < 2^28) (hfuel : a.length / 8 + 2 ≤ fuel) :
    Gen.Ssa3.sigbits_sFirstDiffBit fuel a b = some ((sFirstDiffBit a b : Nat) : Int) := by
  have ea : mulI64 (a.length : Int) 8 = ((a.length * 8 : Nat) : Int) := mulI64_ofNat (b := 8) (by omega)
  have eb : mulI64 (b.length : Int) 8 = ((b.length * 8 : Nat) : Int) := mulI64_ofNat (b := 8) (by omega)
  have hloop : ∀ (minl : Nat), minl < 2^31 →
      Gen.Ssa3.sigbits_sFirstDiffBit_loop5 fuel a b (a.length : Int) (b.length : Int) (minl : Int) fuel 0
        = some ((sFirstDiffLoop a b minl (a.length / 8 + 1) 0 : Nat) : Int) := fun minl hm =>
    sFirstDiffBit_loop fuel a b minl ha hb hla hm (a.length / 8 + 1) 0 fuel (by omega) (by omega)
  rw [Gen.Ssa3.sigbits_sFirstDiffBit, sFirstDiffBit]
  simp only [len_eq, ea, eb, gt_iff_lt, Int.ofNat_lt]
  by_cases h : b.length * 8 < a.length * 8
  · have hmin : min (a.length * 8) (b.length * 8) = b.length * 8 := by omega
    simp only [h, decide_true, ↓reduceIte, hmin]
    exact hloop (b.length * 8) (by omega)
  · have hmin : min (a.length * 8) (b.length * 8) = a.length * 8 := by omega
    simp only [h, decide_false, Bool.false_eq_true, ↓reduceIte, hmin]
    exact hloop (a.length * 8) (by omega)

example : Gen.Ssa3.sigbits_sFirstDiffBit 3 [1, 2, 3] [1, 2, 7, 9] = some 21 := by decide +kernel
example : sFirstDiffBit [1, 2, 3] [1, 2, 7, 9] = 21 := by decide +kernel
example : Gen.Ssa3.sigbits_sFirstDiffBit 3 [1, 2, 3, 4, 5, 6, 7, 8, 9] [1, 2, 3, 4, 5, 6, 7, 8, 9, 10] = some 72 := by decide +kernel
example : Gen.Ssa3.sigbits_sFirstDiffBit 2 [1, 2, 3, 4, 5, 6, 7, 8, 9] [1, 2, 3, 4, 5, 6, 7, 8, 9] = none := by decide +kernel

end Low
