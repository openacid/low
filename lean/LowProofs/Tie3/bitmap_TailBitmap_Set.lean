import Generated.Ssa3.bitmap_TailBitmap_Set
import LowProofs.Tie3.bitmap_TailBitmap_Compact
import LowModel.Bitmap.Tail
/-
  Tie: the definition regenerated from the SSA form of `(*bitmap.TailBitmap).Set` equals the hand-written model
  `TailBitmap.set`.  The receiver fields `Offset`, `Words`, `reclaimed` are passed as arguments and are loop
  parameters of the generated loop `bitmap_TailBitmap_Set_loop5` (`for int(wordIdx) >= len(tb.Words) { tb.Words =
  append(tb.Words, 0) }`); the code after the loop (`tb.Words[wordIdx] |= Bit[idx&63]`, then `tb.Compact()` if
  `wordIdx == 0`) is inside the loop definition; the call of `Compact` is a call of the generated
  `bitmap_TailBitmap_Compact` with the current field values, tied to the model by `Tie_bitmap_TailBitmap_Compact`.
-/
namespace Low
open Low.GoSem Low.TieL Low.Tie2L Low.Tie3L

/-- what the code after the growing loop computes from the grown `Words` (`ws1`) -/
def setExit (fuel : Nat) (thr : Int) (k : Nat) (o : Int) (ws1 : List Nat) (rc : Int) : Option (Int × List Nat × Int) :=
  let ws3 := ws1.set (k / 64) (ws1.getD (k / 64) 0 ||| bit (k % 64))
  if k / 64 = 0 then Gen.Ssa3.bitmap_TailBitmap_Compact fuel o ws3 rc thr else some (o, ws3, rc)

theorem Set_loop (fuel : Nat) (o0 : Int) (ws0 : List Nat) (rc0 idx thr : Int) (k : Nat) (o rc : Int)
    (hk : k < 9223372036854775808) (ws : List Nat) (gas : Nat) (hg : k / 64 + 1 - ws.length + 1 ≤ gas) :
    Gen.Ssa3.bitmap_TailBitmap_Set_loop5 fuel o0 ws0 rc0 idx thr (k : Int) ((k / 64 : Nat) : Int) gas o ws rc
      = setExit fuel thr k o (ws ++ zeros (k / 64 + 1 - ws.length)) rc := by
  have e1 : toI64 ((k / 64 : Nat) : Int) = ((k / 64 : Nat) : Int) := toI64_ofNat_lt (by omega)
  rw [grow_loop
    (fun gas ws => Gen.Ssa3.bitmap_TailBitmap_Set_loop5 fuel o0 ws0 rc0 idx thr (k : Int) ((k / 64 : Nat) : Int) gas o ws rc)
    _ (fun n => decide (toI64 ((k / 64 : Nat) : Int) ≥ n)) (fun gas ws => by rw [Gen.Ssa3.bitmap_TailBitmap_Set_loop5])
    (k / 64 + 1 - ws.length) gas ws (fun m hm => by rw [e1]; exact decide_eq_true (by omega))
    (by rw [e1]; exact decide_eq_false (by omega)) hg]
  have hlt : k / 64 < (ws ++ zeros (k / 64 + 1 - ws.length)).length := by
    rw [List.length_append, zeros, List.length_replicate]; omega
  generalize ws ++ zeros (k / 64 + 1 - ws.length) = ws1 at hlt
  have hz : decide (((k / 64 : Nat) : Int) = 0) = decide (k / 64 = 0) := by simp only [Int.natCast_eq_zero]
  simp only [setExit, andI64_63_ofNat, tblBit_ofNat (Nat.mod_lt k (by omega : 0 < 64)), Option.bind_some,
    index_getD ws1 hlt, orU64_eq, setIdx_ofNat ws1 _ hlt, hz]
  by_cases h : k / 64 = 0
  · simp only [h, decide_true, ↓reduceIte]
    cases Gen.Ssa3.bitmap_TailBitmap_Compact fuel o (ws1.set 0 (ws1.getD 0 0 ||| bit (k % 64))) rc thr <;> rfl
  · simp only [h, decide_false, Bool.false_eq_true, ↓reduceIte]

/-- Domain: `tb.Offset` is an int64 and `idx - tb.Offset` fits an int64 (no wrap; it is `≥ 0` where it is computed).
    The remaining hypotheses are those of `Tie_bitmap_TailBitmap_Compact` for the receiver after the bit is set, and
    are used only when `idx` falls into the first word (then `Compact` is called, with at least one word):
    `Offset + 64 * max(len(Words), 1) < 2^63` (`tb.Offset += 64` does not wrap) and `tb.Offset - tb.reclaimed` fits an
    int64 for the initial and every possible final `Offset`.  `thr` (`reclaimThreshold`) is arbitrary.
    Fuel: every `fuel ≥ (number of words appended) + len(Words) + 2`.  The Go method cannot panic on this domain. -/
theorem Tie_bitmap_TailBitmap_Set (tb : TailBitmap) (thr idx : Int) (fuel : Nat)
    (ho1 : -9223372036854775808 ≤ tb.offset)
    (hidx : idx - tb.offset < 9223372036854775808)
    (ho2 : tb.offset + 64 * ((max tb.words.length 1 : Nat) : Int) < 9223372036854775808)
    (hr1 : -9223372036854775808 ≤ tb.offset - tb.reclaimed)
    (hr2 : tb.offset + 64 * ((max tb.words.length 1 : Nat) : Int) - tb.reclaimed < 9223372036854775808)
    (hfuel : ((idx - tb.offset).toNat / 64 + 1 - tb.words.length) + tb.words.length + 2 ≤ fuel) :
    Gen.Ssa3.bitmap_TailBitmap_Set fuel tb.offset tb.words tb.reclaimed idx thr
      = some (let r := tb.set thr idx; (r.offset, r.words, r.reclaimed)) := by
  rw [Gen.Ssa3.bitmap_TailBitmap_Set, TailBitmap.set]
  by_cases hlt : idx < tb.offset
  · simp only [hlt, decide_true, ↓reduceIte]
  · obtain ⟨k, hk⟩ : ∃ k : Nat, idx - tb.offset = (k : Int) := ⟨(idx - tb.offset).toNat, by omega⟩
    have hs : subI64 idx tb.offset = (k : Int) := by rw [subI64_id (by omega) hidx, hk]
    simp only [hk, Int.toNat_natCast] at hfuel
    simp only [hlt, decide_false, Bool.false_eq_true, ↓reduceIte, hs, hk, Int.toNat_natCast, shrI64_6_ofNat]
    rw [Set_loop fuel tb.offset tb.words tb.reclaimed idx thr k tb.offset tb.reclaimed (by omega) tb.words fuel
      (by omega), setExit]
    by_cases h : k / 64 = 0
    · have hlen : (tb.words ++ zeros (0 + 1 - tb.words.length)).length = max tb.words.length 1 := by
        simp [zeros]; omega
      simp only [h, ↓reduceIte]
      rw [Tie_bitmap_TailBitmap_Compact
        (TailBitmap.mk tb.offset ((tb.words ++ zeros (0 + 1 - tb.words.length)).set 0
            ((tb.words ++ zeros (0 + 1 - tb.words.length)).getD 0 0 ||| bit (k % 64))) tb.reclaimed) thr fuel ho1
        (by simp only [List.length_set, hlen]; exact ho2) hr1
        (by simp only [List.length_set, hlen]; exact hr2)
        (by simp only [List.length_set, hlen]; omega)]
    · simp only [h, ↓reduceIte]

example : Gen.Ssa3.bitmap_TailBitmap_Set 5 64 [5] 0 200 65536 = some (64, [5, 0, 256], 0) := by decide +kernel
example : (TailBitmap.mk 64 [5] 0).set 65536 200 = TailBitmap.mk 64 [5, 0, 256] 0 := by decide +kernel
example : Gen.Ssa3.bitmap_TailBitmap_Set 4 64 [0xfffffffffffffffe, 0xffffffffffffffff] 0 64 100
    = some (192, [], 192) := by decide +kernel
example : Gen.Ssa3.bitmap_TailBitmap_Set 4 64 [5] 0 3 100 = some (64, [5], 0) := by decide +kernel
example : Gen.Ssa3.bitmap_TailBitmap_Set 2 64 [5] 0 200 65536 = none := by decide +kernel

end Low
