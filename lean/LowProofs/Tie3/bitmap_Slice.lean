import Generated.Ssa3.bitmap_Slice
import LowProofs.Tie3.Lemmas
import LowModel.Bitmap.Of
/-
  Tie: the definition regenerated from the SSA form of `bitmap.Slice` (a loop over the bit positions `from .. to-1`
  that reads `words` and ORs bits into a slice the function allocates with `make`) equals the hand-written model
  `bmSlice`.  The generated loop `bitmap_Slice_loop3` carries the position `i` (int32) and the CONTENTS of the
  allocated slice `r`; the model's `sliceLoop` recurses over the list `List.range' i k` of the remaining positions
  with the same buffer.  `Slice_loop` relates the two for an arbitrary buffer `r` (no invariant on the buffer is
  needed: a store beyond the buffer panics in Go and gives `none` in `orBit`, a read beyond `words` panics in Go and
  gives `none` in `sliceLoop`).
-/
namespace Low
open Low.GoSem Low.TieL Low.Tie2L Low.Tie3L

/-- at position `i` with `k = to - i` positions to go, any result buffer `r`; fuel `k + 1` -/
theorem Slice_loop (fuel : Nat) (ws : List Nat) (frm to : Nat) (hto : to < 2^31) :
    ∀ (k i gas : Nat) (r : List Nat), i + k = to → frm ≤ i → k + 1 ≤ gas →
      Gen.Ssa3.bitmap_Slice_loop3 fuel ws (frm : Int) (to : Int) gas (i : Int) r
        = sliceLoop ws frm (List.range' i k) r
  | 0, i, gas, r, hik, hfi, hg => by
    obtain ⟨g, rfl, hg'⟩ := gas_pos hg
    have hi : i = to := by omega
    subst hi
    rw [Gen.Ssa3.bitmap_Slice_loop3]
    simp only [Int.lt_irrefl, decide_false, Bool.false_eq_true, ↓reduceIte, List.range'_zero, sliceLoop]
  | k + 1, i, gas, r, hik, hfi, hg => by
    obtain ⟨g, rfl, hg'⟩ := gas_pos hg
    have hil : i < to := by omega
    have hil' : ((i : Int) < (to : Int)) := Int.ofNat_lt.mpr hil
    have hm : i % 64 < 64 := Nat.mod_lt _ (by omega)
    have e1 : addI32 (i : Int) 1 = ((i + 1 : Nat) : Int) := addI32_ofNat (b := 1) (by omega)
    have e2 : subI32 (i : Int) (frm : Int) = ((i - frm : Nat) : Int) := subI32_ofNat hfi (by omega)
    have e3 : toU64 ((i % 64 : Nat) : Int) = i % 64 := toU64_ofNat_lt (by omega)
    have hn : ¬ (((i - frm : Nat) : Int) < 0) := by omega
    have ih := fun r' => Slice_loop fuel ws frm to hto k (i + 1) g r' (by omega) (by omega) hg'
    rw [Gen.Ssa3.bitmap_Slice_loop3, List.range'_succ, sliceLoop]
    simp only [hil', decide_true, ↓reduceIte, e1, e2, orBit_step, hn, Int.toNat_natCast, ih]
    simp only [shrI32_6_ofNat, andI32_63_ofNat, index_ofNat, e3]
    cases ws[i / 64]? with
    | none => rfl
    | some w =>
      simp only [Option.bind_some, decide_and_shl64_ne_zero w hm]
      cases w.testBit (i % 64) with
      | false => rfl
      | true => cases orBit r (i - frm) <;> rfl

/-- Domain: `0 ≤ from ≤ to < 2^31` (int32 values) with `to - from + 63 < 2^31` (the word count
    `((to - from) + 63) >> 6` is computed in int32: beyond this bound the addition wraps to a negative number and
    `make` panics, while the model computes in `Nat`; `to < 2^31 - 63` is a simple sufficient condition).  No
    hypothesis on `words`: a position beyond the words panics in Go (index out of range) and gives `none` in the
    model.  Fuel: every `fuel ≥ to - from + 1`. -/
theorem Tie_bitmap_Slice (ws : List Nat) (frm to fuel : Nat) (hft : frm ≤ to) (hto : to < 2^31)
    (hlen : to - frm + 63 < 2^31) (hfuel : to - frm + 1 ≤ fuel) :
    Gen.Ssa3.bitmap_Slice fuel ws (frm : Int) (to : Int) = bmSlice ws frm to := by
  have e0 : subI32 (to : Int) (frm : Int) = ((to - frm : Nat) : Int) := subI32_ofNat hft (by omega)
  have e1 : addI32 ((to - frm : Nat) : Int) 63 = ((to - frm + 63 : Nat) : Int) := addI32_ofNat (b := 63) (by omega)
  rw [Gen.Ssa3.bitmap_Slice]
  simp only [e0, e1, shrI32_6_ofNat, makeSlice_ofNat, Option.bind_some]
  rw [Slice_loop fuel ws frm to hto (to - frm) frm fuel _ (by omega) (by omega) (by omega)]
  rfl

/-- the same under the simple bound `to < 2^31 - 63` -/
theorem Tie_bitmap_Slice' (ws : List Nat) (frm to fuel : Nat) (hft : frm ≤ to) (hto : to < 2^31 - 63)
    (hfuel : to - frm + 1 ≤ fuel) :
    Gen.Ssa3.bitmap_Slice fuel ws (frm : Int) (to : Int) = bmSlice ws frm to :=
  Tie_bitmap_Slice ws frm to fuel hft (by omega) (by omega) hfuel

theorem Slice_sliceLoop_none (ws : List Nat) (frm : Nat) :
    ∀ (is r : List Nat), (∃ i ∈ is, ws.length ≤ i / 64) → sliceLoop ws frm is r = none
  | [], r, h => by obtain ⟨i, hi, _⟩ := h; simp at hi
  | i :: is, r, h => by
    rw [sliceLoop]
    cases hw : ws[i / 64]? with
    | none => rfl
    | some w =>
      have hlt : i / 64 < ws.length := (List.getElem?_eq_some_iff.mp hw).1
      have h' : ∃ j ∈ is, ws.length ≤ j / 64 := by
        obtain ⟨j, hj, hjl⟩ := h
        rcases List.mem_cons.mp hj with rfl | hj
        · omega
        · exact ⟨j, hj, hjl⟩
      simp only
      split
      · cases orBit r (i - frm) with
        | none => rfl
        | some r' => exact Slice_sliceLoop_none ws frm is r' h'
      · exact Slice_sliceLoop_none ws frm is r h'

/-- The bound `to - from + 63 < 2^31` replaced by the bitmap domain `len(words) < 2^25` (`BmDom`): when the int32
    word count wraps (`to - from + 63 ≥ 2^31`, so `to - 1 ≥ 64 * (2^25 - 1)`), `make` panics in Go, and the model
    fails as well because position `to - 1` lies beyond the words.  So on all int32 `0 ≤ from ≤ to` and all bitmaps
    of the domain the generated code and the model agree. -/
theorem Tie_bitmap_Slice_dom (ws : List Nat) (frm to fuel : Nat) (hft : frm ≤ to) (hto : to < 2^31)
    (hws : ws.length < 2^25) (hfuel : to - frm + 1 ≤ fuel) :
    Gen.Ssa3.bitmap_Slice fuel ws (frm : Int) (to : Int) = bmSlice ws frm to := by
  by_cases hlen : to - frm + 63 < 2^31
  · exact Tie_bitmap_Slice ws frm to fuel hft hto hlen hfuel
  · have e0 : subI32 (to : Int) (frm : Int) = ((to - frm : Nat) : Int) := subI32_ofNat hft (by omega)
    have e1 : addI32 ((to - frm : Nat) : Int) 63 < 0 := by
      rw [addI32]; unfold wrap32; simp only [M32]; omega
    have e2 : shrI32 (addI32 ((to - frm : Nat) : Int) 63) 6 < 0 := by rw [shrI32_6]; omega
    rw [Gen.Ssa3.bitmap_Slice, bmSlice]
    simp only [e0, makeSlice_neg _ e2, Option.bind_none]
    rw [Slice_sliceLoop_none]
    refine ⟨to - 1, ?_, by omega⟩
    rw [List.mem_range'_1]; omega

example : Gen.Ssa3.bitmap_Slice 10 [0xf0f0, 0xff] 3 12 = some [0x1e] := by decide +kernel
example : bmSlice [0xf0f0, 0xff] 3 12 = some [0x1e] := by decide +kernel
example : Gen.Ssa3.bitmap_Slice 80 [0xf0f0, 0xff] 60 128 = some [0xff0, 0] := by decide +kernel
-- beyond the words: index out of range
example : Gen.Ssa3.bitmap_Slice 80 [0xf0f0, 0xff] 60 129 = none := by decide +kernel
example : bmSlice [0xf0f0, 0xff] 60 129 = none := by decide +kernel
example : Gen.Ssa3.bitmap_Slice 9 [0xf0f0, 0xff] 3 12 = none := by decide +kernel

end Low
