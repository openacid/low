import Generated.Ssa3.bmtree_Decode
import LowProofs.Tie2.bmtree_PathToIndex
import LowProofs.Tie3.bmtree_AllPaths
import LowProofs.Tie.BmtreeDecode
import LowModel.Bmtree.Index
/-
  Tie: the definition regenerated from the SSA form of `bmtree.Decode` (a `range` loop over the result of
  `AllPaths(bitmapSize, 0, 1<<63)` that appends to a slice the function allocates) equals the hand-written model
  `decode`.

  The calls are replaced by their ties: `AllPaths` (`Tie_bmtree_AllPaths'`, this directory) and `PathToIndex`
  (`Tie_bmtree_PathToIndex`, `LowProofs/Tie2`); the rest is `TieBm.decode_body` (`LowProofs/Tie/BmtreeDecode.lean`),
  which takes the facts about the MODEL that the loop needs from the property proofs C03 / C04 (`TieBm.paths_facts`) and
  relates the generated index loop to the model's `List.filter` (`TieBm.decode_loop`, `LowProofs/Tie/Bmtree.lean`).
-/
namespace Low
open Low.GoSem Low.TieBm

/-- Domain:
    * `1 ≤ t < 2^31`: `bitmapSize` a positive `int32` (the domain of `AllPaths` and `PathToIndex`, both panic for
      `bitmapSize = 0`);
    * `bm.length < 2^31`: `int32(len(bm))` is `len(bm)`; beyond that the Go conversion wraps while the model compares
      the exact length.  No hypothesis on the words of `bm`, nor on its length relative to `t` (a short, even empty,
      bitmap reads as zeros: the guard `int32(len(bm)) > wordI`).
    Fuel: every `fuel ≥ t + 32`: `AllPaths` needs `2^height + 32 ≤ t + 32`, the `range` loop visits the
    `len(paths) = t` stored paths (`t + 1`), every `PathToIndex` call needs `33`.
    `bm[wordI]` with a NEGATIVE `wordI` would panic in Go (the guard is only `int32(len(bm)) > wordI`) where the
    model's conjunct `wordI ≥ 0 &&` says "skip": this difference is not reachable, because every path that `AllPaths`
    produces on this domain is the path word of a stored node and its index is `preIdx ≥ 0` (C03, C04); no extra
    hypothesis is needed.  On this domain the Go function neither panics nor diverges. -/
theorem Tie_bmtree_Decode (t : Nat) (bm : List Nat) (fuel : Nat) (ht : 1 ≤ t) (ht' : t < 2^31)
    (hbm : bm.length < 2^31) (hfuel : t + 32 ≤ fuel) :
    Gen.Ssa3.bmtree_Decode fuel (t : Int) bm = some (decode t bm) := by
  obtain ⟨h, hh, _, hlo, _⟩ := height_nat30 ht ht'
  rw [Gen.Ssa3.bmtree_Decode, show (9223372036854775808 : Nat) = 2^63 by decide]
  exact decode_body t bm fuel (Gen.Ssa3.bmtree_AllPaths fuel (t : Int) 0 (2^63)) (Gen.Ssa2.bmtree_PathToIndex fuel (t : Int)) (fun paths => Gen.Ssa3.bmtree_Decode_loop1 fuel (t : Int) bm paths (len paths))
    ht ht' hbm (by omega)
    (Tie_bmtree_AllPaths' t 0 (2^63) fuel ht ht' (by decide) (by decide) (by rw [hh, Int.toNat_natCast]; omega))
    (fun _ _ _ _ => rfl) (fun p hp64 _ => Tie_bmtree_PathToIndex t p fuel ht ht' hp64 (by omega))

private theorem run1 : Gen.Ssa3.bmtree_Decode 40 5 [0b10101] = some [0, 0x100000003, 0x300000003] := by decide +kernel
example : Gen.Ssa3.bmtree_Decode 40 5 [0b10101] = some [0, 0x100000003, 0x300000003] := run1
example : decode 5 [0b10101] = [0, 0x100000003, 0x300000003] :=
  Option.some.inj ((Tie_bmtree_Decode 5 [0b10101] 40 (by decide +kernel) (by decide +kernel) (by decide +kernel) (by decide +kernel)).symm.trans run1)
-- an empty bitmap reads as zeros; garbage beyond bit `t` is never consulted
example : Gen.Ssa3.bmtree_Decode 40 5 [] = some [] := by decide +kernel
example : Gen.Ssa3.bmtree_Decode 40 5 [0xffffffffffffffe0 + 0b10101, 0xffff] = some [0, 0x100000003, 0x300000003] := by
  decide +kernel
-- out of fuel
example : Gen.Ssa3.bmtree_Decode 4 5 [0b10101] = none := by decide +kernel
-- `bitmapSize = 0` panics (inside `AllPaths`)
example : Gen.Ssa3.bmtree_Decode 40 0 [0b10101] = none := by decide +kernel

end Low
