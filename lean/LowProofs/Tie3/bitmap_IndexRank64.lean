import Generated.Ssa3.bitmap_IndexRank64
import LowProofs.Tie3.Lemmas
import LowModel.Bitmap.Rank
/-
  Tie: the definition regenerated from the SSA form of `bitmap.IndexRank64` (a loop that fills a slice the function
  allocates with `make`) equals the hand-written model `indexRank64`.  The generated loop `bitmap_IndexRank64_loop7`
  carries the counter `n`, the index `i` and the CONTENTS of the allocated slice (`t8_b7`, a hidden parameter: the
  memory of `idx` is live across the loop); every `idx[i] = n` is a functional update `GoSem3.setIdx`.  The model
  recurses over the suffix `words.drop i` and conses; `IndexRank64_loop` relates the two: the first `i` elements of
  the buffer are final, the rest is overwritten by what the model produces for the suffix.
-/
namespace Low
open Low.GoSem Low.GoSem3 Low.TieL Low.Tie2L Low.Tie3L

/-- `rest = words[i:]`, running count `n ≤ 64*i`; the first `i` entries of `buf` are final, the rest is overwritten;
    fuel `len(rest) + 1` -/
theorem IndexRank64_loop (fuel : Nat) (ws : List Nat) (opts : List Bool) (t : Bool) (hlen : ws.length < 2^25) :
    ∀ (rest : List Nat) (i gas n : Nat) (buf : List Int), rest = ws.drop i → i ≤ ws.length → rest.length + 1 ≤ gas →
      n ≤ 64 * i → buf.length = ws.length + (if t then 1 else 0) →
      Gen.Ssa3.bitmap_IndexRank64_loop7 fuel ws opts t gas (n : Int) (i : Int) buf
        = some (buf.take i ++ (indexRank64Go t rest n).map Int.ofNat)
  | [], i, gas, n, buf, hr, hi, hg, hn, hb => by
    obtain ⟨g, rfl, _⟩ := gas_pos hg
    have hil : i = ws.length := Nat.le_antisymm hi (drop_eq_nil_le hr)
    subst hil
    rw [Gen.Ssa3.bitmap_IndexRank64_loop7, indexRank64Go]
    simp only [len_eq, Int.lt_irrefl, decide_false, Bool.false_eq_true, ↓reduceIte]
    cases t with
    | false =>
      simp only [Bool.false_eq_true, ↓reduceIte, Nat.add_zero] at hb ⊢
      simp [← hb]
    | true =>
      simp only [↓reduceIte] at hb ⊢
      have hlt : ws.length < buf.length := hb ▸ Nat.lt_succ_self _
      rw [setIdx_ofNat _ _ hlt]
      simp only [Option.bind_some, List.map_cons, List.map_nil]
      have h1 := take_set_succ buf ws.length (n : Int) hlt
      rw [List.take_of_length_le (by rw [List.length_set, hb]; exact Nat.le_refl _)] at h1
      rw [h1]; rfl
  | w :: r, i, gas, n, buf, hr, hi, hg, hn, hb => by
    obtain ⟨g, rfl, hg'⟩ := gas_pos hg
    have hil : i < ws.length := drop_eq_cons_lt hr
    have hib : i < buf.length := hb ▸ Nat.lt_of_lt_of_le hil (Nat.le_add_right _ _)
    have hw : ws[i]? = some w := getElem?_of_drop_eq_cons hr
    obtain ⟨e1, hn'⟩ := addI32_popc64 w hn hil hlen
    have ih := IndexRank64_loop fuel ws opts t hlen r (i + 1) g (n + popc w 64) (buf.set i (n : Int))
      (drop_succ_of_drop_eq_cons hr) hil hg' hn' ((List.length_set ..).trans hb)
    rw [Gen.Ssa3.bitmap_IndexRank64_loop7, indexRank64Go]
    simp only [len_eq, Int.ofNat_lt, hil, decide_true, ↓reduceIte, setIdx_ofNat buf (n : Int) hib, Option.bind_some,
      index_ofNat, hw, e1, addI64_one_ofNat (a := i) (by omega), ih, take_set_succ buf i (n : Int) hib]
    simp

theorem IndexRank64_main (ws : List Nat) (opts : List Bool) (fuel : Nat) (hlen : ws.length < 2^25)
    (hfuel : ws.length + 1 ≤ fuel) (t : Bool) :
    (makeSlice (0 : Int) (if t = true then addI64 (len ws) 1 else len ws)).bind (fun buf =>
      Gen.Ssa3.bitmap_IndexRank64_loop7 fuel ws opts t fuel 0 0 buf)
      = some ((indexRank64 ws t).map Int.ofNat) := by
  have e : (if t = true then addI64 (len ws) 1 else len ws) = ((ws.length + (if t then 1 else 0) : Nat) : Int) := by
    cases t with
    | false => simp [len_eq]
    | true => simp only [len_eq, ↓reduceIte]; exact addI64_one_ofNat (by omega)
  rw [e, makeSlice_ofNat, Option.bind_some]
  have := IndexRank64_loop fuel ws opts t hlen ws 0 fuel 0 _ (by simp) (by omega) (by omega) (by omega)
    (List.length_replicate (n := ws.length + (if t then 1 else 0)) (a := (0 : Int)))
  simpa [indexRank64] using this

/-- Domain: `words` with fewer than `2^25` words (`BmDom`; the running count then fits an `int32`); no hypothesis on
    the words; `opts` any list (only `opts[0]` is read, absent = `false`).  Fuel: every `fuel ≥ len(words) + 1`.
    The Go function cannot panic on this domain: the result is `some`. -/
theorem Tie_bitmap_IndexRank64 (ws : List Nat) (opts : List Bool) (fuel : Nat) (hlen : ws.length < 2^25)
    (hfuel : ws.length + 1 ≤ fuel) :
    Gen.Ssa3.bitmap_IndexRank64 fuel ws opts = some ((indexRank64 ws (opts.headD false)).map Int.ofNat) := by
  rw [Gen.Ssa3.bitmap_IndexRank64]
  cases opts with
  | nil =>
    simp only [List.headD_nil]
    rw [← IndexRank64_main ws [] fuel hlen hfuel false]
    simp [len_eq]
  | cons b rest =>
    have hpos : ((rest.length + 1 : Nat) : Int) > 0 := by omega
    have hidx : index (b :: rest) 0 = some b := by unfold index; simp
    simp only [len_eq, List.length_cons, hpos, decide_true, ↓reduceIte, hidx, Option.bind_some, List.headD_cons]
    rw [← IndexRank64_main ws (b :: rest) fuel hlen hfuel b]
    cases b <;> simp [len_eq]

example : Gen.Ssa3.bitmap_IndexRank64 4 [3, 5, 0xff] [true] = some [0, 2, 4, 12] := by decide +kernel
example : indexRank64 [3, 5, 0xff] true = [0, 2, 4, 12] := by decide +kernel
example : Gen.Ssa3.bitmap_IndexRank64 4 [3, 5, 0xff] [] = some [0, 2, 4] := by decide +kernel
example : Gen.Ssa3.bitmap_IndexRank64 3 [3, 5, 0xff] [] = none := by decide +kernel

end Low
