import Generated.Ssa3.sigbits_FirstDiffBits
import LowProofs.Tie3.sigbits_sFirstDiffBit
import LowModel.Sigbits
/-
  Tie: the definition regenerated from the SSA form of `sigbits.FirstDiffBits` (a loop `ds[i] = sFirstDiffBit(keys[i],
  keys[i+1])` that fills a slice allocated with `make([]int32, len(keys)-1)`) equals the hand-written model
  `firstDiffBits` (`zipWith sFirstDiffBit keys keys.tail`; `none` for no keys: `make` with length -1 panics).
  The generated loop `sigbits_FirstDiffBits_loop3` carries the index `i` and the CONTENTS of the allocated slice;
  `FirstDiffBits_loop` (induction on the suffix `keys.drop (i+1)`): the first `i` elements of the buffer are final, the
  rest is overwritten by what the model produces for the suffix.
  The binds are resolved with `rw [Option.bind_some]`, not `simp only` (PROOF_NOTES.md, kernel deep recursion).
-/
namespace Low
open Low.GoSem Low.TieL Low.Tie2L Low.Tie3L

/-- `rest = keys[i+1:]`; the first `i` entries of `buf` are final; fuel `len(rest) + 1` for this loop, `fuel` for the
    calls of `sFirstDiffBit` -/
theorem FirstDiffBits_loop (fuel : Nat) (keys : List (List Nat)) (hbytes : ∀ k ∈ keys, ∀ x ∈ k, x < 256)
    (hlen : ∀ k ∈ keys, k.length < 2^28) (hf2 : ∀ k ∈ keys, k.length / 8 + 2 ≤ fuel) (hn : keys.length < 2^63) :
    ∀ (rest : List (List Nat)) (i gas : Nat) (buf : List Int), rest = keys.drop (i + 1) → i + 1 ≤ keys.length →
      rest.length + 1 ≤ gas → buf.length = keys.length - 1 →
      Gen.Ssa3.sigbits_FirstDiffBits_loop3 fuel keys (keys.length : Int) gas (i : Int) buf
        = some (buf.take i ++ (List.zipWith sFirstDiffBit (keys.drop i) rest).map Int.ofNat)
  | [], i, gas, buf, hr, hi, hg, hb => by
    obtain ⟨g, rfl, hg'⟩ := gas_pos hg
    have hil : keys.length ≤ i + 1 := drop_eq_nil_le hr
    have e0 : subI64 (keys.length : Int) 1 = ((keys.length - 1 : Nat) : Int) := subI64_ofNat (b := 1) (by omega) (by omega)
    have hnl : ¬ (i < keys.length - 1) := by omega
    rw [Gen.Ssa3.sigbits_FirstDiffBits_loop3]
    simp only [e0, Int.ofNat_lt, hnl, decide_false, Bool.false_eq_true, ↓reduceIte, List.zipWith_nil_right, List.map_nil,
      List.append_nil]
    rw [List.take_of_length_le (by omega)]
  | k2 :: r, i, gas, buf, hr, hi, hg, hb => by
    obtain ⟨g, rfl, hg'⟩ := gas_pos hg
    have hil : i + 1 < keys.length := drop_eq_cons_lt hr
    have hi' : i < keys.length := by omega
    have hk2 : keys[i + 1]? = some k2 := getElem?_of_drop_eq_cons hr
    have hk1 : keys[i]? = some keys[i] := List.getElem?_eq_getElem hi'
    have hd : keys.drop i = keys[i] :: (k2 :: r) := by rw [hr]; exact List.drop_eq_getElem_cons hi'
    have hm1 : keys[i] ∈ keys := List.getElem_mem hi'
    have hm2 : k2 ∈ keys := List.mem_of_getElem? hk2
    have e0 : subI64 (keys.length : Int) 1 = ((keys.length - 1 : Nat) : Int) := subI64_ofNat (b := 1) (by omega) (by omega)
    have e1 : addI64 (i : Int) 1 = ((i + 1 : Nat) : Int) := addI64_one_ofNat (by omega)
    have hlt : i < keys.length - 1 := by omega
    have hs := Tie_sigbits_sFirstDiffBit keys[i] k2 fuel (hbytes _ hm1) (hbytes _ hm2) (hlen _ hm1) (hlen _ hm2) (hf2 _ hm1)
    have ih := FirstDiffBits_loop fuel keys hbytes hlen hf2 hn r (i + 1) g
      (buf.set i ((sFirstDiffBit keys[i] k2 : Nat) : Int))
      (drop_succ_of_drop_eq_cons hr) (by omega) hg' (by simpa using hb)
    rw [← hr] at ih
    rw [Gen.Ssa3.sigbits_FirstDiffBits_loop3]
    simp only [e0, Int.ofNat_lt, hlt, decide_true, ↓reduceIte, index_ofNat, hk1]
    rw [Option.bind_some]
    simp only [e1, index_ofNat, hk2]
    rw [Option.bind_some, hs, Option.bind_some, setIdx_ofNat buf _ (by omega : i < buf.length), Option.bind_some, ih,
      take_set_succ buf i _ (by omega : i < buf.length), hd, List.zipWith_cons_cons, List.map_cons]
    simp

/-- Domain: `keys` byte strings (`BytesOK`), each shorter than `2^28` bytes (the domain of `sFirstDiffBit`: `len*8` fits
    the `int32` element type); `len(keys) < 2^63` (a Go slice length is an `int`; the hypothesis is needed because the
    generated code computes `len(keys) - 1` with wrap-around on 64 bits).
    Fuel: every `fuel` with `len(keys) ≤ fuel` (the outer loop: `len(keys) - 1` iterations plus the final test) and
    `len(k)/8 + 2 ≤ fuel` for every key `k` (the loop of `sFirstDiffBit`).
    For `keys = []` the Go function panics (`make([]int32, -1)`): both sides are `none`. -/
theorem Tie_sigbits_FirstDiffBits (keys : List (List Nat)) (fuel : Nat) (hbytes : ∀ k ∈ keys, ∀ x ∈ k, x < 256)
    (hlen : ∀ k ∈ keys, k.length < 2^28) (hn : keys.length < 2^63) (hfuel1 : keys.length ≤ fuel)
    (hfuel2 : ∀ k ∈ keys, k.length / 8 + 2 ≤ fuel) :
    Gen.Ssa3.sigbits_FirstDiffBits fuel keys = (firstDiffBits keys).map (fun l => l.map Int.ofNat) := by
  rw [Gen.Ssa3.sigbits_FirstDiffBits]
  cases hk : keys with
  | nil =>
    have e0 : subI64 (len ([] : List (List Nat))) 1 = -1 := by decide
    simp only [e0, makeSlice_neg (0 : Int) (by omega : (-1 : Int) < 0), firstDiffBits, Option.bind_none, Option.map_none]
  | cons k ks =>
    rw [← hk]
    have hl : keys.length = ks.length + 1 := by rw [hk]; rfl
    have e0 : subI64 (keys.length : Int) 1 = ((keys.length - 1 : Nat) : Int) := subI64_ofNat (b := 1) (by omega) (by omega)
    have hloop := FirstDiffBits_loop fuel keys hbytes hlen hfuel2 hn (keys.drop 1) 0 fuel
      (List.replicate (keys.length - 1) (0 : Int)) rfl (by omega) (by simp only [List.length_drop]; omega)
      List.length_replicate
    simp only [len_eq, e0, makeSlice_ofNat, Option.bind_some]
    rw [show ((0 : Nat) : Int) = 0 from rfl] at hloop
    rw [hloop, hk]
    simp [firstDiffBits]

example : Gen.Ssa3.sigbits_FirstDiffBits 3 [[1, 2, 3], [1, 2, 7, 9], [1, 2, 7, 9, 0]] = some [21, 32] := by decide +kernel
example : firstDiffBits [[1, 2, 3], [1, 2, 7, 9], [1, 2, 7, 9, 0]] = some [21, 32] := by decide +kernel
example : Gen.Ssa3.sigbits_FirstDiffBits 5 [] = none := by decide +kernel
example : Gen.Ssa3.sigbits_FirstDiffBits 5 [[7]] = some [] := by decide +kernel
example : Gen.Ssa3.sigbits_FirstDiffBits 2 [[1, 2, 3], [1, 2, 7, 9], [1, 2, 7, 9, 0]] = none := by decide +kernel

end Low
