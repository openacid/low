import Generated.Ssa3.bitmap_TailBitmap_Get1
import LowProofs.Tie3.bitmap_TailBitmap_Get_L
import LowModel.Bitmap.Tail
/-
  Tie: the definition regenerated from the SSA form of `(*bitmap.TailBitmap).Get1` (loop-free; the receiver fields
  `Offset`, `Words`, `reclaimed` are passed as arguments) equals the hand-written model `TailBitmap.get1`.
-/
namespace Low
open Low.GoSem Low.TieL Low.TailL

/-- Domain: `idx` and `tb.Offset` are int64 values, and the bit indices of `Words` fit an int64
    (`64 * len(Words) < 2^63`).  No hypothesis excludes a panic: an `idx` beyond the stored words gives `none` on
    both sides; this includes the case where `idx - Offset` wraps (Go: negative word index; model: a word index
    `≥ 2^57`, beyond every admissible `Words`).  (Only `idx < 2^63` and `-2^63 ≤ Offset` are used.) -/
theorem Tie_bitmap_TailBitmap_Get1 (tb : TailBitmap) (idx : Int)
    (hi1 : -9223372036854775808 ≤ idx) (hi2 : idx < 9223372036854775808)
    (ho1 : -9223372036854775808 ≤ tb.offset) (ho2 : tb.offset < 9223372036854775808)
    (hlen : 64 * tb.words.length < 9223372036854775808) :
    Gen.Ssa3.bitmap_TailBitmap_Get1 tb.offset tb.words tb.reclaimed idx = tb.get1 idx := by
  rw [Gen.Ssa3.bitmap_TailBitmap_Get1, TailBitmap.get1]
  by_cases hlt : idx < tb.offset
  · simp only [hlt, decide_true, ↓reduceIte]
  · simp only [hlt, decide_false, Bool.false_eq_true, ↓reduceIte]
    exact tail_word tb.offset idx tb.words hi2 ho1 hlen hlt
      (fun w j => some (andU64 (shrU64 w (toU64 j)) 1)) (fun w j => (w >>> j) % 2) fun w j hj => by
      simp only [toU64_ofNat_lt (Nat.lt_trans hj (by omega)), shrU64_lt _ hj, andU64_eq, and_1]

example : Gen.Ssa3.bitmap_TailBitmap_Get1 128 [5, 0] 0 130 = some 1 := by decide +kernel
example : Gen.Ssa3.bitmap_TailBitmap_Get1 128 [5, 0] 0 129 = some 0 := by decide +kernel
example : Gen.Ssa3.bitmap_TailBitmap_Get1 128 [5, 0] 0 67 = some 1 := by decide +kernel
example : Gen.Ssa3.bitmap_TailBitmap_Get1 128 [5, 0] 0 256 = none := by decide +kernel
example : (TailBitmap.mk 128 [5, 0] 0).get1 130 = some 1 := by decide +kernel

end Low
