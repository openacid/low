import Generated.Ssa3.bitmap_TailBitmap_Compact
import LowProofs.Tie3.bitmap_TailBitmap_Get_L
import LowModel.Bitmap.Tail
/-
  Tie: the definition regenerated from the SSA form of `(*bitmap.TailBitmap).Compact` equals the hand-written model
  `TailBitmap.compact`.  The receiver fields `Offset`, `Words`, `reclaimed` are passed as arguments and are loop
  parameters of the generated loop `bitmap_TailBitmap_Compact_loop3` (`for len(tb.Words) > 0 && tb.Words[0] ==
  allOnes { tb.Offset += 64; tb.Words = tb.Words[1:] }`); the code after the loop (`blk2`, the reclamation test) is
  local to the loop definition.  The model recurses over the word list (`dropOnes`).
-/
namespace Low
open Low.GoSem Low.GoSem3 Low.Tie2L Low.Tie3L Low.TailL

/-- the code after the loop: `if tb.Offset-tb.reclaimed >= reclaimThreshold { … make, copy (dropped) …;
    tb.reclaimed = tb.Offset }` -/
theorem Compact_tail (thr o rc : Int) (ws : List Nat)
    (h1 : -9223372036854775808 ≤ o - rc) (h2 : o - rc < 9223372036854775808)
    (hl : 2 * ws.length < 9223372036854775808) :
    (if decide (subI64 o rc ≥ thr) = true then
        (makeSliceCap (0 : Nat) (ws.length : Int) (mulI64 (ws.length : Int) 2)).bind
          (fun (_ : List Nat) => some (o, ws, o))
      else some (o, ws, rc))
      = some (o, ws, if o - rc ≥ thr then o else rc) := by
  rw [subI64_id h1 h2, mulI64_two_ofNat hl, makeSliceCap_ofNat _ (by omega)]
  by_cases h : o - rc ≥ thr <;> simp [h]

theorem Compact_loop (fuel : Nat) (o0 : Int) (ws0 : List Nat) (rc0 thr rc : Int) :
    ∀ (ws : List Nat) (gas : Nat) (o : Int), ws.length + 1 ≤ gas →
      -9223372036854775808 ≤ o → o + 64 * (ws.length : Int) < 9223372036854775808 →
      -9223372036854775808 ≤ o - rc → o + 64 * (ws.length : Int) - rc < 9223372036854775808 →
      Gen.Ssa3.bitmap_TailBitmap_Compact_loop3 fuel o0 ws0 rc0 thr gas o ws rc
        = some ((dropOnes ws o).2, (dropOnes ws o).1,
            if (dropOnes ws o).2 - rc ≥ thr then (dropOnes ws o).2 else rc)
  | [], gas, o, hg, ho1, ho2, hr1, hr2 => by
    obtain ⟨g, rfl, hg'⟩ := gas_pos hg
    have hpos : ¬ ((0 : Int) < (([] : List Nat).length : Int)) := by simp
    rw [Gen.Ssa3.bitmap_TailBitmap_Compact_loop3, dropOnes]
    simp only [len_eq, gt_iff_lt, hpos, decide_false, Bool.false_eq_true, ↓reduceIte]
    rw [Compact_tail thr o rc [] (by omega) (by simp at hr2; omega) (by simp)]
  | w :: r, gas, o, hg, ho1, ho2, hr1, hr2 => by
    obtain ⟨g, rfl, hg'⟩ := gas_pos hg
    have hpos : (0 : Int) < ((w :: r).length : Int) := by simp only [List.length_cons]; omega
    have hidx : index (w :: r) 0 = some w := by unfold index; simp
    simp only [List.length_cons, Int.natCast_add, Int.natCast_one] at ho2 hr2 hg
    rw [Gen.Ssa3.bitmap_TailBitmap_Compact_loop3, dropOnes]
    simp only [len_eq, gt_iff_lt, hpos, decide_true, ↓reduceIte, hidx, Option.bind_some, allOnes64_eq]
    have hsl : GoSem2.slice (w :: r) 1 (((w :: r).length : Nat) : Int) = some r := by
      unfold GoSem2.slice; simp; omega
    by_cases hw : w = 18446744073709551615
    · have hd : decide (w = 18446744073709551615) = true := by simp [hw]
      have ih := Compact_loop fuel o0 ws0 rc0 thr rc r g (o + 64) (by omega) (by omega) (by omega) (by omega) (by omega)
      simp only [hd, if_pos hw, ↓reduceIte, hsl, Option.bind_some, addI64_id (a := o) (b := 64) (by omega) (by omega), ih]
    · have hd : decide (w = 18446744073709551615) = false := by simp [hw]
      simp only [hd, if_neg hw, Bool.false_eq_true, ↓reduceIte]
      rw [Compact_tail thr o rc (w :: r) (by omega) (by omega) (by simp only [List.length_cons]; omega)]

/-- Domain: `tb.Offset` is an int64 and so is the bit index after the last word (`Offset + 64 * len(Words) < 2^63`:
    `tb.Offset += 64` does not wrap); the difference `tb.Offset - tb.reclaimed` fits an int64 for the initial and
    for every possible final `Offset` (the model computes it in unbounded integers; it holds whenever
    `0 ≤ reclaimed ≤ Offset`, or `reclaimed = 0`).  `thr` (the package variable `reclaimThreshold`) is arbitrary.
    Fuel: every `fuel ≥ len(Words) + 1`.  The Go method cannot panic on this domain: the result is `some`; the slice
    `newWords` the Go code allocates and fills is never stored, so only `reclaimed` changes, as in the model. -/
theorem Tie_bitmap_TailBitmap_Compact (tb : TailBitmap) (thr : Int) (fuel : Nat)
    (ho1 : -9223372036854775808 ≤ tb.offset)
    (ho2 : tb.offset + 64 * (tb.words.length : Int) < 9223372036854775808)
    (hr1 : -9223372036854775808 ≤ tb.offset - tb.reclaimed)
    (hr2 : tb.offset + 64 * (tb.words.length : Int) - tb.reclaimed < 9223372036854775808)
    (hfuel : tb.words.length + 1 ≤ fuel) :
    Gen.Ssa3.bitmap_TailBitmap_Compact fuel tb.offset tb.words tb.reclaimed thr
      = some (let r := tb.compact thr; (r.offset, r.words, r.reclaimed)) := by
  rw [Gen.Ssa3.bitmap_TailBitmap_Compact]
  simp only []
  rw [Compact_loop fuel tb.offset tb.words tb.reclaimed thr tb.reclaimed tb.words fuel tb.offset hfuel ho1 ho2 hr1 hr2]
  simp [TailBitmap.compact]

example : Gen.Ssa3.bitmap_TailBitmap_Compact 3 0 [0xffffffffffffffff, 0xffffffffffffffff] 0 100
    = some (128, [], 128) := by decide +kernel
example : Gen.Ssa3.bitmap_TailBitmap_Compact 4 64 [0xffffffffffffffff, 5, 0xffffffffffffffff] 0 65536
    = some (128, [5, 0xffffffffffffffff], 0) := by decide +kernel
example : (TailBitmap.mk 64 [0xffffffffffffffff, 5, 0xffffffffffffffff] 0).compact 65536
    = TailBitmap.mk 128 [5, 0xffffffffffffffff] 0 := by decide +kernel
example : Gen.Ssa3.bitmap_TailBitmap_Compact 2 0 [0xffffffffffffffff, 0xffffffffffffffff] 0 100 = none := by decide +kernel

end Low
