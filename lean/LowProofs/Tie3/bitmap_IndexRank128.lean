import Generated.Ssa3.bitmap_IndexRank128
import LowProofs.Tie3.Lemmas
import LowModel.Bitmap.Rank
/-
  Tie: the definition regenerated from the SSA form of `bitmap.IndexRank128` equals the hand-written model
  `indexRank128`.  The generated loop `bitmap_IndexRank128_loop3` carries the CONTENTS of `idx` (`t17`; the loop
  appends `n` at the end in every iteration), the counter `n` (`t18`, an int32) and the word index `i` (`t19`), which
  advances by 2; the second word `words[i+1]` of a pair is read only if `i < len(words)-1`.  The exit block of the loop
  (append one more entry iff `len(words) & 1 == 0`, then the clone `append(idx[:0:0], idx...)`) is part of the loop
  definition.  The model recurses over the suffix `words.drop i` two words at a time and conses;
  `IndexRank128_loop` relates the two, generically in the accumulated contents `acc` of `idx`.
-/
namespace Low
open Low.GoSem Low.TieL Low.Tie2L Low.Tie3L

/-- the exit path of the loop: `i ≥ len(words)`; one more entry iff the word count is even; then the clone -/
theorem IndexRank128_exit (fuel : Nat) (ws : List Nat) (g i : Nat) (n : Int) (acc : List Int)
    (hi : ws.length ≤ i) :
    Gen.Ssa3.bitmap_IndexRank128_loop3 fuel ws (g + 1) acc n (i : Int)
      = some (acc ++ (if ws.length % 2 = 0 then [n] else [])) := by
  have hlt : ¬ (i < ws.length) := by omega
  have e : andI64 (ws.length : Int) 1 = ((ws.length % 2 : Nat) : Int) := by rw [andI64_1]; omega
  rw [Gen.Ssa3.bitmap_IndexRank128_loop3]
  simp only [len_eq, Int.ofNat_lt, hlt, decide_false, Bool.false_eq_true, ↓reduceIte, e,
    setIdx_newArray_one, Option.bind_some, List.nil_append]
  have : ws.length % 2 = 0 ∨ ws.length % 2 = 1 := by omega
  rcases this with h | h <;> simp [h]

/-- Loop invariant: `i` even, `i ≤ len(words)`, `rest = words[i:]`, the running count `n ≤ 64*i` (fits an int32),
    `acc` = the contents of `idx` so far (arbitrary).  Gas: exactly the number of loop-header visits,
    `⌈len(rest)/2⌉ + 1`. -/
theorem IndexRank128_loop (fuel : Nat) (ws : List Nat) (hlen : ws.length < 2^25) :
    ∀ (rest : List Nat) (i gas n : Nat) (acc : List Int), rest = ws.drop i → i % 2 = 0 → i ≤ ws.length →
      (rest.length + 1) / 2 + 1 ≤ gas → n ≤ 64 * i →
      Gen.Ssa3.bitmap_IndexRank128_loop3 fuel ws gas acc (n : Int) (i : Int)
        = some (acc ++ (indexRank128Go rest n).map Int.ofNat)
  | [], i, gas, n, acc, hr, hpar, hi, hg, hn => by
    obtain ⟨g, rfl, _⟩ := gas_pos hg
    have hil : i = ws.length := Nat.le_antisymm hi (drop_eq_nil_le hr)
    subst hil
    rw [IndexRank128_exit fuel ws g ws.length _ acc (Nat.le_refl _), indexRank128Go]
    simp [hpar]
  | w0 :: rest, i, gas, n, acc, hr, hpar, hi, hg, hn => by
    obtain ⟨g, rfl, hg'⟩ := gas_pos hg
    have hil : i < ws.length := drop_eq_cons_lt hr
    have hw0 : ws[i]? = some w0 := getElem?_of_drop_eq_cons hr
    have hr1 : rest = ws.drop (i + 1) := drop_succ_of_drop_eq_cons hr
    have h63 : ws.length ≤ 9223372036854775807 := by omega
    have esub := subI64_one_of_pos (Nat.lt_of_le_of_lt (Nat.zero_le i) hil) h63
    have e2 : addI64 (i : Int) 2 = ((i + 2 : Nat) : Int) := addI64_ofNat (b := 2) (by omega)
    obtain ⟨ea, hn0⟩ := addI32_popc64 w0 hn hil hlen
    rw [Gen.Ssa3.bitmap_IndexRank128_loop3]
    cases rest with
    | nil =>
      -- the last word of an odd number of words: `i + 1 = len`, no second word, then the exit
      simp only [List.length_cons, List.length_nil, Nat.reduceAdd, Nat.reduceDiv] at hg'
      obtain ⟨g, rfl, _⟩ := gas_pos (n := 0) hg'
      have hle : ws.length ≤ i + 1 := drop_eq_nil_le hr1
      have hodd : ws.length % 2 = 1 := by omega
      have hnlt : ¬ (i < ws.length - 1) := Nat.not_lt.2 (Nat.sub_le_of_le_add hle)
      have hex := fun (m : Int) (a : List Int) =>
        IndexRank128_exit fuel ws g (i + 2) m a (Nat.le_trans hle (Nat.le_succ _))
      rw [indexRank128Go]
      simp only [len_eq, Int.ofNat_lt, hil, decide_true, ↓reduceIte, setIdx_newArray_one, Option.bind_some,
        index_ofNat, hw0, esub, hnlt, decide_false, Bool.false_eq_true, e2, ea, hex, hodd]
      simp
    | cons w1 r =>
      have hil1 : i + 1 < ws.length := drop_eq_cons_lt hr1
      have hw1 : ws[i + 1]? = some w1 := getElem?_of_drop_eq_cons hr1
      obtain ⟨eb, hn1⟩ := addI32_popc64 w1 hn0 hil1 hlen
      have ih := IndexRank128_loop fuel ws hlen r (i + 2) g (n + popc w0 64 + popc w1 64) (acc ++ [(n : Int)])
        (drop_succ_of_drop_eq_cons hr1) (by omega) hil1 (by simp only [List.length_cons] at hg'; omega) hn1
      rw [indexRank128Go]
      simp only [len_eq, Int.ofNat_lt, hil, decide_true, ↓reduceIte, setIdx_newArray_one, Option.bind_some,
        index_ofNat, hw0, esub, Nat.lt_sub_of_add_lt hil1, addI64_one_ofNat (a := i) (by omega), hw1, ea, eb, e2, ih]
      simp

/-- The tie with the exact fuel bound: `⌈len(words)/2⌉ + 1` visits of the loop header. -/
theorem Tie_bitmap_IndexRank128_tight (ws : List Nat) (fuel : Nat) (hlen : ws.length < 2^25)
    (hfuel : (ws.length + 1) / 2 + 1 ≤ fuel) :
    Gen.Ssa3.bitmap_IndexRank128 fuel ws = some ((indexRank128 ws).map Int.ofNat) := by
  have h := IndexRank128_loop fuel ws hlen ws 0 fuel 0 [] (by simp) (by omega) (by omega) hfuel (by omega)
  exact h

/-- Domain: `words` with fewer than `2^25` words (`BmDom`; the running count then fits an `int32`); no hypothesis on
    the words.  Fuel: every `fuel ≥ len(words) + 1` (in fact `⌈len(words)/2⌉ + 1` suffices, see `_tight`).
    The Go function cannot panic on this domain: the result is `some`. -/
theorem Tie_bitmap_IndexRank128 (ws : List Nat) (fuel : Nat) (hlen : ws.length < 2^25)
    (hfuel : ws.length + 1 ≤ fuel) :
    Gen.Ssa3.bitmap_IndexRank128 fuel ws = some ((indexRank128 ws).map Int.ofNat) :=
  Tie_bitmap_IndexRank128_tight ws fuel hlen (by omega)

example : Gen.Ssa3.bitmap_IndexRank128 4 [3, 5, 0xff] = some [0, 4] := by decide +kernel
example : indexRank128 [3, 5, 0xff] = [0, 4] := by decide +kernel
example : Gen.Ssa3.bitmap_IndexRank128 5 [3, 5, 0xff, 1] = some [0, 4, 13] := by decide +kernel
example : indexRank128 [3, 5, 0xff, 1] = [0, 4, 13] := by decide +kernel
example : Gen.Ssa3.bitmap_IndexRank128 1 [] = some [0] := by decide +kernel
-- out of fuel: 3 words need 3 visits of the loop header, 4 words need 3
example : Gen.Ssa3.bitmap_IndexRank128 2 [3, 5, 0xff] = none := by decide +kernel
example : Gen.Ssa3.bitmap_IndexRank128 2 [3, 5, 0xff, 1] = none := by decide +kernel
example : Gen.Ssa3.bitmap_IndexRank128 3 [3, 5, 0xff, 1] = some [0, 4, 13] := by decide +kernel

end Low
