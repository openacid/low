import Generated.Ssa3.sigbits_SigBits_CountPrefixes
import LowProofs.Tie3.sigbits_countPrefixes
/-
  Tie: the definition regenerated from the SSA form of `(*sigbits.SigBits).CountPrefixes` (loop-free wrapper:
  `countPrefixes(sb.sigbits[keyStart:keyEnd-1], maxitem)`) equals the model `sbCountPrefixes`.  The receiver fields
  arrive as the arguments `sb_keys` (not read by this method) and `sb_sigbits`; the struct invariant
  `sb.sigbits = FirstDiffBits(sb.keys)` is the hypothesis `hsig`.
-/
namespace Low
open Low.GoSem Low.TieL Low.Tie2L

/-- the tuple is taken apart and rebuilt after the call -/
theorem bind_pair_eta {α β : Type} (x : Option (α × β)) : (x.bind fun t => some (t.1, t.2)) = x := by
  cases x <;> rfl

/-- Domain: `sig = FirstDiffBits(keys)` (the invariant of a `SigBits` built by `New`), its elements non-negative
    `int32` values; `keyStart = s ≥ 0` (any natural number), `keyEnd = e` with `0 ≤ e < 2^31`; `maxitem` any `int32`.
    Fuel: every `fuel ≥ keyEnd + max(maxitem, 0)`.
    Panics on both sides (`none`): `keyEnd = 0` (slice bound -1), `keyStart > keyEnd-1`, `keyEnd-1 > len(sigbits)`,
    `maxitem < 1`.  No hypothesis on the length of `sig` is needed: the slice has at most `keyEnd - 1 < 2^31 - 1`
    elements, so the sums of `countPrefixes` cannot wrap. -/
theorem Tie_sigbits_SigBits_CountPrefixes (keys : List (List Nat)) (sig : List Nat) (s e : Nat) (maxitem : Int)
    (fuel : Nat) (hsig : firstDiffBits keys = some sig) (he : e < 2^31) (hfd : ∀ d ∈ sig, d < 2^31)
    (hm : -2^31 ≤ maxitem ∧ maxitem < 2^31) (hfuel : e + maxitem.toNat ≤ fuel) :
    Gen.Ssa3.sigbits_SigBits_CountPrefixes fuel keys (sig.map Int.ofNat) (s : Int) (e : Int) maxitem
      = (sbCountPrefixes keys s e maxitem).map (fun r => ((r.1 : Int), r.2.map Int.ofNat)) := by
  rw [Gen.Ssa3.sigbits_SigBits_CountPrefixes, sbCountPrefixes, hsig]
  simp only []
  by_cases h0 : e = 0
  · subst h0
    rw [show subI32 ((0 : Nat) : Int) 1 = -1 from by decide, slice_neg _ _ (by omega)]
    simp
  · have e1 : subI32 (e : Int) 1 = ((e - 1 : Nat) : Int) := subI32_ofNat (b := 1) (by omega) (by omega)
    rw [e1]
    by_cases hr : e = 0 ∨ s > e - 1 ∨ e - 1 > sig.length
    · rw [if_pos hr, slice_none _ (by rw [List.length_map]; omega)]
      rfl
    · rw [if_neg hr, slice_ofNat _ (by omega) (by rw [List.length_map]; omega), ← List.map_drop, ← List.map_take,
        Option.bind_some, bind_pair_eta]
      have hl : ((sig.drop s).take (e - 1 - s)).length ≤ e - 1 - s := by
        rw [List.length_take]; exact Nat.min_le_left _ _
      exact Tie_sigbits_countPrefixes _ maxitem fuel
        (fun d hd => hfd d (List.mem_of_mem_drop (List.mem_of_mem_take hd))) (by omega) hm (by omega)

example : firstDiffBits [[0x61], [0x62], [0x63, 0x64]] = some [6, 7] := by decide +kernel
example : Gen.Ssa3.sigbits_SigBits_CountPrefixes 8 [[0x61], [0x62], [0x63, 0x64]] [6, 7] 0 3 4
    = some (6, [1, 2, 3, 3]) := by decide +kernel
example : sbCountPrefixes [[0x61], [0x62], [0x63, 0x64]] 0 3 4 = some (6, [1, 2, 3, 3]) := by decide +kernel
-- keyEnd - 1 > len(sigbits): slice bounds out of range
example : Gen.Ssa3.sigbits_SigBits_CountPrefixes 8 [[0x61], [0x62], [0x63, 0x64]] [6, 7] 0 4 4 = none := by decide +kernel
example : Gen.Ssa3.sigbits_SigBits_CountPrefixes 2 [[0x61], [0x62], [0x63, 0x64]] [6, 7] 0 3 4 = none := by decide +kernel

end Low
