import Generated.Ssa3.bitmap_IndexSelect32R64
import LowProofs.Tie3.bitmap_IndexSelect32_L
import LowProofs.Tie3.bitmap_IndexRank64
import LowModel.Bitmap.Select
/-
  Tie: the definition regenerated from the SSA form of `bitmap.IndexSelect32R64` equals the hand-written model
  `indexSelect32R64`.  The Go function repeats the loop of `IndexSelect32` (its own generated loop definition
  `bitmap_IndexSelect32R64_loop3`: same body, but the exit branch goes on with the clone of `sidx` and the call
  `IndexRank64(words, true)`): the loop is `SelIdxL.selIdx_loop` again, and the exit branch is closed with the
  finished tie `Tie_bitmap_IndexRank64`.
-/
namespace Low
open Low.GoSem Low.GoSem3 Low.Tie2L Low.Tie3L Low.SelIdxL

/-- Domain: `words` with fewer than `2^25` words (`BmDom`; every position and the running count then fit an `int32`);
    no hypothesis on the words.  Fuel: every `fuel ≥ 64 * len(words) + 1` (one iteration per bit position of the
    select loop; the called `IndexRank64` needs only `len(words) + 1`).  The Go function cannot panic on this domain:
    the result is `some`. -/
theorem Tie_bitmap_IndexSelect32R64 (ws : List Nat) (fuel : Nat) (hlen : ws.length < 2^25)
    (hfuel : 64 * ws.length + 1 ≤ fuel) :
    Gen.Ssa3.bitmap_IndexSelect32R64 fuel ws
      = some (((indexSelect32R64 ws).1.map Int.ofNat), ((indexSelect32R64 ws).2.map Int.ofNat)) := by
  have e : shlI64 (ws.length : Int) 6 = ((ws.length * 64 : Nat) : Int) := shlI64_6_ofNat (by omega)
  have hr := Tie_bitmap_IndexRank64 ws [true] fuel hlen (by omega)
  have h := selIdx_loop ws hlen (Gen.Ssa3.bitmap_IndexSelect32R64_loop3 fuel ws ((ws.length * 64 : Nat) : Int))
    (fun t18 => (setIdx (newArray false 1) 0 true).bind fun t16 =>
      (Gen.Ssa3.bitmap_IndexRank64 fuel ws t16).bind fun t17 => some ([] ++ t18, t17))
    (fun gas t14 t15 t16 => by rw [Gen.Ssa3.bitmap_IndexSelect32R64_loop3])
    (ws.length * 64) 0 fuel 0 [] (by omega) (by omega) (by omega)
  -- `rw`, not `simp only` (PROOF_NOTES.md, kernel deep recursion)
  rw [setIdx_newArray_one, Option.bind_some, hr] at h
  rw [Gen.Ssa3.bitmap_IndexSelect32R64]
  simp only [len_eq, e, makeSliceCap_zero, Option.bind_some]
  rw [indexSelect32R64, indexSelect32, List.range_eq_range']
  exact h

example : Gen.Ssa3.bitmap_IndexSelect32R64 65 [0xffffffffffffffff] = some ([0, 32], [0, 64]) := by decide +kernel
example : indexSelect32R64 [0xffffffffffffffff] = ([0, 32], [0, 64]) := by decide +kernel
set_option maxRecDepth 4000 in
example : Gen.Ssa3.bitmap_IndexSelect32R64 129 [0xffffffff, 5] = some ([0, 64], [0, 32, 34]) := by decide +kernel
example : Gen.Ssa3.bitmap_IndexSelect32R64 64 [0xffffffffffffffff] = none := by decide +kernel

end Low
