import LowProofs.Tie3.Lemmas
import LowModel.Bitmap.Select
/-
  `selIdx_loop`: the loop over all bit positions that `bitmap.IndexSelect32` and `bitmap.IndexSelect32R64` share
  (bit test `words[i>>6] & (1 << uint(i&63)) != 0` = `bitAt ws i`, every 32nd set bit recorded), for any `L` with the
  step equation of the generated loop.
-/
namespace Low.SelIdxL
open Low.GoSem Low.GoSem3 Low.TieL Low.Tie2L Low.Tie3L

theorem getElem?_word (ws : List Nat) {i : Nat} (hi : i < ws.length * 64) :
    ws[i / 64]? = some (ws.getD (i / 64) 0) := by
  have h : i / 64 < ws.length := by omega
  rw [List.getD_eq_getElem?_getD, List.getElem?_eq_getElem h]; rfl

theorem toU64_mod64 (n : Nat) : toU64 ((n % 64 : Nat) : Int) = n % 64 :=
  toU64_ofNat_lt (by omega)

/-- The select-index loop of `IndexSelect32` / `IndexSelect32R64`, for any `L` with the one-step equation of the
    generated loop and any code `E` after it: `acc` = the index built so far, `cnt - 1` = the Go counter `ith` (it starts
    at -1 and is incremented before the test `ith&31 == 0`), `i` = the bit position, `k` positions to go. -/
theorem selIdx_loop {β : Type} (ws : List Nat) (hlen : ws.length < 2^25)
    (L : Nat → List Int → Int → Int → Option β) (E : List Int → Option β)
    (hL : ∀ gas t14 t15 t16, L (gas + 1) t14 t15 t16 =
      if decide (t16 < ((ws.length * 64 : Nat) : Int)) = true then
        Option.bind (index ws (shrI64 t16 6)) fun t5 =>
          if decide (andU64 t5 (shlU64 1 (toU64 (andI64 t16 63))) ≠ 0) = true then
            if decide (andI64 (addI64 t15 1) 31 = 0) = true then
              Option.bind (setIdx (newArray (0 : Int) 1) 0 (toI32 t16)) fun a =>
                L gas (t14 ++ a) (addI64 t15 1) (addI64 t16 1)
            else L gas t14 (addI64 t15 1) (addI64 t16 1)
          else L gas t14 t15 (addI64 t16 1)
      else E t14) :
    ∀ (k i gas cnt : Nat) (acc : List Int), i + k = ws.length * 64 → k + 1 ≤ gas → cnt ≤ i →
      L gas acc ((cnt : Int) - 1) (i : Int) = E (acc ++ (selIdxGo ws (List.range' i k) cnt).map Int.ofNat)
  | 0, i, gas, cnt, acc, hik, hg, hc => by
    obtain ⟨g, rfl, _⟩ := gas_pos hg
    rw [hL, ← hik, Nat.add_zero]
    simp only [Int.lt_irrefl, decide_false, Bool.false_eq_true, ↓reduceIte, List.range'_zero, selIdxGo,
      List.map_nil, List.append_nil]
  | k + 1, i, gas, cnt, acc, hik, hg, hc => by
    obtain ⟨g, rfl, hg'⟩ := gas_pos hg
    have hil : i < ws.length * 64 := by omega
    have hik' : i + 1 + k = ws.length * 64 := by omega
    have hw := getElem?_word ws hil
    have e1 : addI64 (i : Int) 1 = ((i + 1 : Nat) : Int) := addI64_one_ofNat (by omega)
    have e3 : addI64 ((cnt : Int) - 1) 1 = (cnt : Int) := addI64_pred_one (by omega)
    have e5 : toI32 (i : Int) = (i : Int) := toI32_ofNat_lt (by omega)
    have hb : decide (andU64 (ws.getD (i / 64) 0) (shlU64 1 (i % 64)) ≠ 0) = bitAt ws i := by
      rw [decide_and_shl64_ne_zero _ (Nat.mod_lt _ (by omega)), bitAt]
    rw [hL, List.range'_succ, selIdxGo]
    simp only [Int.ofNat_lt.2 hil, decide_true, ↓reduceIte, shrI64_6_ofNat, index_ofNat, hw, Option.bind_some, e1, andI64_63_ofNat,
      toU64_mod64, hb]
    cases hbit : bitAt ws i with
    | false =>
      exact selIdx_loop ws hlen L E hL k (i + 1) g cnt acc hik' hg' (Nat.le_succ_of_le hc)
    | true =>
      have ih0 := selIdx_loop ws hlen L E hL k (i + 1) g (cnt + 1)
      have ec : ((cnt + 1 : Nat) : Int) - 1 = (cnt : Int) := by omega
      rw [ec] at ih0
      simp only [↓reduceIte, e3, andI64_31_ofNat, Int.natCast_eq_zero]
      by_cases hc32 : cnt % 32 = 0
      · have ih := ih0 (acc ++ [(i : Int)]) hik' hg' (Nat.succ_le_succ hc)
        simp only [hc32, decide_true, ↓reduceIte, e5, setIdx_newArray_one, Option.bind_some, ih, List.map_cons,
          List.append_assoc, List.singleton_append, Int.ofNat_eq_natCast]
      · have ih := ih0 acc hik' hg' (Nat.succ_le_succ hc)
        simp only [hc32, decide_false, Bool.false_eq_true, ↓reduceIte, ih]

end Low.SelIdxL
