import Generated.Ssa3.bitmap_Builder_Extend
import LowProofs.Tie3.Lemmas
import LowModel.Bitmap.Of
/-
  Tie: the definition regenerated from the SSA form of the method `(*bitmap.Builder).Extend` equals the hand-written
  model `Builder.extend`.  The receiver fields `Words`, `Offset` are arguments of the generated definition and the
  final values of both follow as its result.  Two loops in sequence:
  * `bitmap_Builder_Extend_loop5`: `for int(end) > len(b.Words)<<6 { b.Words = append(b.Words, 0) }` (model `growTo`);
    `Tie3L.grow_loop`: from `ws` it reaches `ws ++ zeros k` and enters
  * `bitmap_Builder_Extend_loop6`: the `range` loop `b.Words[idx>>6] |= 1 << uint(idx&63)` with `idx = b.Offset + i`
    (model `orBits` on the shifted positions), then `b.Offset += size`; `Builder_Extend_loop6` instantiates
    `Tie3L.orBits_loop`.
-/
namespace Low
open Low.GoSem Low.TieL Low.Tie2L Low.Tie3L

/-- the `end` of `Extend` as the model computes it (unbounded integers) -/
def Builder.extendEnd (b : Builder) (ps : List Int) (size : Int) : Int :=
  match ps.getLast? with
  | none => b.offset + size
  | some l => if l ≥ size then b.offset + l + 1 else b.offset + size

theorem Builder_Extend_loop6 (fuel : Nat) (bw : List Nat) (bo : Int) (ps : List Int) (size off : Int)
    (hlen : ps.length < 2^63) (hfuel : ps.length + 1 ≤ fuel)
    (hps : ∀ p ∈ ps, -2^31 ≤ off + p ∧ off + p < 2^31) (hsz : -2^31 ≤ off + size ∧ off + size < 2^31)
    (ws : List Nat) :
    Gen.Ssa3.bitmap_Builder_Extend_loop6 fuel bw bo ps size (ps.length : Int) fuel (-1) ws off
      = (orBits ws (ps.map (off + ·))).map (fun ws' => (ws', off + size)) := by
  have e2 : addI32 off size = off + size := by rw [addI32]; exact wrap32_id (by omega) (by omega)
  have em : ps.map (addI32 off ·) = ps.map (off + ·) :=
    List.map_congr_left fun p hp => by
      have := hps p hp
      exact wrap32_id (by omega) (by omega)
  have := orBits_loop ps hlen (addI32 off ·)
    (fun gas t ws => Gen.Ssa3.bitmap_Builder_Extend_loop6 fuel bw bo ps size (ps.length : Int) gas t ws off)
    (fun ws => some (ws, addI32 off size)) (fun gas t ws => by rw [Gen.Ssa3.bitmap_Builder_Extend_loop6])
    ps 0 fuel ws rfl (Nat.zero_le _) hfuel
  rw [em, e2] at this
  rw [Option.map_eq_bind]
  exact this

/-- the number of words the growing loop appends for the `end` value `e`: below it the loop condition
    `e > len<<6` holds, at it it fails, and `len<<6` never wraps -/
theorem Builder_Extend_words (e : Int) (n : Nat) (he : -2^31 ≤ e ∧ e < 2^31) (hn : n < 2^57) (m : Nat)
    (hm : m ≤ ((e + 63) / 64).toNat - n) :
    (n + m) * 64 < 9223372036854775808 ∧
      (e > (((n + m) * 64 : Nat) : Int) ↔ m < ((e + 63) / 64).toNat - n) := by
  omega

theorem Builder_Extend_from_end (fuel : Nat) (bw : List Nat) (bo : Int) (ps : List Int) (size e : Int)
    (hlen : ps.length < 2^63) (hw : bw.length < 2^57)
    (hps : ∀ p ∈ ps, -2^31 ≤ bo + p ∧ bo + p < 2^31) (hsz : -2^31 ≤ bo + size ∧ bo + size < 2^31)
    (he : -2^31 ≤ e ∧ e < 2^31)
    (hf1 : ((e + 63) / 64).toNat - bw.length + 1 ≤ fuel) (hf2 : ps.length + 1 ≤ fuel) :
    Gen.Ssa3.bitmap_Builder_Extend_loop5 fuel bw bo ps size fuel e bw bo
      = (orBits (growTo bw e) (ps.map (bo + ·))).map (fun ws' => (ws', bo + size)) := by
  have e1 : toI64 e = e := toI64_id (by omega) (by omega)
  rw [grow_loop (fun gas ws => Gen.Ssa3.bitmap_Builder_Extend_loop5 fuel bw bo ps size gas e ws bo)
    _ (fun n => decide (toI64 e > shlI64 n 6)) (fun gas ws => by rw [Gen.Ssa3.bitmap_Builder_Extend_loop5])
    (((e + 63) / 64).toNat - bw.length) fuel bw
    (fun m hm => by
      have h := Builder_Extend_words e bw.length he hw m (Nat.le_of_lt hm)
      rw [e1, shlI64_6_ofNat h.1]; exact decide_eq_true (h.2.2 hm))
    (by
      have h := Builder_Extend_words e bw.length he hw _ (Nat.le_refl _)
      rw [e1, shlI64_6_ofNat h.1]; exact decide_eq_false (fun hgt => Nat.lt_irrefl _ (h.2.1 hgt))) hf1]
  exact Builder_Extend_loop6 fuel bw bo ps size bo hlen hf2 hps hsz _

/-- Domain.  All hypotheses say that the int32 / int computations of the Go code do not wrap where the model uses
    unbounded integers:
    * `hlen`, `hw`: `len(bitPositions) < 2^63` (a Go length fits an `int`); `len(b.Words) < 2^57`, so that
      `len(b.Words)<<6` fits an `int` (implied by the package's int32 domain `len < 2^25`);
    * `hsz`: `b.Offset + size` is an int32 (it is the new `b.Offset`, and `end` unless the last position is `≥ size`);
    * `hps`: `idx = b.Offset + i` is an int32 for every position `i`;
    * `hlast`: if the last position `l` is `≥ size` then `b.Offset + l + 1`, the value of `end`, is `< 2^31`.
      Where `b.Offset + l = 2^31 - 1` the two DIFFER in general: the Go `end` wraps to `-2^31`, nothing is appended and
      the store panics (unless `b.Words` already has `2^25` words), whereas the model appends up to `2^25` words.
    No other hypothesis: `size`, the positions and `b.Offset` may be negative, the positions need not be ascending
    (a negative `idx`, or one beyond the words present after the growing loop, panics on both sides; a negative `end`
    appends nothing on both sides).
    Fuel: every `fuel ≥ max (number of words appended) (len bitPositions) + 1` (each of the two loops gets `fuel`
    iterations), the number of appended words being `⌈end / 64⌉ - len(b.Words)` for the model's
    `end = b.extendEnd ps size`. -/
theorem Tie_bitmap_Builder_Extend (b : Builder) (ps : List Int) (size : Int) (fuel : Nat)
    (hlen : ps.length < 2^63) (hw : b.words.length < 2^57)
    (hsz : -2^31 ≤ b.offset + size ∧ b.offset + size < 2^31)
    (hps : ∀ p ∈ ps, -2^31 ≤ b.offset + p ∧ b.offset + p < 2^31)
    (hlast : ∀ l, ps.getLast? = some l → size ≤ l → b.offset + l < 2^31 - 1)
    (hfuel1 : ((b.extendEnd ps size + 63) / 64).toNat - b.words.length + 1 ≤ fuel)
    (hfuel2 : ps.length + 1 ≤ fuel) :
    Gen.Ssa3.bitmap_Builder_Extend fuel b.words b.offset ps size
      = (Builder.extend b ps size).map (fun b' => (b'.words, b'.offset)) := by
  have hmodel : (Builder.extend b ps size).map (fun b' => (b'.words, b'.offset))
      = (orBits (growTo b.words (b.extendEnd ps size)) (ps.map (b.offset + ·))).map
          (fun ws' => (ws', b.offset + size)) := by
    simp only [Builder.extend, Builder.extendEnd]
    cases orBits _ (ps.map (b.offset + ·)) with
    | none => rfl
    | some ws' => rfl
  rw [hmodel]
  have e0 : addI32 b.offset size = b.offset + size := by rw [addI32]; exact wrap32_id (by omega) (by omega)
  simp only [Gen.Ssa3.bitmap_Builder_Extend, e0]
  clear e0
  cases hl : ps.getLast? with
  | none =>
    have hnil : ps = [] := List.getLast?_eq_none_iff.mp hl
    subst hnil
    have hE : b.extendEnd [] size = b.offset + size := by simp only [Builder.extendEnd, List.getLast?_nil]
    exact Builder_Extend_from_end fuel b.words b.offset [] size _ hlen hw hps hsz hsz hfuel1 hfuel2
  | some l =>
    have hne : ps ≠ [] := by intro h; rw [h] at hl; cases hl
    have hpos : 0 < ps.length := List.length_pos_iff.mpr hne
    have hposI : (ps.length : Int) > 0 := by omega
    have e1 : subI64 (ps.length : Int) 1 = ((ps.length - 1 : Nat) : Int) :=
      subI64_ofNat (a := ps.length) (b := 1) (by omega) (by omega)
    have hidx : ps[ps.length - 1]? = some l := by rw [← List.getLast?_eq_getElem?]; exact hl
    have hlr := hps l (List.mem_of_getElem? hidx)
    simp only [len_eq, hposI, decide_true, ↓reduceIte, e1, index_ofNat, hidx, Option.bind_some]
    by_cases hge : l ≥ size
    · have hl1 := hlast l hl hge
      have e2a : addI32 b.offset l = b.offset + l := by rw [addI32]; exact wrap32_id (by omega) (by omega)
      have e2 : addI32 (addI32 b.offset l) 1 = b.offset + l + 1 := by
        rw [e2a]; exact wrap32_id (by omega) (by omega)
      have hE : b.extendEnd ps size = b.offset + l + 1 := by simp only [Builder.extendEnd, hl, hge, ↓reduceIte]
      rw [hE] at hfuel1 ⊢
      simp only [hge, decide_true, ↓reduceIte, e2]
      clear e2
      exact Builder_Extend_from_end fuel b.words b.offset ps size _ hlen hw hps hsz ⟨by omega, by omega⟩ hfuel1
        hfuel2
    · have hE : b.extendEnd ps size = b.offset + size := by simp only [Builder.extendEnd, hl, hge, ↓reduceIte]
      rw [hE] at hfuel1 ⊢
      simp only [hge, decide_false, Bool.false_eq_true, ↓reduceIte]
      exact Builder_Extend_from_end fuel b.words b.offset ps size _ hlen hw hps hsz hsz hfuel1 hfuel2

example : Gen.Ssa3.bitmap_Builder_Extend 4 [1] 3 [0, 2, 70] 10 = some ([41, 512], 13) := by decide +kernel
example : Builder.extend ⟨[1], 3⟩ [0, 2, 70] 10 = some ⟨[41, 512], 13⟩ := by decide +kernel
example : Gen.Ssa3.bitmap_Builder_Extend 4 [] 0 [] 129 = some ([0, 0, 0], 129) := by decide +kernel
-- a negative index, an index beyond the words present (positions not ascending): panic
example : Gen.Ssa3.bitmap_Builder_Extend 4 [1] 3 [-4, 2] 10 = none := by decide +kernel
example : Gen.Ssa3.bitmap_Builder_Extend 4 [1] 3 [70, 2] 10 = none := by decide +kernel
example : Builder.extend ⟨[1], 3⟩ [70, 2] 10 = none := by decide +kernel
-- out of fuel: in the growing loop (3 words to append), in the range loop (3 positions)
example : Gen.Ssa3.bitmap_Builder_Extend 3 [] 0 [] 130 = none := by decide +kernel
example : Gen.Ssa3.bitmap_Builder_Extend 3 [1] 3 [0, 2, 70] 10 = none := by decide +kernel

end Low
