import Generated.Ssa3.bitstr_New
import LowProofs.Tie3.Lemmas
import LowModel.Bitstr
/-
  Tie: the definition regenerated from the SSA form of `bitstr.New` (loop-free; allocates the result with `make`,
  fills it with `copy` and two indexed stores) equals the hand-written model `bsNew`.
-/
namespace Low
open Low.GoSem Low.GoSem3 Low.TieL Low.Tie2L Low.Tie3L

namespace Tie3NewL

/-- the two final stores: the last payload byte is masked, the extra byte receives the mask -/
theorem set_set_last (p : List Nat) (l v m : Nat) (hp : p.length = l) (hl : 1 ≤ l) :
    ((p ++ [0]).set (l - 1) v).set l m = p.take (l - 1) ++ [v, m] := by
  rw [List.set_append_left _ _ (by omega), List.set_append_right _ _ (by simp; omega)]
  have : l - (p.set (l - 1) v).length = 0 := by simp; omega
  rw [this, List.set_eq_take_append_cons_drop, if_pos (by omega)]
  have : l - 1 + 1 = p.length := by omega
  rw [this]
  simp

/-- the part of `New` after the early return, on byte indices `F = fromBit >> 3`, `T = (toBit + 7) >> 3` -/
theorem New_body (s : List Nat) (F T k : Nat) (hF : F < 2^28) (hT : T ≤ 2^28) (hk : k < 8) :
    ((makeSlice 0 (addI32 (subI32 (T : Int) (F : Int)) 1)).bind fun t9 =>
        (GoSem2.slice s (F : Int) (T : Int)).bind fun t11 =>
          (tblRMask (k : Int)).bind fun t15 =>
            (index (copyInto t9 t11) (subI32 (subI32 (T : Int) (F : Int)) 1)).bind fun t19 =>
              (setIdx (copyInto t9 t11) (subI32 (subI32 (T : Int) (F : Int)) 1) (andU8 t19 (toU8 (t15 : Int)))).bind
                fun t9_2 => (setIdx t9_2 (subI32 (T : Int) (F : Int)) (toU8 (t15 : Int))).bind fun t1_4 => some t1_4)
      = if T > s.length ∨ F > T then none
        else
          if T - F = 0 then none
          else
            some
              (List.take (T - F - 1) (List.take (T - F) (List.drop F s)) ++
                [(List.take (T - F) (List.drop F s)).getD (T - F - 1) 0 &&& rmask k % 256, rmask k % 256]) := by
  by_cases h1 : F > T
  · have e7 : subI32 (T : Int) (F : Int) = (T : Int) - (F : Int) := by
      exact wrap32_id (by omega) (by omega)
    have e8 : addI32 ((T : Int) - (F : Int)) 1 = (T : Int) - (F : Int) + 1 := by
      exact wrap32_id (by omega) (by omega)
    rw [if_pos (Or.inr h1), e7, e8]
    by_cases h2 : F = T + 1
    · subst h2
      have : ((T : Int) - ((T + 1 : Nat) : Int) + 1) = ((0 : Nat) : Int) := by omega
      rw [this, makeSlice_ofNat, slice_none s (Or.inl (by omega))]; rfl
    · rw [makeSlice_neg _ (by omega)]; rfl
  · have h1' : F ≤ T := Nat.le_of_not_gt h1
    have hT31 : T < 2147483648 := Nat.lt_of_le_of_lt hT (by decide)
    have e7 : subI32 (T : Int) (F : Int) = ((T - F : Nat) : Int) := subI32_ofNat h1' hT31
    have e8 : addI32 ((T - F : Nat) : Int) 1 = ((T - F + 1 : Nat) : Int) := addI32_ofNat (b := 1) (by omega)
    rw [e7, e8, makeSlice_ofNat, Option.bind_some]
    by_cases h2 : T > s.length
    · rw [if_pos (Or.inl h2), slice_gt s _ (by omega)]; rfl
    · rw [if_neg (not_or.mpr ⟨h2, h1⟩), slice_ofNat s h1' (Nat.le_of_not_gt h2), Option.bind_some,
        tblRMask_ofNat (Nat.lt_trans hk (by decide)),
        Option.bind_some]
      by_cases h3 : T - F = 0
      · have : subI32 ((T - F : Nat) : Int) 1 = -1 := by rw [h3]; decide
        rw [if_pos h3, this]; rfl
      · have e18 : subI32 ((T - F : Nat) : Int) 1 = ((T - F - 1 : Nat) : Int) := subI32_ofNat (b := 1) (Nat.pos_of_ne_zero h3) (Nat.lt_of_le_of_lt (Nat.sub_le _ _) hT31)
        have hpl : ((s.drop F).take (T - F)).length = T - F := by
          rw [List.length_take, List.length_drop]; exact Nat.min_eq_left (Nat.sub_le_sub_right (Nat.le_of_not_gt h2) F)
        rw [if_neg h3, e18]
        generalize hp : (s.drop F).take (T - F) = p at hpl ⊢
        generalize T - F = l at *
        rw [copyInto_short _ _ (by rw [hpl, List.length_replicate]; exact Nat.le_succ l)]
        have hd : (List.replicate (l + 1) 0).drop p.length = [0] := by rw [hpl]; simp
        have hl1 : l - 1 < p.length := by rw [hpl]; exact Nat.sub_lt (Nat.pos_of_ne_zero h3) Nat.one_pos
        have hi : (p ++ [0])[l - 1]? = some (p.getD (l - 1) 0) := by
          rw [List.getElem?_append_left hl1, List.getD_eq_getElem?_getD, List.getElem?_eq_getElem hl1]; rfl
        rw [hd, index_ofNat, hi, Option.bind_some,
          setIdx_ofNat _ _ (by rw [List.length_append]; exact Nat.lt_add_right _ hl1), Option.bind_some,
          setIdx_ofNat _ _ (by rw [List.length_set, List.length_append, hpl]; exact Nat.lt_succ_self l), Option.bind_some,
          set_set_last p l _ _ hpl (Nat.pos_of_ne_zero h3), toU8_ofNat, andU8]

end Tie3NewL
open Tie3NewL

/-- Domain: `0 ≤ fromBit < 2^31` and `0 ≤ toBit`, `toBit + 7 < 2^31` (the Go code computes `toBit + 7` in int32; beyond
    that bound it wraps and the `Nat` model does not).  NO hypothesis `fromBit ≤ toBit`, none on the bytes of `s`, none
    on `len s`: wherever the Go code panics (negative `make` length, `s[fromByte:toByte]` out of range or inverted,
    index `-1` for `l = 0`) the model returns `none`, and conversely. -/
theorem Tie_bitstr_New (s : List Nat) (f t : Nat) (hf : f < 2^31) (ht : t + 7 < 2^31) :
    Gen.Ssa3.bitstr_New s (f : Int) (t : Int) = bsNew s f t := by
  have hF : f / 8 < 2^28 := Nat.div_lt_of_lt_mul hf
  have hT : (t + 7) / 8 ≤ 2^28 := Nat.div_le_of_le_mul (Nat.le_of_lt ht)
  have hk : (8 - t % 8) % 8 < 8 := Nat.mod_lt _ (by decide)
  have e4 : shrI32 (f : Int) 3 = ((f / 8 : Nat) : Int) := shrI32_3_ofNat f
  have e5 : addI32 (t : Int) 7 = ((t + 7 : Nat) : Int) := addI32_ofNat (b := 7) (by omega)
  have e6 : shrI32 ((t + 7 : Nat) : Int) 3 = (((t + 7) / 8 : Nat) : Int) := shrI32_3_ofNat _
  have e14 : andI32 (subI32 8 (t : Int)) 7 = (((8 - t % 8) % 8 : Nat) : Int) := by
    rw [andI32_7, subI32, wrap32_id (by omega) (by omega)]; omega
  have e24 : andI32 (f : Int) 7 = ((f % 8 : Nat) : Int) := by rw [andI32_7]; omega
  unfold Gen.Ssa3.bitstr_New bsNew
  simp only [e4, e5, e6, e14, e24]
  rw [New_body s (f / 8) ((t + 7) / 8) ((8 - t % 8) % 8) hF hT hk]
  clear e4 e5 e6 e14 e24
  by_cases h1 : f = t
  · subst h1
    by_cases h2 : f % 8 = 0
    · have h2' : ((f % 8 : Nat) : Int) = 0 := by omega
      simp only [h2, decide_true, ↓reduceIte, and_self, setIdx_newArray_one, Option.bind_some]
      rfl
    · have h2' : ¬ ((f % 8 : Nat) : Int) = 0 := by omega
      simp only [h2, h2', decide_true, decide_false, ↓reduceIte, and_false, Bool.false_eq_true]
  · have h1' : ¬ (f : Int) = (t : Int) := by omega
    simp only [h1, h1', decide_false, ↓reduceIte, false_and, Bool.false_eq_true]

/-- the statement on the domain `fromBit ≤ toBit < 2^31 - 8` of the callers -/
theorem Tie_bitstr_New_le (s : List Nat) (f t : Nat) (hft : f ≤ t) (ht : t < 2^31 - 8) :
    Gen.Ssa3.bitstr_New s (f : Int) (t : Int) = bsNew s f t :=
  Tie_bitstr_New s f t (by omega) (by omega)

example : Gen.Ssa3.bitstr_New [0xab, 0xcd, 0xef] 4 13 = some [0xab, 0xc8, 0xf8] := by decide +kernel
example : bsNew [0xab, 0xcd, 0xef] 4 13 = some [0xab, 0xc8, 0xf8] := by decide +kernel
example : Gen.Ssa3.bitstr_New [0xab, 0xcd, 0xef] 8 8 = some [0xff] := by decide +kernel
example : Gen.Ssa3.bitstr_New [0xab, 0xcd, 0xef] 9 9 = some [0x80, 0x80] := by decide +kernel
-- panics: slice beyond the string; `fromBit > toBit` in the same byte (index -1)
example : Gen.Ssa3.bitstr_New [0xab, 0xcd, 0xef] 4 25 = none := by decide +kernel
example : Gen.Ssa3.bitstr_New [0xab, 0xcd, 0xef] 9 8 = none := by decide +kernel

end Low
