import Generated.Ssa3.bitmap_Builder_Set
import LowProofs.Tie3.Lemmas
import LowModel.Bitmap.Of
/-
  Tie: the definition regenerated from the SSA form of the method `(*bitmap.Builder).Set` equals the hand-written
  model `Builder.set`.  The receiver fields `Words`, `Offset` are arguments of the generated definition and the final
  values of both follow as its result.  The only loop (`bitmap_Builder_Set_loop3`) is the growing loop
  `for int(bitPosition>>6) >= len(b.Words) { b.Words = append(b.Words, 0) }`; the code after the loop (the OR into
  `b.Words[bitPosition>>6]` and the update of `b.Offset`) sits in the exit branch of the loop definition.
  `Builder_Set_loop`: by `Tie3L.grow_loop` the loop reaches `ws ++ zeros k` from `ws` and then does `Builder.setFin`,
  which is the tail of the model.
-/
namespace Low
open Low.GoSem Low.TieL Low.Tie2L Low.Tie3L

/-- what `Set` does once `b.Words` is long enough (the part of the model after the growing of `words`) -/
def Builder.setFin (ws : List Nat) (p : Nat) (value off : Int) : Option (List Nat × Int) :=
  match ws[p / 64]? with
  | none => none
  | some w =>
    some (ws.set (p / 64) (w ||| ((value % 2).toNat <<< (p % 64))), if off ≤ (p : Int) then (p : Int) + 1 else off)

theorem Builder_Set_shlU64_bit {v j : Nat} (hv : v ≤ 1) (hj : j < 64) : shlU64 v j = v <<< j := by
  rw [shlU64, shl64, if_pos hj]
  apply Nat.mod_eq_of_lt
  have h1 : (2 : Nat) ^ j < 2 ^ 64 := Nat.pow_lt_pow_right (by omega) hj
  have h2 : v * 2 ^ j ≤ 1 * 2 ^ j := Nat.mul_le_mul_right _ hv
  simp only [M64]
  omega

theorem Builder_Set_toU64_and1 (x : Int) : toU64 (andI32 x 1) = (x % 2).toNat := by
  rw [andI32_1, toU64, u64]
  simp only [M64]
  omega

theorem Builder_Set_loop (fuel : Nat) (bw : List Nat) (bo : Int) (p : Nat) (value : Int) (hp : p + 1 < 2^31)
    (gas : Nat) (ws : List Nat) (off : Int) (hg : p / 64 + 1 - ws.length + 1 ≤ gas) :
    Gen.Ssa3.bitmap_Builder_Set_loop3 fuel bw bo (p : Int) value gas ws off
      = Builder.setFin (ws ++ zeros (p / 64 + 1 - ws.length)) p value off := by
  have e1 : toI64 (shrI32 (p : Int) 6) = ((p / 64 : Nat) : Int) := by
    rw [shrI32_6_ofNat]; exact toI64_ofNat_lt (by omega)
  rw [grow_loop (fun gas ws => Gen.Ssa3.bitmap_Builder_Set_loop3 fuel bw bo (p : Int) value gas ws off) _
    (fun n => decide (toI64 (shrI32 (p : Int) 6) ≥ n)) (fun gas ws => by rw [Gen.Ssa3.bitmap_Builder_Set_loop3])
    (p / 64 + 1 - ws.length) gas ws (fun m hm => by rw [e1]; exact decide_eq_true (by omega))
    (by rw [e1]; exact decide_eq_false (by omega)) hg]
  generalize ws ++ zeros (p / 64 + 1 - ws.length) = ws1
  have hm : p % 64 < 64 := Nat.mod_lt _ (by omega)
  have e3 : shlU64 (value % 2).toNat (p % 64) = (value % 2).toNat <<< (p % 64) := Builder_Set_shlU64_bit (by omega) hm
  have e4 : addI32 (p : Int) 1 = (p : Int) + 1 := by rw [addI32]; exact wrap32_id (by omega) (by omega)
  simp only [Builder.setFin, shrI32_6_ofNat, andI32_63_ofNat, toU64_ofNat_lt (Nat.lt_trans hm (by omega)),
    Builder_Set_toU64_and1, e3, index_ofNat, orU64_eq]
  cases hw : ws1[p / 64]? with
  | none => rfl
  | some w =>
    simp only [Option.bind_some, setIdx_ofNat ws1 _ (List.getElem?_eq_some_iff.mp hw).1, e4]
    by_cases ho : off ≤ (p : Int)
    · simp only [ho, decide_true, ↓reduceIte]
    · simp only [ho, decide_false, Bool.false_eq_true, ↓reduceIte]

/-- Domain: `bitPosition` is an int32 other than the largest one: `-2^31 ≤ pos < 2^31 - 1`.  No hypothesis on `value`
    (`value & 1` is `value % 2` on every int32, also on negative ones), on `b.Offset` or on `b.Words` (neither the
    number of words nor their contents).
    * `pos < 0`: the loop does not run and `b.Words[bitPosition>>6]` panics; the model returns `none` too.
    * `pos = 2^31 - 1` (excluded) with `b.Offset ≤ pos`: the Go code sets `b.Offset = bitPosition + 1` in int32, which
      wraps to `-2^31`, whereas the model sets `2^31`: the two DIFFER there (after appending up to `2^25` words).
    Fuel: the number of words to append, plus one: every `fuel ≥ pos.toNat / 64 + 1 - len(b.Words) + 1`
    (in particular every `fuel ≥ pos.toNat / 64 + 2`). -/
theorem Tie_bitmap_Builder_Set (b : Builder) (pos value : Int) (fuel : Nat) (hlo : -2^31 ≤ pos) (hhi : pos < 2^31 - 1)
    (hfuel : pos.toNat / 64 + 1 - b.words.length + 1 ≤ fuel) :
    Gen.Ssa3.bitmap_Builder_Set fuel b.words b.offset pos value
      = (Builder.set b pos value).map (fun b' => (b'.words, b'.offset)) := by
  simp only [Gen.Ssa3.bitmap_Builder_Set, Builder.set]
  by_cases hneg : pos < 0
  · obtain ⟨g, rfl⟩ : ∃ g, fuel = g + 1 := ⟨fuel - 1, by omega⟩
    have e1 : toI64 (pos / 64) = pos / 64 := toI64_id (by omega) (by omega)
    have hge : ¬ ((b.words.length : Int) ≤ pos / 64) := by omega
    have h64 : pos / 64 < 0 := by omega
    rw [Gen.Ssa3.bitmap_Builder_Set_loop3]
    simp only [shrI32_6, e1, len_eq, ge_iff_le, hge, decide_false, Bool.false_eq_true, ↓reduceIte, index_neg _ h64,
      Option.bind_none, hneg, Option.map_none]
  · obtain ⟨p, rfl⟩ := Int.eq_ofNat_of_zero_le (by omega : 0 ≤ pos)
    have hl := Builder_Set_loop fuel b.words b.offset p value (by omega) fuel b.words b.offset hfuel
    simp only [hl, Builder.setFin, hneg, ↓reduceIte, Int.toNat_natCast]
    cases (b.words ++ zeros (p / 64 + 1 - b.words.length))[p / 64]? with
    | none => rfl
    | some w => rfl

example : Gen.Ssa3.bitmap_Builder_Set 3 [1] 1 70 1 = some ([1, 64], 71) := by decide +kernel
example : Builder.set ⟨[1], 1⟩ 70 1 = some ⟨[1, 64], 71⟩ := by decide +kernel
example : Gen.Ssa3.bitmap_Builder_Set 3 [1] 1 130 (-1) = some ([1, 0, 4], 131) := by decide +kernel
example : Gen.Ssa3.bitmap_Builder_Set 1 [1, 0] 100 3 0 = some ([1, 0], 100) := by decide +kernel
-- a negative position: panic
example : Gen.Ssa3.bitmap_Builder_Set 3 [1] 1 (-1) 1 = none := by decide +kernel
example : Builder.set ⟨[1], 1⟩ (-1) 1 = none := by decide +kernel
-- out of fuel: two words to append need three iterations
example : Gen.Ssa3.bitmap_Builder_Set 2 [1] 1 130 1 = none := by decide +kernel

end Low
