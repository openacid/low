import Generated.Ssa3.sigbits_countPrefixes
import LowProofs.Tie3.Lemmas
import LowModel.Sigbits
/-
  Helper lemmas for the tie of `sigbits.countPrefixes` (`LowProofs/Tie3/sigbits_countPrefixes.lean`):
  general list facts (the `min` fold, the table of counts `countsOf` and how one more element changes it, the sum of
  the counts), then one lemma per generated loop.  The three loops run in sequence; in the generated code every later
  loop is called from the exit branch of the earlier one, so the loop lemmas are proved from the last loop backwards
  and each states the result of "this loop and everything after it".
-/
namespace Low.CountPrefixesL
open Low.GoSem Low.GoSem3 Low.TieL Low.Tie2L Low.Tie3L

theorem foldl_min_le_init : ∀ (l : List Nat) (a : Nat), l.foldl (fun mn d => if mn > d then d else mn) a ≤ a
  | [], a => by simp
  | d :: l, a => by
    rw [List.foldl_cons]
    have := foldl_min_le_init l (if a > d then d else a)
    by_cases h : a > d
    · rw [if_pos h] at this ⊢; omega
    · rw [if_neg h] at this ⊢; omega

theorem foldl_min_le_mem : ∀ (l : List Nat) (a : Nat), ∀ d ∈ l, l.foldl (fun mn d => if mn > d then d else mn) a ≤ d
  | [], _, d, h => by simp at h
  | x :: l, a, d, h => by
    rw [List.foldl_cons]
    rcases List.mem_cons.mp h with h | h
    · subst h
      have := foldl_min_le_init l (if a > d then d else a)
      by_cases h : a > d
      · rw [if_pos h] at this ⊢; omega
      · rw [if_neg h] at this ⊢; omega
    · exact foldl_min_le_mem l _ d h

/-- `counts[j]` = number of `d` in `l` with `d - mn = j`, for `j < n` (the model's `counts`) -/
def countsOf (mn n : Nat) (l : List Nat) : List Nat :=
  (List.range n).map fun j => (l.filter fun d => d - mn = j).length

theorem countsOf_length (mn n : Nat) (l : List Nat) : (countsOf mn n l).length = n := by simp [countsOf]

theorem countsOf_nil (mn n : Nat) : countsOf mn n [] = List.replicate n 0 := by
  simp [countsOf, List.map_const']

theorem countsOf_getElem? (mn n : Nat) (l : List Nat) {j : Nat} (h : j < n) :
    (countsOf mn n l)[j]? = some ((l.filter fun d => d - mn = j).length) := by
  simp [countsOf, List.getElem?_map, List.getElem?_range h]

theorem countsOf_snoc_ge (mn n : Nat) (l : List Nat) (d : Nat) (h : n ≤ d - mn) :
    countsOf mn n (l ++ [d]) = countsOf mn n l := by
  unfold countsOf
  apply List.map_congr_left
  intro j hj
  have hj : j < n := List.mem_range.mp hj
  have : ¬ (d - mn = j) := by omega
  simp [List.filter_append, this]

theorem countsOf_snoc_lt (mn n : Nat) (l : List Nat) (d : Nat) (h : d - mn < n) :
    countsOf mn n (l ++ [d])
      = (countsOf mn n l).set (d - mn) ((l.filter fun x => x - mn = d - mn).length + 1) := by
  apply List.ext_getElem?
  intro j
  by_cases hj : j < n
  · rw [countsOf_getElem? _ _ _ hj, List.getElem?_set, countsOf_getElem? _ _ _ hj]
    by_cases e : d - mn = j
    · subst e
      simp [List.filter_append, countsOf_length, h]
    · simp [List.filter_append, e]
  · rw [List.getElem?_eq_none (by rw [countsOf_length]; omega),
      List.getElem?_eq_none (by rw [List.length_set, countsOf_length]; omega)]

theorem filter_lt_succ (g : Nat → Nat) : ∀ (l : List Nat) (n : Nat),
    (l.filter fun d => g d < n + 1).length = (l.filter fun d => g d < n).length + (l.filter fun d => g d = n).length
  | [], _ => by simp
  | x :: l, n => by
    have ih := filter_lt_succ g l n
    simp only [List.filter_cons]
    have : (g x < n ∧ g x < n + 1 ∧ ¬ g x = n) ∨ (¬ g x < n ∧ g x < n + 1 ∧ g x = n)
        ∨ (¬ g x < n ∧ ¬ g x < n + 1 ∧ ¬ g x = n) := by omega
    rcases this with ⟨h1, h2, h3⟩ | ⟨h1, h2, h3⟩ | ⟨h1, h2, h3⟩ <;> simp [h1, h2, h3] <;> omega

theorem countsOf_sum (mn : Nat) (l : List Nat) : ∀ n, (countsOf mn n l).sum = (l.filter fun d => d - mn < n).length
  | 0 => by
    have : l.filter (fun d => decide (d - mn < 0)) = [] := by simp
    rw [this]; simp [countsOf]
  | n + 1 => by
    have ih := countsOf_sum mn l n
    have hs := filter_lt_succ (fun d => d - mn) l n
    unfold countsOf at ih ⊢
    rw [List.range_succ, List.map_append, List.sum_append_nat, ih, hs]
    simp

theorem countsOf_sum_le (mn n : Nat) (l : List Nat) : (countsOf mn n l).sum ≤ l.length := by
  rw [countsOf_sum]; exact List.length_filter_le _ _

theorem buf_step (pre : List Nat) (last v k : Nat) :
    setIdx ((pre ++ [last]).map Int.ofNat ++ List.replicate (k + 1) (0 : Int)) ((pre.length + 1 : Nat) : Int) (v : Int)
      = some (((pre ++ [last]) ++ [v]).map Int.ofNat ++ List.replicate k 0) := by
  rw [setIdx_ofNat _ _ (by simp)]
  have := set_append_replicate ((pre ++ [last]).map Int.ofNat) (0 : Int) (v : Int) k
  simp only [List.length_map, List.length_append, List.length_cons, List.length_nil, Nat.zero_add] at this
  rw [this]
  simp

theorem buf_get (pre : List Nat) (last k : Nat) :
    ((pre ++ [last]).map Int.ofNat ++ List.replicate k (0 : Int))[pre.length]? = some (last : Int) := by
  simp

/-- `C` = the counts, `pre ++ [last]` = the prefix sums computed so far (`rst[0..i]`, `i = pre.length`), the rest of
    `rst` is still zero.  The sums must fit an `int32`. -/
theorem prefixSumLoop (fuel : Nat) (F : List Int) (maxitem t1 : Int) (C : List Nat)
    (hM : subI32 maxitem 1 = (C.length : Int)) (hC : C.length < 2^31) :
    ∀ (rest : List Nat) (gas : Nat) (pre : List Nat) (last : Nat), rest = C.drop pre.length →
      rest.length + 1 ≤ gas → last + rest.sum < 2^31 →
      Gen.Ssa3.sigbits_countPrefixes_loop11 fuel F maxitem t1 gas (pre.length : Int) (C.map Int.ofNat)
        ((pre ++ [last]).map Int.ofNat ++ List.replicate rest.length 0)
        = some (t1, (rest.foldl (fun (acc : List Nat × Nat) c => (acc.1 ++ [acc.2 + c], acc.2 + c))
            (pre ++ [last], last)).1.map Int.ofNat)
  | [], gas, pre, last, hr, hg, hs => by
    obtain ⟨g, rfl, hg'⟩ := gas_pos hg
    have hil : ¬ (pre.length < C.length) := by have := drop_eq_nil_le hr; omega
    rw [Gen.Ssa3.sigbits_countPrefixes_loop11]
    simp only [hM, Int.ofNat_lt, hil, decide_false, Bool.false_eq_true, ↓reduceIte, List.length_nil,
      List.replicate_zero, List.append_nil, List.foldl_nil]
  | c :: r, gas, pre, last, hr, hg, hs => by
    obtain ⟨g, rfl, hg'⟩ := gas_pos hg
    have hil : pre.length < C.length := drop_eq_cons_lt hr
    have hc : (C.map Int.ofNat)[pre.length]? = some (c : Int) := by
      rw [List.getElem?_map, getElem?_of_drop_eq_cons hr]; rfl
    simp only [List.sum_cons] at hs
    have ih := prefixSumLoop fuel F maxitem t1 C hM hC r g (pre ++ [last]) (last + c)
      (by simpa using drop_succ_of_drop_eq_cons hr) hg' (by omega)
    have e1 : addI32 (pre.length : Int) 1 = ((pre.length + 1 : Nat) : Int) := addI32_ofNat (b := 1) (by omega)
    have e2 : addI32 (last : Int) (c : Int) = ((last + c : Nat) : Int) := addI32_ofNat (by omega)
    have e3 : ((pre ++ [last]).length : Int) = ((pre.length + 1 : Nat) : Int) := by simp
    rw [e3] at ih
    rw [Gen.Ssa3.sigbits_countPrefixes_loop11]
    simp only [hM, Int.ofNat_lt, hil, decide_true, ↓reduceIte, index_ofNat, buf_get, hc, Option.bind_some, e1, e2,
      List.length_cons, buf_step, ih, List.foldl_cons]

theorem take_succ_of_getElem? {α : Type} {xs : List α} {k : Nat} {d : α} (h : xs[k]? = some d) :
    xs.take (k + 1) = xs.take k ++ [d] := by
  rw [List.take_add_one, h]; rfl

/-- `n = maxitem - 1` (the length of `counts`), `mn` = the minimum found by the first loop; after `k` elements the
    buffer holds the counts of `fds.take k`.  The result is what the rest of the function (allocation of `rst`,
    `rst[0] = 1`, the prefix-sum loop) computes from the counts of all of `fds`. -/
theorem countLoop (fuel : Nat) (fds : List Nat) (maxitem : Int) (mn n : Nat)
    (hM : subI32 maxitem 1 = (n : Int)) (hmn : ∀ d ∈ fds, mn ≤ d) (hfd : ∀ d ∈ fds, d < 2^31)
    (hn : fds.length < 2^31) :
    ∀ (rest : List Nat) (k gas : Nat), rest = fds.drop k → k ≤ fds.length → rest.length + 1 ≤ gas →
      Gen.Ssa3.sigbits_countPrefixes_loop5 fuel (fds.map Int.ofNat) maxitem (mn : Int) (fds.length : Int) gas
          ((k : Int) - 1) ((countsOf mn n (fds.take k)).map Int.ofNat)
        = (makeSlice (0 : Int) maxitem).bind fun t19 => (setIdx t19 (0 : Int) (1 : Int)).bind fun t19_2 =>
            Gen.Ssa3.sigbits_countPrefixes_loop11 fuel (fds.map Int.ofNat) maxitem (mn : Int) fuel 0
              ((countsOf mn n fds).map Int.ofNat) t19_2
  | [], k, gas, hr, hk, hg => by
    obtain ⟨g, rfl, hg'⟩ := gas_pos hg
    have hkl : k = fds.length := by have := drop_eq_nil_le hr; omega
    subst hkl
    have e1 : addI64 ((fds.length : Int) - 1) 1 = (fds.length : Int) := addI64_pred_one (by omega)
    rw [Gen.Ssa3.sigbits_countPrefixes_loop5]
    simp only [e1, Int.lt_irrefl, decide_false, Bool.false_eq_true, ↓reduceIte, List.take_length]
  | d :: r, k, gas, hr, hk, hg => by
    obtain ⟨g, rfl, hg'⟩ := gas_pos hg
    have hkl : k < fds.length := drop_eq_cons_lt hr
    have hd : fds[k]? = some d := getElem?_of_drop_eq_cons hr
    have hdm : d ∈ fds := List.mem_of_getElem? hd
    have hdI : (fds.map Int.ofNat)[k]? = some (d : Int) := by rw [List.getElem?_map, hd]; rfl
    have e1 : addI64 ((k : Int) - 1) 1 = (k : Int) := addI64_pred_one (by omega)
    have e2 : subI32 (d : Int) (mn : Int) = ((d - mn : Nat) : Int) := subI32_ofNat (hmn d hdm) (hfd d hdm)
    have e4 : (((k + 1 : Nat) : Int) - 1) = (k : Int) := by omega
    have ih := countLoop fuel fds maxitem mn n hM hmn hfd hn r (k + 1) g (drop_succ_of_drop_eq_cons hr) (by omega)
      hg'
    rw [e4, take_succ_of_getElem? hd] at ih
    rw [Gen.Ssa3.sigbits_countPrefixes_loop5]
    simp only [e1, Int.ofNat_lt, hkl, decide_true, ↓reduceIte, index_ofNat, hdI, Option.bind_some, e2, hM]
    by_cases hlt : d - mn < n
    · have hc : ((countsOf mn n (fds.take k)).map Int.ofNat)[d - mn]?
          = some ((((fds.take k).filter fun x => x - mn = d - mn).length : Nat) : Int) := by
        rw [List.getElem?_map, countsOf_getElem? _ _ _ hlt]; rfl
      have hcl : ((fds.take k).filter fun x => decide (x - mn = d - mn)).length ≤ k :=
        Nat.le_trans (List.length_filter_le _ _) (by simp; omega)
      have e3 : addI32 ((((fds.take k).filter fun x => decide (x - mn = d - mn)).length : Nat) : Int) 1
          = ((((fds.take k).filter fun x => decide (x - mn = d - mn)).length + 1 : Nat) : Int) :=
        addI32_ofNat (b := 1) (by omega)
      rw [countsOf_snoc_lt _ _ _ _ hlt, List.map_set] at ih
      simp only [hlt, decide_true, ↓reduceIte, hc, Option.bind_some, e3]
      rw [setIdx_ofNat _ _ (by rw [List.length_map, countsOf_length]; exact hlt)]
      exact ih
    · rw [countsOf_snoc_ge _ _ _ _ (by omega)] at ih
      simp only [hlt, decide_false, Bool.false_eq_true, ↓reduceIte]
      exact ih

/-- a negative `maxitem`: whatever the counting loop does, `make([]int32, maxitem)` after it panics.  (Only `maxitem = -2^31`
    gets this far: there `maxitem - 1` wraps to `2^31 - 1` and the first `make` succeeds.) -/
theorem countLoop_neg (fuel : Nat) (F : List Int) (maxitem t1 t10 : Int) (hneg : maxitem < 0) :
    ∀ (gas : Nat) (t11 : Int) (buf : List Int),
      Gen.Ssa3.sigbits_countPrefixes_loop5 fuel F maxitem t1 t10 gas t11 buf = none
  | 0, _, _ => by rw [Gen.Ssa3.sigbits_countPrefixes_loop5]
  | g + 1, t11, buf => by
    rw [Gen.Ssa3.sigbits_countPrefixes_loop5]
    simp only [makeSlice_neg (0 : Int) hneg, Option.bind_none]
    split
    · cases GoSem.index F (addI64 t11 1) with
      | none => rfl
      | some d =>
        simp only [Option.bind_some]
        split
        · cases GoSem.index buf (subI32 d t1) with
          | none => rfl
          | some c =>
            simp only [Option.bind_some]
            cases setIdx buf (subI32 d t1) (addI32 c 1) with
            | none => rfl
            | some b => simp only [Option.bind_some]; exact countLoop_neg fuel F maxitem t1 t10 hneg g _ _
        · exact countLoop_neg fuel F maxitem t1 t10 hneg g _ _
    · rfl

/-- the result is what the rest of the function computes from the minimum of the whole list -/
theorem minLoop (fuel : Nat) (fds : List Nat) (maxitem : Int) (hn : fds.length < 2^31) :
    ∀ (rest : List Nat) (k gas mn : Nat), rest = fds.drop k → k ≤ fds.length → rest.length + 1 ≤ gas →
      Gen.Ssa3.sigbits_countPrefixes_loop1 fuel (fds.map Int.ofNat) maxitem (fds.length : Int) gas (mn : Int)
          ((k : Int) - 1)
        = (makeSlice (0 : Int) (subI32 maxitem 1)).bind fun t9 =>
            Gen.Ssa3.sigbits_countPrefixes_loop5 fuel (fds.map Int.ofNat) maxitem
              ((rest.foldl (fun mn d => if mn > d then d else mn) mn : Nat) : Int) (fds.length : Int) fuel (-1) t9
  | [], k, gas, mn, hr, hk, hg => by
    obtain ⟨g, rfl, hg'⟩ := gas_pos hg
    have hkl : k = fds.length := by have := drop_eq_nil_le hr; omega
    subst hkl
    have e1 : addI64 ((fds.length : Int) - 1) 1 = (fds.length : Int) := addI64_pred_one (by omega)
    rw [Gen.Ssa3.sigbits_countPrefixes_loop1]
    simp only [e1, Int.lt_irrefl, decide_false, Bool.false_eq_true, ↓reduceIte, List.foldl_nil, len_eq,
      List.length_map]
  | d :: r, k, gas, mn, hr, hk, hg => by
    obtain ⟨g, rfl, hg'⟩ := gas_pos hg
    have hkl : k < fds.length := drop_eq_cons_lt hr
    have hd : fds[k]? = some d := getElem?_of_drop_eq_cons hr
    have hdI : (fds.map Int.ofNat)[k]? = some (d : Int) := by rw [List.getElem?_map, hd]; rfl
    have e1 : addI64 ((k : Int) - 1) 1 = (k : Int) := addI64_pred_one (by omega)
    have e4 : (((k + 1 : Nat) : Int) - 1) = (k : Int) := by omega
    have ih := fun mn' => minLoop fuel fds maxitem hn r (k + 1) g mn' (drop_succ_of_drop_eq_cons hr) (by omega)
      hg'
    rw [e4] at ih
    rw [Gen.Ssa3.sigbits_countPrefixes_loop1]
    simp only [e1, Int.ofNat_lt, hkl, decide_true, ↓reduceIte, index_ofNat, hdI, Option.bind_some, gt_iff_lt,
      List.foldl_cons]
    by_cases hlt : d < mn
    · simp only [hlt, decide_true, ↓reduceIte, ih]
    · simp only [hlt, decide_false, Bool.false_eq_true, ↓reduceIte, ih]

/-- if what follows the `min` loop panics for every value of `min`, the whole function panics -/
theorem minLoop_none (fuel : Nat) (F : List Int) (maxitem t0 : Int)
    (hexit : ∀ t1 : Int, ((makeSlice (0 : Int) (subI32 maxitem 1)).bind fun t9 =>
      Gen.Ssa3.sigbits_countPrefixes_loop5 fuel F maxitem t1 (GoSem.len F) fuel (-1) t9) = none) :
    ∀ (gas : Nat) (t1 t2 : Int), Gen.Ssa3.sigbits_countPrefixes_loop1 fuel F maxitem t0 gas t1 t2 = none
  | 0, _, _ => by rw [Gen.Ssa3.sigbits_countPrefixes_loop1]
  | g + 1, t1, t2 => by
    rw [Gen.Ssa3.sigbits_countPrefixes_loop1]
    simp only [hexit]
    split
    · cases GoSem.index F (addI64 t2 1) with
      | none => rfl
      | some d =>
        simp only [Option.bind_some]
        split <;> exact minLoop_none fuel F maxitem t0 hexit g _ _
    · rfl

end Low.CountPrefixesL
