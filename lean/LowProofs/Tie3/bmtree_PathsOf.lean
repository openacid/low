import Generated.Ssa3.bmtree_PathsOf
import LowProofs.Tie.bmtree_PathOf
import LowProofs.Tie3.Lemmas
import LowModel.Bmtree.Path
/-
  Tie: the definition regenerated from the SSA form of `bmtree.PathsOf` (a `range` loop that appends to a slice the
  function allocates, under the three-way condition `!dedup || i == 0 || p != prev`) equals the hand-written model
  `pathsOf`.  The generated loop `bmtree_PathsOf_loop1` carries the result so far (`t3`), the Go variable `prev`
  (`t4`, initially `^uint64(0)`) and the range index (`t5`, initially -1); it calls `Gen.Ssa.bmtree_PathOf`
  (`Generated/Ssa`), whose tie `Tie_bmtree_PathOf` is used here.  The model recurses over the suffix
  `keys.drop i` with `prev : Option Nat` (`none` for the first key): the Go test `i == 0` plays the role of
  `prev = none`; for `i > 0` the model has `prev = some p'` and the Go variable holds `p'`.
-/
namespace Low
open Low.GoSem Low.TieL Low.Tie2L Low.Tie3L

/-- `Option.bind_some` with an explicit proof term (not a `rfl` step: see PROOF_NOTES.md, kernel deep recursion) -/
theorem PathsOf_bind_eq {α β : Type} {o : Option α} {a : α} (h : o = some a) (F : α → Option β) :
    o.bind F = F a := by
  subst h; exact Option.bind_some ..

/-- about to read `keys[i]` (range index `i - 1`), `acc` = the result so far; `prev`/`pg` = the model's and the Go
    `prev`, related as in the file header; fuel `len(rest) + 1` -/
theorem PathsOf_loop (fuel : Nat) (keys : List (List Nat)) (f h : Nat) (dedup : Bool) (hh : h ≤ 32)
    (hf : f + h + 7 < 2^31) (hkeys : keys.length < 2^63) (hlen : ∀ k ∈ keys, k.length < 2^28)
    (hbytes : ∀ k ∈ keys, ∀ b ∈ k, b < 256) :
    ∀ (rest : List (List Nat)) (i gas : Nat) (acc : List Nat) (pg : Nat) (prev : Option Nat),
      rest = keys.drop i → i ≤ keys.length → rest.length + 1 ≤ gas →
      ((i = 0 ∧ prev = none) ∨ (0 < i ∧ prev = some pg)) →
      Gen.Ssa3.bmtree_PathsOf_loop1 fuel keys (f : Int) (h : Int) dedup (keys.length : Int) gas acc pg ((i : Int) - 1)
        = some (acc ++ pathsOfGo f h dedup rest prev)
  | [], i, gas, acc, pg, prev, hr, hi, hg, hinv => by
    obtain ⟨g, rfl, hg'⟩ := gas_pos hg
    have hil : i = keys.length := by have := drop_eq_nil_le hr; omega
    have e6 : addI64 ((i : Int) - 1) 1 = (i : Int) := addI64_pred_one (by omega)
    rw [Gen.Ssa3.bmtree_PathsOf_loop1, pathsOfGo]
    have hnl : ¬ ((i : Int) < (keys.length : Int)) := by omega
    simp only [e6, hnl, decide_false, Bool.false_eq_true, ↓reduceIte, List.append_nil]
  | s :: r, i, gas, acc, pg, prev, hr, hi, hg, hinv => by
    obtain ⟨g, rfl, hg'⟩ := gas_pos hg
    have hil : i < keys.length := drop_eq_cons_lt hr
    have hs : keys[i]? = some s := getElem?_of_drop_eq_cons hr
    have hmem : s ∈ keys := List.mem_of_getElem? hs
    have e6 : addI64 ((i : Int) - 1) 1 = (i : Int) := addI64_pred_one (by omega)
    have hp := Tie_bmtree_PathOf s f h hh hf (hlen s hmem) (hbytes s hmem)
    have ih : ∀ acc', Gen.Ssa3.bmtree_PathsOf_loop1 fuel keys (f : Int) (h : Int) dedup (keys.length : Int) g acc'
        (pathOf s f h) (i : Int) = some (acc' ++ pathsOfGo f h dedup r (some (pathOf s f h))) := by
      intro acc'
      have := PathsOf_loop fuel keys f h dedup hh hf hkeys hlen hbytes r (i + 1) g acc' (pathOf s f h)
        (some (pathOf s f h)) (drop_succ_of_drop_eq_cons hr) (by omega)
        hg' (Or.inr ⟨by omega, rfl⟩)
      rwa [show ((i + 1 : Nat) : Int) - 1 = (i : Int) by omega] at this
    rw [Gen.Ssa3.bmtree_PathsOf_loop1, pathsOfGo]
    have hidx : index keys (i : Int) = some s := by rw [index_ofNat, hs]
    simp only [e6, Int.ofNat_lt, hil, decide_true, ↓reduceIte, PathsOf_bind_eq hidx, PathsOf_bind_eq hp,
      PathsOf_bind_eq (setIdx_newArray_one 0 (pathOf s f h)), ih]
    cases dedup with
    | false => simp
    | true =>
      rcases hinv with ⟨h0, hpn⟩ | ⟨h0, hpn⟩
      · subst h0; subst hpn; simp
      · have hne : ¬ (i = 0) := by omega
        subst hpn
        by_cases hpe : pathOf s f h = pg
        · simp [hne, hpe]
        · have hpe' : ¬ (pg = pathOf s f h) := fun e => hpe e.symm
          simp [hne, hpe, hpe']

/-- Domain: `frombit ≥ 0`, `height ≤ 32`, `frombit + height + 7` an `int32`; every key shorter than `2^28` bytes, every
    element of a key a byte (the domain of `Tie_bmtree_PathOf`); `len(keys) < 2^63` (a Go length fits an `int`; the
    range index is an `int`).  `dedup` any.  Fuel: every `fuel ≥ len(keys) + 1`.  `= some …`: no panic on the domain. -/
theorem Tie_bmtree_PathsOf (keys : List (List Nat)) (f h : Nat) (dedup : Bool) (fuel : Nat) (hh : h ≤ 32)
    (hf : f + h + 7 < 2^31) (hkeys : keys.length < 2^63) (hlen : ∀ k ∈ keys, k.length < 2^28)
    (hbytes : ∀ k ∈ keys, ∀ b ∈ k, b < 256) (hfuel : keys.length + 1 ≤ fuel) :
    Gen.Ssa3.bmtree_PathsOf fuel keys (f : Int) (h : Int) dedup = some (pathsOf keys f h dedup) := by
  have hl := PathsOf_loop fuel keys f h dedup hh hf hkeys hlen hbytes keys 0 fuel [] 18446744073709551615 none
    (by simp) (by omega) (by omega) (Or.inl ⟨rfl, rfl⟩)
  rw [Gen.Ssa3.bmtree_PathsOf, pathsOf]
  rw [← List.nil_append (pathsOfGo f h dedup keys none), ← hl]
  rfl

example : Gen.Ssa3.bmtree_PathsOf 4 [[0x61, 0x62], [0x61, 0x63], [0x71]] 5 7 true
    = some [0x16_0000007f, 0x10_00000070] := by decide +kernel
example : Gen.Ssa3.bmtree_PathsOf 4 [[0x61, 0x62], [0x61, 0x63], [0x71]] 5 7 false
    = some [0x16_0000007f, 0x16_0000007f, 0x10_00000070] := by decide +kernel
example : pathsOf [[0x61, 0x62], [0x61, 0x63], [0x71]] 5 7 true = [0x16_0000007f, 0x10_00000070] := by decide +kernel
-- the path of the first key equals the initial value `^uint64(0)` of `prev`: kept, because of the test `i == 0`
example : Gen.Ssa3.bmtree_PathsOf 3 [[0xff, 0xff, 0xff, 0xff], [0xff, 0xff, 0xff, 0xff]] 0 32 true
    = some [0xffffffff_ffffffff] := by decide +kernel
example : Gen.Ssa3.bmtree_PathsOf 3 [[0x61, 0x62], [0x61, 0x63], [0x71]] 5 7 true = none := by decide +kernel

end Low
