import LowModel.GoSem3
import LowProofs.Tie2.Lemmas
import LowModel.Bitmap.Of
/-
  Helper lemmas for the tie proofs of the functions that allocate and write slices (`LowProofs/Tie3/*.lean`), on top
  of `LowProofs/Tie/Lemmas.lean` (`Low.TieL`) and `LowProofs/Tie2/Lemmas.lean` (`Low.Tie2L`): what the `GoSem3`
  vocabulary computes on in-range arguments, list facts about functional updates of a buffer that an index loop
  fills from left to right, and three loops for any `L` with the generated step equation: `grow_loop` (append zeros
  while a condition on the length holds), `orBit_step` / `orBits_loop` (`words[x>>6] |= 1 << (x&63)` over a range).
-/
namespace Low.Tie3L
open Low.GoSem Low.GoSem3 Low.TieL Low.Tie2L

theorem makeSlice_ofNat {α : Type} (z : α) (n : Nat) : makeSlice z (n : Int) = some (List.replicate n z) := by
  unfold makeSlice
  have : ¬ ((n : Int) < 0) := by omega
  simp [this]

theorem makeSlice_neg {α : Type} (z : α) {n : Int} (h : n < 0) : makeSlice z n = (none : Option (List α)) := by
  unfold makeSlice; simp [h]

theorem makeSlice_toNat {α : Type} (z : α) {n : Int} (h : 0 ≤ n) : makeSlice z n = some (List.replicate n.toNat z) := by
  unfold makeSlice
  have : ¬ (n < 0) := by omega
  simp [this]

theorem makeSliceCap_ofNat {α : Type} (z : α) {n c : Nat} (h : n ≤ c) :
    makeSliceCap z (n : Int) (c : Int) = some (List.replicate n z) := by
  unfold makeSliceCap
  have : (0 : Int) ≤ (n : Int) ∧ (n : Int) ≤ (c : Int) := by omega
  simp [this]

theorem makeSliceCap_zero {α : Type} (z : α) (c : Nat) : makeSliceCap z 0 (c : Int) = some ([] : List α) := by
  have := makeSliceCap_ofNat z (n := 0) (c := c) (by omega)
  simpa using this

theorem newArray_zero {α : Type} (z : α) : newArray z 0 = ([] : List α) := rfl
theorem newArray_one {α : Type} (z : α) : newArray z 1 = [z] := rfl
theorem newArray_length {α : Type} (z : α) (n : Nat) : (newArray z n).length = n := by simp [newArray]

theorem setIdx_ofNat {α : Type} (xs : List α) {i : Nat} (v : α) (h : i < xs.length) :
    setIdx xs (i : Int) v = some (xs.set i v) := by
  unfold setIdx
  have : (0 : Int) ≤ (i : Int) ∧ (i : Int) < (xs.length : Int) := by omega
  simp [this]

theorem setIdx_ge {α : Type} (xs : List α) {i : Nat} (v : α) (h : xs.length ≤ i) :
    setIdx xs (i : Int) v = none := by
  unfold setIdx
  have : ¬ ((0 : Int) ≤ (i : Int) ∧ (i : Int) < (xs.length : Int)) := by omega
  rw [if_neg this]

theorem setIdx_neg {α : Type} (xs : List α) {i : Int} (v : α) (h : i < 0) : setIdx xs i v = none := by
  unfold setIdx
  have : ¬ ((0 : Int) ≤ i ∧ i < (xs.length : Int)) := by omega
  rw [if_neg this]

theorem setIdx_toNat {α : Type} (xs : List α) {i : Int} (v : α) (h0 : 0 ≤ i) (h : i.toNat < xs.length) :
    setIdx xs i v = some (xs.set i.toNat v) := by
  unfold setIdx
  have : (0 : Int) ≤ i ∧ i < (xs.length : Int) := by omega
  simp [this]

/-- the array go/ssa allocates for the single argument of a variadic call (`append(s, v)`, `f(xs, v)`) -/
theorem setIdx_newArray_one {α : Type} (z v : α) : setIdx (newArray z 1) (0 : Int) v = some [v] := by
  unfold setIdx newArray; simp

theorem setIdx_length {α : Type} {xs ys : List α} {i : Int} {v : α} (h : setIdx xs i v = some ys) :
    ys.length = xs.length := by
  unfold setIdx at h
  split at h
  · injection h with h; rw [← h]; simp
  · exact absurd h (by simp)

theorem copyInto_length {α : Type} (dst src : List α) : (copyInto dst src).length = dst.length := by
  unfold copyInto; simp; omega

theorem copyInto_short {α : Type} (dst src : List α) (h : src.length ≤ dst.length) :
    copyInto dst src = src ++ dst.drop src.length := by
  unfold copyInto; rw [List.take_of_length_le h]

theorem copyInto_long {α : Type} (dst src : List α) (h : dst.length ≤ src.length) :
    copyInto dst src = src.take dst.length := by
  unfold copyInto; rw [List.drop_of_length_le h]; simp

theorem set_append_replicate {α : Type} (pre : List α) (z v : α) (k : Nat) :
    (pre ++ List.replicate (k + 1) z).set pre.length v = (pre ++ [v]) ++ List.replicate k z := by
  simp [List.replicate_succ]

theorem take_set_succ {α : Type} (xs : List α) (i : Nat) (v : α) (h : i < xs.length) :
    (xs.set i v).take (i + 1) = xs.take i ++ [v] := by
  rw [List.take_add_one]
  simp [List.take_set_of_le, List.getElem?_set_self h]

theorem getElem?_set_self' {α : Type} (xs : List α) (i : Nat) (v : α) (h : i < xs.length) :
    (xs.set i v)[i]? = some v := List.getElem?_set_self h

theorem addI64_one_ofNat {a : Nat} (h : a + 1 < 9223372036854775808) : addI64 (a : Int) 1 = ((a + 1 : Nat) : Int) :=
  addI64_ofNat (b := 1) h

theorem addI64_neg_one_one : addI64 (-1) 1 = 0 := by decide

theorem lt_ofNat_iff {a b : Nat} : ((a : Int) < (b : Int)) ↔ a < b := Int.ofNat_lt

/-- The growing loop, for any `L` with the one-step equation of the generated loop, `c` = the Go loop condition as a
    function of `len(ws)`, `E` = the code after the loop: with `k` words missing it reaches `ws ++ zeros k`. -/
theorem grow_loop {β : Type} (L : Nat → List Nat → Option β) (E : List Nat → Option β) (c : Int → Bool)
    (hL : ∀ gas ws, L (gas + 1) ws =
      if c (len ws) = true then (setIdx (newArray (0 : Nat) 1) 0 0).bind fun a => L gas (ws ++ a) else E ws) :
    ∀ (k gas : Nat) (ws : List Nat), (∀ m, m < k → c ((ws.length + m : Nat) : Int) = true) →
      c ((ws.length + k : Nat) : Int) = false → k + 1 ≤ gas → L gas ws = E (ws ++ zeros k)
  | 0, gas, ws, _, hk, hg => by
    obtain ⟨g, rfl, _⟩ := gas_pos hg
    rw [hL, len_eq, ← Nat.add_zero ws.length, hk, zeros, List.replicate_zero, List.append_nil]
    rfl
  | k + 1, gas, ws, hlt, hk, hg => by
    obtain ⟨g, rfl, hg'⟩ := gas_pos hg
    have hl : (ws ++ [0]).length = ws.length + 1 := List.length_append
    rw [hL, len_eq, ← Nat.add_zero ws.length, hlt 0 (Nat.succ_pos k), if_pos rfl, setIdx_newArray_one, Option.bind_some,
      grow_loop L E c hL k g (ws ++ [0])
        (fun m hm => by rw [hl, Nat.add_right_comm, Nat.add_assoc]; exact hlt (m + 1) (Nat.succ_lt_succ hm))
        (by rw [hl, Nat.add_right_comm, Nat.add_assoc]; exact hk) hg',
      List.append_assoc]
    rfl

/-- the read-modify-write of one position `x` (any integer): the model's `orBit`, a panic for a negative `x` -/
theorem orBit_step {β : Type} (ws : List Nat) (x : Int) (K : List Nat → Option β) :
    ((index ws (shrI32 x 6)).bind fun w =>
        (setIdx ws (shrI32 x 6) (orU64 w (shlU64 1 (toU64 (andI32 x 63))))).bind K)
      = if x < 0 then none else (orBit ws x.toNat).bind K := by
  rw [shrI32_6, andI32_63]
  by_cases hneg : x < 0
  · rw [if_pos hneg, index_neg _ (by omega : x / 64 < 0)]; rfl
  · obtain ⟨m, rfl⟩ := Int.eq_ofNat_of_zero_le (Int.not_lt.1 hneg)
    have e3 : (m : Int) / 64 = ((m / 64 : Nat) : Int) := by omega
    have e4 : (m : Int) % 64 = ((m % 64 : Nat) : Int) := by omega
    have hm : m % 64 < 64 := Nat.mod_lt _ (by omega)
    rw [if_neg hneg, e3, e4, toU64_ofNat_lt (by omega), shlU64_one hm, index_ofNat, Int.toNat_natCast, orBit]
    cases hw : ws[m / 64]? with
    | none => rfl
    | some w => rw [Option.bind_some, orU64_eq, setIdx_ofNat ws _ (List.getElem?_eq_some_iff.mp hw).1]

/-- The `range` loop that ORs one bit per position `f p` into `ws`, for any `L` with the one-step equation of the
    generated loop and any code `E` after it; about to read position `j` (the `range` index is `j - 1`). -/
theorem orBits_loop {β : Type} (ps : List Int) (hlen : ps.length < 2^63) (f : Int → Int)
    (L : Nat → Int → List Nat → Option β) (E : List Nat → Option β)
    (hL : ∀ gas t ws, L (gas + 1) t ws =
      if decide (addI64 t 1 < (ps.length : Int)) = true then
        (index ps (addI64 t 1)).bind fun p =>
          (index ws (shrI32 (f p) 6)).bind fun w =>
            (setIdx ws (shrI32 (f p) 6) (orU64 w (shlU64 1 (toU64 (andI32 (f p) 63))))).bind fun ws' =>
              L gas (addI64 t 1) ws'
      else E ws) :
    ∀ (rest : List Int) (j gas : Nat) (ws : List Nat), rest = ps.drop j → j ≤ ps.length → rest.length + 1 ≤ gas →
      L gas ((j : Int) - 1) ws = (orBits ws (rest.map f)).bind E
  | [], j, gas, ws, hr, hj, hg => by
    obtain ⟨g, rfl, _⟩ := gas_pos hg
    have hlt : ¬ (j < ps.length) := Nat.not_lt.2 (drop_eq_nil_le hr)
    rw [hL, addI64_pred_one (by omega)]
    simp only [Int.ofNat_lt, hlt, decide_false, Bool.false_eq_true, ↓reduceIte, List.map_nil, orBits,
      Option.bind_some]
  | p :: r, j, gas, ws, hr, hj, hg => by
    obtain ⟨g, rfl, hg'⟩ := gas_pos hg
    have hjl : j < ps.length := drop_eq_cons_lt hr
    have ih := fun ws' => orBits_loop ps hlen f L E hL r (j + 1) g ws' (drop_succ_of_drop_eq_cons hr) hjl hg'
    rw [show ((j + 1 : Nat) : Int) - 1 = (j : Int) by omega] at ih
    rw [hL, addI64_pred_one (by omega)]
    simp only [Int.ofNat_lt, hjl, decide_true, ↓reduceIte, index_ofNat, getElem?_of_drop_eq_cons hr,
      Option.bind_some, orBit_step, List.map_cons, orBits, ih]
    by_cases hneg : f p < 0
    · simp only [hneg, ↓reduceIte, Option.bind_none]
    · simp only [hneg, ↓reduceIte]
      cases orBit ws (f p).toNat <;> rfl

end Low.Tie3L
