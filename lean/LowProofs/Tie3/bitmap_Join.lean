import Generated.Ssa3.bitmap_Join
import LowProofs.Tie3.Lemmas
import LowModel.Bitmap.Of
/-
  Tie: the definition regenerated from the SSA form of `bitmap.Join` (a `range` loop that ORs every sub-bitmap into a
  slice the function allocates with `make`) equals the hand-written model `bmJoin`.  The generated loop
  `bitmap_Join_loop1` carries the range index (`t8`, starting at -1 and incremented at the loop head) and the CONTENTS
  of the allocated slice (`t6_b1`, a hidden parameter); `r[j>>6] |= …` is a read `GoSem.index` followed by the
  functional update `GoSem3.setIdx`.  The model `joinLoop` recurses over the suffix `subs.drop i` with the same buffer;
  `Join_loop` relates the two for an arbitrary buffer.
-/
namespace Low
open Low.GoSem Low.TieL Low.Tie2L Low.Tie3L

/-- about to read `subs[i]` (`t8` = the `range` index, `t8 + 1 = i`), `rest = subs[i:]`, any buffer; fuel `len(rest) + 1` -/
theorem Join_loop (fuel : Nat) (subs : List Nat) (size : Nat) (hsize : size ≤ 64) (hlen : subs.length < 2^56) :
    ∀ (rest : List Nat) (i gas : Nat) (t8 : Int) (buf : List Nat), rest = subs.drop i → i ≤ subs.length →
      rest.length + 1 ≤ gas → addI64 t8 1 = (i : Int) →
      Gen.Ssa3.bitmap_Join_loop1 fuel subs (size : Int) (subs.length : Int) gas t8 buf = joinLoop size rest i buf
  | [], i, gas, t8, buf, hr, hi, hg, ht => by
    obtain ⟨g, rfl, hg'⟩ := gas_pos hg
    have hil : i = subs.length := by have := drop_eq_nil_le hr; omega
    subst hil
    rw [Gen.Ssa3.bitmap_Join_loop1, joinLoop]
    simp only [ht, Int.lt_irrefl, decide_false, Bool.false_eq_true, ↓reduceIte]
  | e :: es, i, gas, t8, buf, hr, hi, hg, ht => by
    obtain ⟨g, rfl, hg'⟩ := gas_pos hg
    have hil : i < subs.length := drop_eq_cons_lt hr
    have he : subs[i]? = some e := getElem?_of_drop_eq_cons hr
    have hmul : i * size ≤ subs.length * 64 := Nat.mul_le_mul (by omega) hsize
    have b0 : size < 9223372036854775808 := by omega
    have b1 : i * size < 9223372036854775808 := by omega
    have b4 : i * size % 64 < 18446744073709551616 := by omega
    have b5 : i + 1 < 9223372036854775808 := by omega
    have b6 : i + 1 ≤ subs.length := by omega
    have b7 : es.length + 1 ≤ g := by simp only [List.length_cons] at hg; omega
    have e0 : toI64 (size : Int) = (size : Int) := toI64_ofNat_lt b0
    have e1 : mulI64 (i : Int) (size : Int) = ((i * size : Nat) : Int) := mulI64_ofNat b1
    have e2 : shrI64 ((i * size : Nat) : Int) 6 = ((i * size / 64 : Nat) : Int) := shrI64_6_ofNat _
    have e3 : andI64 ((i * size : Nat) : Int) 63 = ((i * size % 64 : Nat) : Int) := andI64_63_ofNat _
    have e4 : toU64 ((i * size % 64 : Nat) : Int) = i * size % 64 := toU64_ofNat_lt b4
    have e5 : addI64 (i : Int) 1 = ((i + 1 : Nat) : Int) := addI64_one_ofNat b5
    rw [Gen.Ssa3.bitmap_Join_loop1, joinLoop]
    simp only [ht, Int.ofNat_lt, hil, decide_true, ↓reduceIte, index_ofNat, he, Option.bind_some, e0, e1, e2, e3, e4,
      tblMask_ofNat (by omega : size < 65), andU64_eq, orU64_eq, shlU64_eq]
    cases hw : buf[i * size / 64]? with
    | none => simp only [Option.bind_none]
    | some w =>
      have hj : i * size / 64 < buf.length := by
        have := (List.getElem?_eq_some_iff.mp hw).1; exact this
      simp only [Option.bind_some, setIdx_ofNat buf _ hj]
      exact Join_loop fuel subs size hsize hlen es (i + 1) g (i : Int) _ (drop_succ_of_drop_eq_cons hr) b6 b7 e5

/-- Domain: `size` an `int32` value in `0 … 64` (given as a natural number), `subs` with fewer than `2^56` elements (so
    that `size * len(subs) + 63` fits an `int`); NO hypothesis on the elements of `subs`.  Fuel: every
    `fuel ≥ len(subs) + 1`.  Where the Go function panics (index out of range: cannot happen here, the allocated slice
    is long enough, but this is not needed for the tie) the model is `none` as well.

    Why `size ≤ 64`: the Go code reads the table `Mask[size]` (65 entries) and PANICS for `size > 64` (and non-empty
    `subs`), whereas the model `bmJoin` uses the function `mask size = 2^size - 1` and does not: outside `0 … 64` the
    model and the code differ (for `size > 64` and `subs ≠ []`; a negative `size` is not expressible in the model). -/
theorem Tie_bitmap_Join (subs : List Nat) (size fuel : Nat) (hsize : size ≤ 64) (hlen : subs.length < 2^56)
    (hfuel : subs.length + 1 ≤ fuel) :
    Gen.Ssa3.bitmap_Join fuel subs (size : Int) = bmJoin subs size := by
  have hmul : size * subs.length ≤ 64 * subs.length := Nat.mul_le_mul_right _ hsize
  have e0 : toI64 (size : Int) = (size : Int) := toI64_ofNat_lt (by omega)
  have e1 : mulI64 (size : Int) (subs.length : Int) = ((size * subs.length : Nat) : Int) :=
    mulI64_ofNat (by omega)
  have e2 : addI64 ((size * subs.length : Nat) : Int) 63 = ((size * subs.length + 63 : Nat) : Int) :=
    addI64_ofNat (b := 63) (by omega)
  have e3 : andI64 ((size * subs.length + 63 : Nat) : Int) (-64)
      = (((size * subs.length + 63) / 64 * 64 : Nat) : Int) := andI64_neg64_ofNat (by omega)
  have e4 : shrI64 (((size * subs.length + 63) / 64 * 64 : Nat) : Int) 6
      = (((size * subs.length + 63) / 64 : Nat) : Int) := by
    rw [shrI64_6_ofNat, Nat.mul_div_cancel _ (by omega)]
  rw [Gen.Ssa3.bitmap_Join]
  simp only [len_eq, e0, e1, e2, e3, e4, makeSlice_ofNat, Option.bind_some]
  exact Join_loop fuel subs size hsize hlen subs 0 fuel (-1) _ (by simp) (by omega) (by omega) addI64_neg_one_one

example : Gen.Ssa3.bitmap_Join 4 [5, 3, 0xff] 4 = some [0xf35] := by decide +kernel
example : bmJoin [5, 3, 0xff] 4 = some [0xf35] := by decide +kernel
example : Gen.Ssa3.bitmap_Join 1 [] 7 = some [] := by decide +kernel
example : Gen.Ssa3.bitmap_Join 3 [1, 1] 64 = some [1, 1] := by decide +kernel
example : Gen.Ssa3.bitmap_Join 3 [5, 3, 0xff] 4 = none := by decide +kernel
-- outside the domain the code panics and the model does not
example : Gen.Ssa3.bitmap_Join 3 [1] 65 = none := by decide +kernel
example : bmJoin [1] 65 = some [1, 0] := by decide +kernel

end Low
