import LowModel.Bitmap.Tail
import LowProofs.Tie3.Lemmas
/-
  For the ties of `bitmap.TailBitmap`: `tail_word` (the word of a bit at or after `Offset`; `Get`, `Get1`), with the
  fact it needs that an int64 difference that wraps is negative; `l * 2` on a length and the all-ones word as a
  literal (`Compact`).
-/
namespace Low.TailL
open Low Low.GoSem Low.GoSem3 Low.TieL Low.Tie2L Low.Tie3L

theorem mulI64_two_ofNat {l : Nat} (h : 2 * l < 9223372036854775808) : mulI64 (l : Int) 2 = ((2 * l : Nat) : Int) := by
  rw [mulI64]; exact (wrap64_id (by omega) (by omega)).trans (by omega)

theorem subI64_wrap_neg {a b : Int} (ha : a < 9223372036854775808) (hb : -9223372036854775808 ≤ b)
    (h : 9223372036854775808 ≤ a - b) : subI64 a b < 0 := by
  rw [subI64]; unfold wrap64; simp only [M64]; omega

theorem allOnes64_eq : allOnes64 = 18446744073709551615 := by decide

/-- `Get` / `Get1` for `idx ≥ Offset`: the word of bit `k = idx - Offset` is read and `F` (which computes `G` of the
    word and `k % 64`) runs; a difference that wraps (Go: negative word index) and a word index beyond `ws` panic on
    both sides -/
theorem tail_word (off idx : Int) (ws : List Nat) (hi2 : idx < 9223372036854775808)
    (ho1 : -9223372036854775808 ≤ off) (hlen : 64 * ws.length < 9223372036854775808) (hlt : ¬ idx < off)
    (F : Nat → Int → Option Nat) (G : Nat → Nat → Nat) (hF : ∀ w j : Nat, j < 64 → F w (j : Int) = some (G w j)) :
    ((index ws (shrI64 (subI64 idx off) 6)).bind fun w => F w (andI64 (subI64 idx off) 63))
      = match ws[(idx - off).toNat / 64]? with
        | none => none
        | some w => some (G w ((idx - off).toNat % 64)) := by
  by_cases hw : idx - off < 9223372036854775808
  · obtain ⟨k, hk⟩ : ∃ k : Nat, idx - off = (k : Int) := ⟨(idx - off).toNat, by omega⟩
    rw [subI64_id (by omega) hw, hk, Int.toNat_natCast, shrI64_6_ofNat, index_ofNat, andI64_63_ofNat]
    cases ws[k / 64]? with
    | none => rfl
    | some w => exact hF w _ (Nat.mod_lt k (by omega))
  · have h6 : shrI64 (subI64 idx off) 6 < 0 := by
      have := subI64_wrap_neg hi2 ho1 (by omega); rw [shrI64_6]; omega
    rw [index_neg _ h6, List.getElem?_eq_none (by omega)]
    rfl

end Low.TailL
