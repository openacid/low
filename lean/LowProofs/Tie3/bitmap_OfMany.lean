import Generated.Ssa3.bitmap_OfMany
import LowProofs.Tie3.bitmap_Of
import LowModel.Bitmap.Of
/-
  Tie: the definition regenerated from the SSA form of `bitmap.OfMany` equals the hand-written model `ofMany`.
  Three generated loops: `bitmap_OfMany_loop1` sums the lengths (`totalBits`), then `r := make([]int32, totalBits)`;
  `bitmap_OfMany_loop4` (outer, over `subs`) and `bitmap_OfMany_loop7` (inner, over one `sub`; it receives the outer
  loop's continuation as `blk4`) fill `r` at the running index `ith`; finally `Of(r, base)` (tie: `Tie_bitmap_Of`).

  Steps: `OfMany_loop7` / `OfMany_loop4` show, WITHOUT any range hypothesis, that the two nested loops compute
  `flatC` (the model's `ofManyFlat` with Go's wrapping int32 addition); `flatC_eq` relates `flatC` to `ofManyFlat`
  (int32 addition is addition modulo `2^32`, so the accumulated `base` is the int32 image of the model's `base`);
  on the domain the images are the values themselves.
-/
namespace Low
open Low.GoSem Low.TieL Low.Tie2L Low.Tie3L

/-- `buf` with the elements `ith, ith+1, …` overwritten by `xs` -/
def splice (buf : List Int) (ith : Nat) (xs : List Int) : List Int :=
  buf.take ith ++ xs ++ buf.drop (ith + xs.length)

theorem splice_nil (buf : List Int) (ith : Nat) : splice buf ith [] = buf := by simp [splice]

theorem splice_length (buf : List Int) (ith : Nat) (xs : List Int) (h : ith + xs.length ≤ buf.length) :
    (splice buf ith xs).length = buf.length := by
  simp [splice]; omega

theorem splice_set_cons (buf : List Int) (ith : Nat) (v : Int) (xs : List Int) (h : ith < buf.length) :
    splice (buf.set ith v) (ith + 1) xs = splice buf ith (v :: xs) := by
  unfold splice
  rw [take_set_succ buf ith v h, List.drop_set_of_lt (by omega)]
  have : ith + 1 + xs.length = ith + (v :: xs).length := by simp only [List.length_cons]; omega
  rw [this]
  simp

theorem splice_take (buf : List Int) (ith : Nat) (xs : List Int) (h : ith ≤ buf.length) :
    (splice buf ith xs).take (ith + xs.length) = buf.take ith ++ xs := by
  unfold splice
  exact List.take_left' (by simp; omega)

theorem length_le_sum_of_mem : ∀ (subs : List (List Int)) (e : List Int), e ∈ subs →
    e.length ≤ (subs.map List.length).sum
  | [], _, h => by cases h
  | a :: r, e, h => by
    simp only [List.map_cons, List.sum_cons]
    rcases List.mem_cons.mp h with rfl | h
    · omega
    · have := length_le_sum_of_mem r e h; omega

/-- `ofManyFlat` with Go's int32 `+` -/
def flatC : List (List Int) → List Int → Int → Option (List Int × Int)
  | [], _, base => some ([], base)
  | _ :: _, [], _ => none
  | e :: subs, s :: sizes, base =>
      match flatC subs sizes (addI32 base s) with
      | none => none
      | some (r, b) => some (e.map (addI32 base ·) ++ r, b)

theorem flatC_length : ∀ (subs : List (List Int)) (sizes : List Int) (base : Int) (r : List Int) (b : Int),
    flatC subs sizes base = some (r, b) → r.length = (subs.map List.length).sum
  | [], _, base, r, b, h => by
    rw [flatC] at h; injection h with h; injection h with h1 h2; subst h1; rfl
  | _ :: _, [], _, r, b, h => by rw [flatC] at h; cases h
  | e :: subs, s :: sizes, base, r, b, h => by
    rw [flatC] at h
    cases hf : flatC subs sizes (addI32 base s) with
    | none => rw [hf] at h; cases h
    | some rb =>
      obtain ⟨r', b'⟩ := rb
      rw [hf] at h
      injection h with h; injection h with h1 h2; subst h1
      have := flatC_length subs sizes _ r' b' hf
      simp [this]

theorem wrap32_add_right (a b : Int) : wrap32 (a + wrap32 b) = wrap32 (a + b) := wrap32_add_wrap32 a b

/-- the code's `base` is the int32 image of the model's, the code's entries are the int32 images of the model's -/
theorem flatC_eq : ∀ (subs : List (List Int)) (sizes : List Int) (base : Int),
    flatC subs sizes (wrap32 base)
      = (ofManyFlat subs sizes base).map (fun rb => (rb.1.map wrap32, wrap32 rb.2))
  | [], _, base => by rw [flatC, ofManyFlat]; rfl
  | _ :: _, [], _ => by rw [flatC, ofManyFlat]; rfl
  | e :: subs, s :: sizes, base => by
    have e1 : addI32 (wrap32 base) s = wrap32 (base + s) := by rw [addI32, wrap32_wrap32_add]
    have e2 : e.map (addI32 (wrap32 base) ·) = (e.map (base + ·)).map wrap32 := by
      rw [List.map_map]
      apply List.map_congr_left
      intro x _
      simp only [Function.comp_apply, addI32, wrap32_wrap32_add]
    rw [flatC, ofManyFlat, e1, flatC_eq subs sizes (base + s), e2]
    cases ofManyFlat subs sizes (base + s) with
    | none => rfl
    | some rb => obtain ⟨r, b⟩ := rb; simp

/-- the inner loop over one `sub` (= `e`), about to read `e[j]` and to write `buf[ith]`; `k` is the continuation
    (the next iteration of the outer loop) -/
theorem OfMany_loop7 (fuel : Nat) (subs : List (List Int)) (sizes : List Int) (t11 t14 : Int) (e : List Int)
    (k : Int → Int → Int → List Int → Option (List Nat)) (he : e.length < 2^63) :
    ∀ (rest : List Int) (j gas ith : Nat) (buf : List Int), rest = e.drop j → j ≤ e.length → rest.length + 1 ≤ gas →
      ith + rest.length ≤ buf.length → buf.length < 2^63 →
      Gen.Ssa3.bitmap_OfMany_loop7 fuel subs sizes t11 t14 e (e.length : Int) k gas (ith : Int) ((j : Int) - 1) buf
        = (index sizes t14).bind (fun s => k (addI32 t11 s) ((ith + rest.length : Nat) : Int) t14
            (splice buf ith (rest.map (addI32 t11 ·))))
  | [], j, gas, ith, buf, hr, hj, hg, hb, hbl => by
    obtain ⟨g, rfl, hg'⟩ := gas_pos hg
    have hjl : e.length ≤ j := drop_eq_nil_le hr
    have e1 : addI64 ((j : Int) - 1) 1 = (j : Int) := addI64_pred_one (by omega)
    have hlt : ¬ (j < e.length) := by omega
    rw [Gen.Ssa3.bitmap_OfMany_loop7]
    simp only [e1, Int.ofNat_lt, hlt, decide_false, Bool.false_eq_true, ↓reduceIte, List.length_nil, Nat.add_zero,
      List.map_nil, splice_nil]
  | x :: r, j, gas, ith, buf, hr, hj, hg, hb, hbl => by
    obtain ⟨g, rfl, hg'⟩ := gas_pos hg
    have hjl : j < e.length := drop_eq_cons_lt hr
    have hx : e[j]? = some x := getElem?_of_drop_eq_cons hr
    simp only [List.length_cons] at hg hb
    have hil : ith < buf.length := by omega
    have e1 : addI64 ((j : Int) - 1) 1 = (j : Int) := addI64_pred_one (by omega)
    have e2 : addI64 (ith : Int) 1 = ((ith + 1 : Nat) : Int) := addI64_one_ofNat (by omega)
    have ih := OfMany_loop7 fuel subs sizes t11 t14 e k he r (j + 1) g (ith + 1) (buf.set ith (addI32 t11 x))
      (drop_succ_of_drop_eq_cons hr) (by omega) (by omega) (by simp only [List.length_set]; omega)
      (by simp only [List.length_set]; omega)
    rw [show ((j + 1 : Nat) : Int) - 1 = (j : Int) by omega] at ih
    rw [Gen.Ssa3.bitmap_OfMany_loop7]
    simp only [e1, Int.ofNat_lt, hjl, decide_true, ↓reduceIte, index_ofNat, hx, Option.bind_some,
      setIdx_ofNat buf _ hil, e2, ih, splice_set_cons buf ith _ _ hil, List.map_cons, List.length_cons]
    have : ith + 1 + r.length = ith + (r.length + 1) := by omega
    rw [this]

/-- the outer loop, about to read `subs[i]`, with `ith` elements of `buf` written; no range hypothesis -/
theorem OfMany_loop4 (fuel : Nat) (subs : List (List Int)) (sizes : List Int) (hsl : subs.length < 2^63)
    (hfuel : ∀ e ∈ subs, e.length + 1 ≤ fuel) :
    ∀ (rest : List (List Int)) (i gas ith : Nat) (t11 : Int) (buf : List Int), rest = subs.drop i →
      i ≤ subs.length → rest.length + 1 ≤ gas → ith + (rest.map List.length).sum = buf.length → buf.length < 2^63 →
      Gen.Ssa3.bitmap_OfMany_loop4 fuel subs sizes (subs.length : Int) gas t11 (ith : Int) ((i : Int) - 1) buf
        = match flatC rest (sizes.drop i) t11 with
          | none => none
          | some (r, b) => Gen.Ssa3.bitmap_Of fuel (buf.take ith ++ r) [b]
  | [], i, gas, ith, t11, buf, hr, hi, hg, hb, hbl => by
    obtain ⟨g, rfl, hg'⟩ := gas_pos hg
    have hil : subs.length ≤ i := drop_eq_nil_le hr
    have e1 : addI64 ((i : Int) - 1) 1 = (i : Int) := addI64_pred_one (by omega)
    have hlt : ¬ (i < subs.length) := by omega
    have hith : ith = buf.length := by simpa using hb
    rw [Gen.Ssa3.bitmap_OfMany_loop4, flatC]
    simp only [e1, Int.ofNat_lt, hlt, decide_false, Bool.false_eq_true, ↓reduceIte, setIdx_newArray_one,
      Option.bind_some, Option.bind_fun_some, hith, List.take_length, List.append_nil]
  | e :: r, i, gas, ith, t11, buf, hr, hi, hg, hb, hbl => by
    obtain ⟨g, rfl, hg'⟩ := gas_pos hg
    have hil : i < subs.length := drop_eq_cons_lt hr
    have he : subs[i]? = some e := getElem?_of_drop_eq_cons hr
    have hmem : e ∈ subs := List.mem_of_getElem? he
    simp only [List.length_cons] at hg
    simp only [List.map_cons, List.sum_cons] at hb
    have e1 : addI64 ((i : Int) - 1) 1 = (i : Int) := addI64_pred_one (by omega)
    have h7 := OfMany_loop7 fuel subs sizes t11 (i : Int) e
      (Gen.Ssa3.bitmap_OfMany_loop4 fuel subs sizes (subs.length : Int) g) (by omega) e 0 fuel ith buf
      (by simp) (by omega) (hfuel e hmem) (by omega) hbl
    rw [show ((0 : Nat) : Int) - 1 = -1 from rfl] at h7
    rw [Gen.Ssa3.bitmap_OfMany_loop4]
    simp only [e1, Int.ofNat_lt, hil, decide_true, ↓reduceIte, index_ofNat, he, Option.bind_some, len_eq, h7]
    cases hs : sizes.drop i with
    | nil =>
      rw [getElem?_of_drop_eq_nil hs.symm, flatC]; rfl
    | cons s srest =>
      have hsz : sizes[i]? = some s := getElem?_of_drop_eq_cons hs.symm
      have hlen' : (splice buf ith (e.map (addI32 t11 ·))).length = buf.length :=
        splice_length _ _ _ (by simp only [List.length_map]; omega)
      have ih := OfMany_loop4 fuel subs sizes hsl hfuel r (i + 1) g (ith + e.length) (addI32 t11 s)
        (splice buf ith (e.map (addI32 t11 ·))) (drop_succ_of_drop_eq_cons hr) (by omega) (by omega)
        (by rw [hlen']; omega) (by rw [hlen']; exact hbl)
      rw [show ((i + 1 : Nat) : Int) - 1 = (i : Int) by omega, ← drop_succ_of_drop_eq_cons hs.symm] at ih
      have htake : (splice buf ith (e.map (addI32 t11 ·))).take (ith + e.length) = buf.take ith ++ e.map (addI32 t11 ·) := by
        have := splice_take buf ith (e.map (addI32 t11 ·)) (by omega)
        rwa [List.length_map] at this
      rw [hsz, Option.bind_some, ih, flatC, htake]
      cases flatC r srest (addI32 t11 s) with
      | none => rfl
      | some rb => obtain ⟨r', b⟩ := rb; simp only [List.append_assoc]

/-- the first loop: `totalBits += len(sb)`, then the allocation and the outer loop -/
theorem OfMany_loop1 (fuel : Nat) (subs : List (List Int)) (sizes : List Int) (hsl : subs.length < 2^63) :
    ∀ (rest : List (List Int)) (i gas acc : Nat), rest = subs.drop i → i ≤ subs.length → rest.length + 1 ≤ gas →
      acc + (rest.map List.length).sum < 2^63 →
      Gen.Ssa3.bitmap_OfMany_loop1 fuel subs sizes (subs.length : Int) gas (acc : Int) ((i : Int) - 1)
        = Gen.Ssa3.bitmap_OfMany_loop4 fuel subs sizes (subs.length : Int) fuel 0 0 (-1)
            (List.replicate (acc + (rest.map List.length).sum) 0)
  | [], i, gas, acc, hr, hi, hg, ha => by
    obtain ⟨g, rfl, hg'⟩ := gas_pos hg
    have hil : subs.length ≤ i := drop_eq_nil_le hr
    have e1 : addI64 ((i : Int) - 1) 1 = (i : Int) := addI64_pred_one (by omega)
    have hlt : ¬ (i < subs.length) := by omega
    rw [Gen.Ssa3.bitmap_OfMany_loop1]
    simp only [e1, Int.ofNat_lt, hlt, decide_false, Bool.false_eq_true, ↓reduceIte, makeSlice_ofNat,
      Option.bind_some, len_eq, List.map_nil, List.sum_nil, Nat.add_zero]
  | e :: r, i, gas, acc, hr, hi, hg, ha => by
    obtain ⟨g, rfl, hg'⟩ := gas_pos hg
    have hil : i < subs.length := drop_eq_cons_lt hr
    have he : subs[i]? = some e := getElem?_of_drop_eq_cons hr
    simp only [List.length_cons] at hg
    simp only [List.map_cons, List.sum_cons] at ha ⊢
    have e1 : addI64 ((i : Int) - 1) 1 = (i : Int) := addI64_pred_one (by omega)
    have e2 : addI64 (acc : Int) (e.length : Int) = ((acc + e.length : Nat) : Int) := addI64_ofNat (by omega)
    have ih := OfMany_loop1 fuel subs sizes hsl r (i + 1) g (acc + e.length) (drop_succ_of_drop_eq_cons hr) (by omega)
      (by omega) (by omega)
    rw [show ((i + 1 : Nat) : Int) - 1 = (i : Int) by omega] at ih
    rw [Gen.Ssa3.bitmap_OfMany_loop1]
    simp only [e1, Int.ofNat_lt, hil, decide_true, ↓reduceIte, index_ofNat, he, Option.bind_some, len_eq, e2, ih,
      Nat.add_assoc]

/-- Domain.  `subs` a slice of int32 slices, `sizes` a slice of int32.  Hypotheses:
    * `subs.length < 2^63` and the total number of positions `Σ len(subs[i]) < 2^63` (Go lengths fit an `int`; the sum
      is the length of the slice `r` the function allocates),
    * `hdom`, stated on the model's flattened list `ofManyFlat subs sizes 0 = some (r, b)` (`r` = all the sums
      `base_i + idx` with `base_i = sizes[0] + … + sizes[i-1]`, in order; `b` = the final `base`, the sum of
      `sizes[0 .. len(subs)-1]`): every entry of `r` is an int32 value, `b` is an int32 value, and — the domain of
      `Of`, see `Tie_bitmap_Of` — the last entry of `r` is `< 2^31 - 64` and `b ≤ 2^31 - 64`.
      The Go code computes `base + idx` and `base += sizes[i]` in int32 (wrapping), the model in unbounded integers:
      when an entry or the final base leaves the int32 range the two DIFFER (outside the documented domain).
      The INTERMEDIATE values of `base` need not be in range, nor the elements of `subs`/`sizes` themselves: int32
      addition is addition modulo `2^32`, so only the exact sums that are used matter.
    When `sizes` is shorter than `subs` both sides are `none` (`hdom` is vacuous there); a negative entry, or entries
    that are not ascending far enough to leave the allocated words, panic inside `Of` on both sides.
    Fuel: every `fuel ≥ max(len(subs), Σ len(subs[i])) + 1` (each loop instance starts with the full fuel: the first
    and the outer loop run `len(subs)` times, an inner loop `len(subs[i])` times, the loop of `Of` `Σ len(subs[i])`
    times, each plus the final test). -/
theorem Tie_bitmap_OfMany (subs : List (List Int)) (sizes : List Int) (fuel : Nat)
    (hsl : subs.length < 2^63) (htot : (subs.map List.length).sum < 2^63)
    (hdom : ∀ r b, ofManyFlat subs sizes 0 = some (r, b) →
      (∀ x ∈ r, -2^31 ≤ x ∧ x < 2^31) ∧ (∀ l, r.getLast? = some l → l < 2^31 - 64) ∧ -2^31 ≤ b ∧ b < 2^31 - 63)
    (hfuel : max subs.length (subs.map List.length).sum + 1 ≤ fuel) :
    Gen.Ssa3.bitmap_OfMany fuel subs sizes = ofMany subs sizes := by
  have hfuel7 : ∀ e ∈ subs, e.length + 1 ≤ fuel := by
    intro e he; have := length_le_sum_of_mem subs e he; omega
  have h1 := OfMany_loop1 fuel subs sizes hsl subs 0 fuel 0 (by simp) (by omega) (by omega) (by omega)
  rw [show ((0 : Nat) : Int) - 1 = -1 from rfl, show ((0 : Nat) : Int) = 0 from rfl, Nat.zero_add] at h1
  have h4 := OfMany_loop4 fuel subs sizes hsl hfuel7 subs 0 fuel 0 0
    (List.replicate (subs.map List.length).sum 0) (by simp) (by omega) (by omega) (by simp) (by simpa using htot)
  rw [show ((0 : Nat) : Int) - 1 = -1 from rfl, show ((0 : Nat) : Int) = 0 from rfl, List.drop_zero] at h4
  have hf := flatC_eq subs sizes 0
  rw [show wrap32 0 = 0 by decide] at hf
  rw [Gen.Ssa3.bitmap_OfMany]
  simp only [len_eq]
  rw [h1, h4, ofMany]
  cases hm : ofManyFlat subs sizes 0 with
  | none => rw [hm] at hf; rw [hf]; rfl
  | some rb =>
    obtain ⟨r, b⟩ := rb
    obtain ⟨hr, hlast, hb0, hb1⟩ := hdom r b hm
    rw [hm] at hf
    have hrw : r.map wrap32 = r := by
      have : ∀ x ∈ r, wrap32 x = id x := fun x hx => wrap32_id (by have := hr x hx; omega) (by have := hr x hx; omega)
      rw [List.map_congr_left this, List.map_id]
    have hbw : wrap32 b = b := wrap32_id (by omega) (by omega)
    simp only [Option.map_some, hrw, hbw] at hf
    have hrl : r.length = (subs.map List.length).sum := flatC_length subs sizes 0 r b hf
    rw [hf]
    simp only [List.take_zero, List.nil_append]
    rw [Tie_bitmap_Of r [b] fuel (by omega) hlast (by intro n hn; cases hn; exact hb1) (by omega)]
    rfl

example : Gen.Ssa3.bitmap_OfMany 5 [[0, 2], [], [1, 63]] [4, 60, 64] = some [5, 0x8000000000000002] := by decide +kernel
example : ofMany [[0, 2], [], [1, 63]] [4, 60, 64] = some [5, 0x8000000000000002] := by decide +kernel
-- `sizes` shorter than `subs`: index out of range
example : Gen.Ssa3.bitmap_OfMany 5 [[0, 2], [], [1, 63]] [4, 60] = none := by decide +kernel
example : ofMany [[0, 2], [], [1, 63]] [4, 60] = none := by decide +kernel
-- an intermediate `base` beyond int32 (2^31 after two steps, wrapped by the code) is harmless: `hdom` holds, both agree
example : Gen.Ssa3.bitmap_OfMany 5 [[], [], [], [3]] [2147483647, 1, -2147483648, 10] = some [8] := by decide +kernel
example : ofMany [[], [], [], [3]] [2147483647, 1, -2147483648, 10] = some [8] := by decide +kernel
-- out of fuel (4 positions need 5 units in the loop of `Of`)
example : Gen.Ssa3.bitmap_OfMany 4 [[0, 2], [], [1, 63]] [4, 60, 64] = none := by decide +kernel

end Low
