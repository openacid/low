import Generated.Ssa3.bitword_bitWord_FromStr
import LowProofs.Tie3.Lemmas
import LowModel.Bitword
/-
  Tie: the definition regenerated from the SSA form of `(*bitword.bitWord).FromStr` (two NESTED loops that fill a
  slice allocated with `make`) equals the hand-written model `bwFromStr`.  The generated definition takes the
  receiver's fields `width`, `byteCap`, `wordMask` as arguments; the theorem instantiates them with the values that
  `newBW(n)` stores: `width = n`, `byteCap = 8/n`, `wordMask = bwWordMask n`.

  The loop lemmas are stated for arbitrary `n`, `m` with `n * m = 8` (so `1 ≤ n, m ≤ 8`) and an arbitrary mask; the
  case split on `n ∈ {1,2,4,8}` is only needed to get `n * (8 / n) = 8` in the main theorem.
  * inner loop (`_loop6`, over `j < m`, generic in the outer loop's continuation `k`): the buffer is
    `pre ++ zeros` with `pre.length = i*m + j`; the loop appends the words `j, j+1, …, m-1` of the byte `b` to `pre`
    and calls `k (i+1)`;
  * outer loop (`_loop3`, over the suffix `s.drop i`): the buffer is `pre ++ zeros` with `pre.length = i*m`.
-/
namespace Low
open Low.GoSem Low.GoSem3 Low.TieL Low.Tie2L Low.Tie3L

/-- a theorem, not a `rfl`-lemma, on purpose: `simp only [andU8]` unfolds by definitional equality and the kernel then
    reports "deep recursion" on the big unfolded term -/
theorem FromStr_andU8_eq (x y : Nat) : andU8 x y = x &&& y := by rw [andU8]

/-- inner loop at word `j ≤ m` of byte `b`: the buffer is `pre ++ zeros` with `pre.length = i*m + j`, `d = m - j` words are
    still to be written; gas `d + 1` -/
theorem FromStr_inner (fuel n m : Nat) (bc : Int) (mask : Nat) (s : List Nat) (b i : Nat)
    (k : Int → List Nat → Option (List Nat)) (hnm : n * m = 8) (hi : i < 2^32) :
    ∀ (d j gas : Nat) (pre : List Nat) (z : Nat), d = m - j → j ≤ m → d + 1 ≤ gas → pre.length = i * m + j →
      Gen.Ssa3.bitword_bitWord_FromStr_loop6 fuel (n : Int) bc mask s (m : Int) b (i : Int) k gas (j : Int)
          (pre ++ List.replicate (d + z) 0)
        = k ((i + 1 : Nat) : Int)
            ((pre ++ (List.range' j d).map fun j => (b >>> (8 - n * j - n)) &&& mask) ++ List.replicate z 0)
  | 0, j, gas, pre, z, hd, hj, hg, hp => by
    obtain ⟨g, rfl, hg'⟩ := gas_pos hg
    have hjm : ¬ ((j : Int) < (m : Int)) := by omega
    have e1 : addI64 (i : Int) 1 = ((i + 1 : Nat) : Int) := addI64_one_ofNat (by omega)
    rw [Gen.Ssa3.bitword_bitWord_FromStr_loop6]
    simp only [hjm, decide_false, Bool.false_eq_true, ↓reduceIte, e1, Nat.zero_add, List.range'_zero, List.map_nil,
      List.append_nil]
  | d + 1, j, gas, pre, z, hd, hj, hg, hp => by
    obtain ⟨g, rfl, hg'⟩ := gas_pos hg
    have hjm : j < m := by omega
    have hm8 : m ≤ 8 := Nat.le_of_dvd (by omega) ⟨n, by rw [Nat.mul_comm]; exact hnm.symm⟩
    have hnj : n * j + n ≤ n * m := by rw [← Nat.mul_succ]; exact Nat.mul_le_mul_left n hjm
    have him : i * m ≤ i * 8 := Nat.mul_le_mul_left i hm8
    -- the range facts of one iteration, by one `omega` call, and BEFORE the `Int` equations `e1 … e9` enter the context
    -- (with a hypothesis such as `addI64 ↑j 1 = ↑(j + 1)` the kernel reports "deep recursion" on `omega`'s proofs)
    have H : i * m < 9223372036854775808 ∧ i * m + j < 9223372036854775808 ∧ n * j < 9223372036854775808 ∧
        n * j ≤ 8 ∧ n ≤ 8 - n * j ∧ 8 - n * j < 9223372036854775808 ∧ 8 - n * j - n < 18446744073709551616 ∧
        8 - n * j - n < 8 ∧ j + 1 < 9223372036854775808 ∧ 0 < n := by
      have hn0 : n ≠ 0 := fun h => by rw [h, Nat.zero_mul] at hnm; cases hnm
      omega
    obtain ⟨h1, h2, h3, h4, h5, h6, h7, h8, h9, -⟩ := H
    have hbuf : pre ++ List.replicate (d + 1 + z) 0 = pre ++ List.replicate ((d + z) + 1) 0 := by
      rw [Nat.add_right_comm d 1 z]
    have e9 : setIdx (pre ++ List.replicate (d + 1 + z) 0) ((i * m + j : Nat) : Int)
          ((b >>> (8 - n * j - n)) &&& mask)
        = some ((pre ++ [(b >>> (8 - n * j - n)) &&& mask]) ++ List.replicate (d + z) 0) := by
      rw [hbuf, setIdx_ofNat _ _ (by rw [List.length_append, List.length_replicate, hp]; exact Nat.lt_add_of_pos_right (Nat.succ_pos _)),
        ← hp, set_append_replicate]
    have ih := FromStr_inner fuel n m bc mask s b i k hnm hi d (j + 1) g
      (pre ++ [(b >>> (8 - n * j - n)) &&& mask]) z (by omega) hjm hg'
      (by rw [List.length_append, hp]; rfl)
    have e1 : mulI64 (i : Int) (m : Int) = ((i * m : Nat) : Int) := mulI64_ofNat h1
    have e4 : subI64 (8 : Int) ((n * j : Nat) : Int) = ((8 - n * j : Nat) : Int) :=
      subI64_ofNat (a := 8) h4 (by decide)
    have e7 : shrU8 b (8 - n * j - n) = b >>> (8 - n * j - n) := by rw [shrU8, if_pos h8]
    rw [Gen.Ssa3.bitword_bitWord_FromStr_loop6]
    simp only [Int.ofNat_lt, hjm, decide_true, ↓reduceIte, e1, addI64_ofNat h2, mulI64_ofNat h3, e4, subI64_ofNat h5 h6, toU64_ofNat_lt h7, e7, FromStr_andU8_eq, e9, Option.bind_some, addI64_one_ofNat h9]
    rw [ih]
    simp only [List.range'_succ, List.map_cons, List.append_assoc, List.cons_append, List.nil_append]

/-- outer loop at byte `i` on `rest = s.drop i`: the buffer is `pre ++ zeros` with `pre.length = i*m`; gas `rest.length + 1`,
    and `fuel ≥ m + 1` for each run of the inner loop -/
theorem FromStr_outer (fuel n m : Nat) (bc : Int) (mask : Nat) (s : List Nat) (hnm : n * m = 8)
    (hlen : s.length < 2^32) (hfuel : m + 1 ≤ fuel) :
    ∀ (rest : List Nat) (i gas : Nat) (pre : List Nat), rest = s.drop i → rest.length + 1 ≤ gas →
      pre.length = i * m →
      Gen.Ssa3.bitword_bitWord_FromStr_loop3 fuel (n : Int) bc mask s (m : Int) (s.length : Int) gas (i : Int)
          (pre ++ List.replicate (rest.length * m) 0)
        = some (pre ++ rest.flatMap fun b => (List.range m).map fun j => (b >>> (8 - n * j - n)) &&& mask)
  | [], i, gas, pre, hr, hg, hp => by
    obtain ⟨g, rfl, hg'⟩ := gas_pos hg
    have hil : ¬ ((i : Int) < (s.length : Int)) := by have := drop_eq_nil_le hr; omega
    rw [Gen.Ssa3.bitword_bitWord_FromStr_loop3]
    simp only [hil, decide_false, Bool.false_eq_true, ↓reduceIte, List.length_nil, Nat.zero_mul, List.replicate_zero,
      List.flatMap_nil]
  | b :: r, i, gas, pre, hr, hg, hp => by
    obtain ⟨g, rfl, hg'⟩ := gas_pos hg
    have hil : i < s.length := drop_eq_cons_lt hr
    have hb : s[i]? = some b := getElem?_of_drop_eq_cons hr
    have hz : (r.length + 1) * m = m + r.length * m := by rw [Nat.succ_mul]; omega
    have hin := FromStr_inner fuel n m bc mask s b i
      (Gen.Ssa3.bitword_bitWord_FromStr_loop3 fuel (n : Int) bc mask s (m : Int) (s.length : Int) g)
      hnm (by omega) m 0 fuel pre (r.length * m) (by omega) (by omega) (by omega) (by omega)
    have ih := FromStr_outer fuel n m bc mask s hnm hlen hfuel r (i + 1) g
      (pre ++ (List.range' 0 m).map fun j => (b >>> (8 - n * j - n)) &&& mask)
      (drop_succ_of_drop_eq_cons hr) hg'
      (by simp only [List.length_append, List.length_map, List.length_range', hp, Nat.succ_mul])
    rw [Gen.Ssa3.bitword_bitWord_FromStr_loop3]
    simp only [Int.ofNat_lt, hil, decide_true, ↓reduceIte, index_ofNat, hb, Option.bind_some, List.length_cons, hz,
      Int.natCast_zero] at hin ⊢
    rw [hin, ih]
    simp only [List.flatMap_cons, List.range_eq_range', List.append_assoc]

theorem FromStr_main (fuel n m : Nat) (s : List Nat) (hnm : n * m = 8) (hlen : s.length < 2^32)
    (hfuel : s.length + 9 ≤ fuel) :
    Gen.Ssa3.bitword_bitWord_FromStr fuel (n : Int) (m : Int) (bwWordMask n) s
      = some (s.flatMap fun b => (List.range m).map fun j => (b >>> (8 - n * j - n)) &&& bwWordMask n) := by
  have hm8 : m ≤ 8 := Nat.le_of_dvd (by omega) ⟨n, by rw [Nat.mul_comm]; exact hnm.symm⟩
  have hsm : s.length * m ≤ s.length * 8 := Nat.mul_le_mul_left _ hm8
  have e1 : mulI64 (s.length : Int) (m : Int) = ((s.length * m : Nat) : Int) := mulI64_ofNat (by omega)
  have h := FromStr_outer fuel n m (m : Int) (bwWordMask n) s hnm hlen (by omega) s 0 fuel [] (by simp) (by omega)
    (by simp)
  rw [Gen.Ssa3.bitword_bitWord_FromStr]
  simp only [len_eq, e1, makeSlice_ofNat, Option.bind_some]
  simp only [List.nil_append, Int.natCast_zero] at h
  rw [h]

/-- Domain: `n ∈ {1,2,4,8}` (the widths `newBW` accepts; the fields are `width = n`, `byteCap = 8/n`,
    `wordMask = bwWordMask n`), `s` any string shorter than `2^32` bytes (`hlen`: the `int` products `len(s)*byteCap`
    and `i*byteCap` do not wrap; NO hypothesis on the bytes: the generated `>>`/`&` on `byte` do not truncate, neither
    does the model).  Fuel: every `fuel ≥ len(s) + 9` (the outer loop needs `len(s) + 1` iterations of gas, each instance
    of the inner loop `8/n + 1 ≤ 9`).  The Go function cannot panic on this domain: the result is `some`. -/
theorem Tie_bitword_bitWord_FromStr (n : Nat) (s : List Nat) (fuel : Nat) (hn : n = 1 ∨ n = 2 ∨ n = 4 ∨ n = 8)
    (hlen : s.length < 2^32) (hfuel : s.length + 9 ≤ fuel) :
    Gen.Ssa3.bitword_bitWord_FromStr fuel (n : Int) ((8 / n : Nat) : Int) (bwWordMask n) s = some (bwFromStr n s) := by
  have hnm : n * (8 / n) = 8 := by rcases hn with h | h | h | h <;> subst h <;> rfl
  rw [FromStr_main fuel n (8 / n) s hnm hlen hfuel, bwFromStr]

example : Gen.Ssa3.bitword_bitWord_FromStr 11 2 4 3 [0x1b, 0xe4] = some [0, 1, 2, 3, 3, 2, 1, 0] := by decide +kernel
example : bwFromStr 2 [0x1b, 0xe4] = [0, 1, 2, 3, 3, 2, 1, 0] := by decide +kernel
example : Gen.Ssa3.bitword_bitWord_FromStr 10 4 2 15 [0x1b] = some [1, 11] := by decide +kernel
example : Gen.Ssa3.bitword_bitWord_FromStr 10 8 1 255 [0x1b, 7] = some [0x1b, 7] := by decide +kernel
-- out of fuel: the outer loop needs 3 iterations of gas (the inner loop 5)
example : Gen.Ssa3.bitword_bitWord_FromStr 2 2 4 3 [0x1b, 0xe4] = none := by decide +kernel
-- out of fuel in the inner loop (needs 9 for n = 1)
example : Gen.Ssa3.bitword_bitWord_FromStr 8 1 8 1 [0x1b] = none := by decide +kernel

end Low
