import Generated.Ssa3.sigbits_get64Bits
import LowProofs.Tie3.Lemmas
import LowModel.Sigbits
/-
  Tie: the definition regenerated from the SSA form of `sigbits.get64Bits` (loop-free; the short branch allocates an
  8-byte buffer with `make` and fills it with `copy`) equals the hand-written model `get64Bits` (a `foldl` over the
  8 byte positions of `s.getD j 0`).
-/
namespace Low
open Low.GoSem Low.GoSem3 Low.TieL Low.Tie2L Low.Tie3L

/-- the straight-line sum of both branches of the Go function, on the 8 byte values -/
def get64Chain (b0 b1 b2 b3 b4 b5 b6 b7 : Nat) : Nat :=
  add64 (add64 (add64 (add64 (add64 (add64 (add64 (shl64 b0 56) (shl64 b1 48)) (shl64 b2 40)) (shl64 b3 32))
    (shl64 b4 24)) (shl64 b5 16)) (shl64 b6 8)) b7

theorem add64_zero_shl64 (x s : Nat) : add64 0 (shl64 x s) = shl64 x s := by
  rw [add64, shl64]
  split
  · simp
  · rfl

theorem shl64_zero_byte {x : Nat} (h : x < 256) : shl64 x 0 = x := by
  apply Nat.mod_eq_of_lt
  simp only [M64]; omega

theorem get64Bits_eq_chain (s : List Nat) (hbytes : ∀ b ∈ s, b < 256) :
    get64Bits s = get64Chain (s.getD 0 0) (s.getD 1 0) (s.getD 2 0) (s.getD 3 0) (s.getD 4 0) (s.getD 5 0)
      (s.getD 6 0) (s.getD 7 0) := by
  rw [get64Bits, show List.range 8 = [0, 1, 2, 3, 4, 5, 6, 7] from rfl]
  simp only [List.foldl_cons, List.foldl_nil, get64Chain]
  rw [add64_zero_shl64]
  rw [shl64_zero_byte (getD_lt hbytes 7)]

/-- the straight-line code of either branch, reading a slice `t` whose first 8 elements are those of `s` (zero padded) -/
theorem get64_straight (t s : List Nat) (hbytes : ∀ b ∈ s, b < 256)
    (ht : ∀ k : Nat, k < 8 → index t (k : Int) = some (s.getD k 0)) :
    (Option.bind (GoSem.index t (0 : Int)) fun (t2 : Nat) =>
    let t3 : Nat := GoSem.toU64 (t2 : Int);
    let t4 : Nat := GoSem.shlU64 t3 (56 : Nat);
    Option.bind (GoSem.index t (1 : Int)) fun (t5 : Nat) =>
    let t6 : Nat := GoSem.toU64 (t5 : Int);
    let t7 : Nat := GoSem.shlU64 t6 (48 : Nat);
    let t8 : Nat := GoSem.addU64 t4 t7;
    Option.bind (GoSem.index t (2 : Int)) fun (t9 : Nat) =>
    let t10 : Nat := GoSem.toU64 (t9 : Int);
    let t11 : Nat := GoSem.shlU64 t10 (40 : Nat);
    let t12 : Nat := GoSem.addU64 t8 t11;
    Option.bind (GoSem.index t (3 : Int)) fun (t13 : Nat) =>
    let t14 : Nat := GoSem.toU64 (t13 : Int);
    let t15 : Nat := GoSem.shlU64 t14 (32 : Nat);
    let t16 : Nat := GoSem.addU64 t12 t15;
    Option.bind (GoSem.index t (4 : Int)) fun (t17 : Nat) =>
    let t18 : Nat := GoSem.toU64 (t17 : Int);
    let t19 : Nat := GoSem.shlU64 t18 (24 : Nat);
    let t20 : Nat := GoSem.addU64 t16 t19;
    Option.bind (GoSem.index t (5 : Int)) fun (t21 : Nat) =>
    let t22 : Nat := GoSem.toU64 (t21 : Int);
    let t23 : Nat := GoSem.shlU64 t22 (16 : Nat);
    let t24 : Nat := GoSem.addU64 t20 t23;
    Option.bind (GoSem.index t (6 : Int)) fun (t25 : Nat) =>
    let t26 : Nat := GoSem.toU64 (t25 : Int);
    let t27 : Nat := GoSem.shlU64 t26 (8 : Nat);
    let t28 : Nat := GoSem.addU64 t24 t27;
    Option.bind (GoSem.index t (7 : Int)) fun (t29 : Nat) =>
    let t30 : Nat := GoSem.toU64 (t29 : Int);
    let t31 : Nat := GoSem.addU64 t28 t30;
    some t31) = some (get64Bits s) := by
  have hu : ∀ k, toU64 ((s.getD k 0 : Nat) : Int) = s.getD k 0 := fun k =>
    toU64_ofNat_lt (by have := getD_lt hbytes k; omega)
  have h0 : index t (0 : Int) = some (s.getD 0 0) := ht 0 (by omega)
  have h1 : index t (1 : Int) = some (s.getD 1 0) := ht 1 (by omega)
  have h2 : index t (2 : Int) = some (s.getD 2 0) := ht 2 (by omega)
  have h3 : index t (3 : Int) = some (s.getD 3 0) := ht 3 (by omega)
  have h4 : index t (4 : Int) = some (s.getD 4 0) := ht 4 (by omega)
  have h5 : index t (5 : Int) = some (s.getD 5 0) := ht 5 (by omega)
  have h6 : index t (6 : Int) = some (s.getD 6 0) := ht 6 (by omega)
  have h7 : index t (7 : Int) = some (s.getD 7 0) := ht 7 (by omega)
  rw [get64Bits_eq_chain s hbytes]
  simp only [h0, h1, h2, h3, h4, h5, h6, h7, Option.bind_some, hu, get64Chain]
  simp only [addU64, shlU64]

/-- the buffer of the short branch: `bs := make([]byte, 8); copy(bs, s)` -/
theorem get64_buf_getD (s : List Nat) (hs : s.length < 8) (k : Nat) (hk : k < 8) :
    index (copyInto (newArray (0 : Nat) 8) s) (k : Int) = some (s.getD k 0) := by
  have hl : (copyInto (newArray (0 : Nat) 8) s).length = 8 := by rw [copyInto_length, newArray_length]
  rw [index_getD _ (by omega)]
  rw [copyInto_short _ _ (by rw [newArray_length]; omega), newArray]
  simp only [List.getD_eq_getElem?_getD, List.drop_replicate]
  by_cases h : k < s.length
  · rw [List.getElem?_append_left h]
  · rw [List.getElem?_append_right (by omega), List.getElem?_eq_none (by omega : s.length ≤ k)]
    rw [List.getElem?_replicate]
    split <;> rfl

/-- Domain: `s` any byte string (`BytesOK`: every element `< 256`).  The Go function cannot panic: the result is `some`. -/
theorem Tie_sigbits_get64Bits (s : List Nat) (hbytes : ∀ b ∈ s, b < 256) :
    Gen.Ssa3.sigbits_get64Bits s = some (get64Bits s) := by
  rw [Gen.Ssa3.sigbits_get64Bits]
  by_cases h : s.length < 8
  · have hd : decide (len s ≥ (8 : Int)) = false := by rw [len_eq]; simp; omega
    simp only [hd, Bool.false_eq_true, ↓reduceIte]
    exact get64_straight _ s hbytes (fun k hk => get64_buf_getD s h k hk)
  · have hd : decide (len s ≥ (8 : Int)) = true := by rw [len_eq]; simp; omega
    simp only [hd, ↓reduceIte]
    exact get64_straight s s hbytes (fun k hk => index_getD s (by omega))

example : Gen.Ssa3.sigbits_get64Bits [1, 2, 3] = some 0x0102030000000000 := by decide +kernel
example : get64Bits [1, 2, 3] = 0x0102030000000000 := by decide +kernel
example : Gen.Ssa3.sigbits_get64Bits [1, 2, 3, 4, 5, 6, 7, 8, 9] = some 0x0102030405060708 := by decide +kernel
example : Gen.Ssa3.sigbits_get64Bits [] = some 0 := by decide +kernel

end Low
