import Generated.Ssa3.bitmap_ToArray
import LowProofs.Tie3.Lemmas
import LowModel.Bitmap.Of
/-
  Tie: the definition regenerated from the SSA form of `bitmap.ToArray` (a loop over the bit positions
  `i = 0 .. 64*len(words)-1`, an `int32`, that appends `i` to the result when bit `i` is set) equals the hand-written
  model `toArray ws = (List.range (ws.length * 64)).filter (bitAt ws)`.  The generated loop `bitmap_ToArray_loop3`
  carries the result slice `r` (a functional list, `append` is `++` of the one-element array of the variadic
  argument) and the position `i`; `ToArray_loop` relates it to the model's filter over `List.range' i k`, with `k` the
  number of remaining positions and a generic accumulator.
-/
namespace Low
open Low.GoSem Low.TieL Low.Tie2L Low.Tie3L

theorem ToArray_test (ws : List Nat) {i : Nat} (hw : i / 64 < ws.length) :
    decide (andU64 ws[i / 64] (shlU64 1 (i % 64)) ≠ 0) = bitAt ws i := by
  rw [decide_and_shl64_ne_zero _ (Nat.mod_lt _ (by omega)), bitAt, List.getD_eq_getElem?_getD,
    List.getElem?_eq_getElem hw]
  rfl

/-- at position `i` with `k = 64*len - i` positions to go, `acc` = the result so far; fuel `k + 1` -/
theorem ToArray_loop (fuel : Nat) (ws : List Nat) (hlen : ws.length < 2^25) :
    ∀ (k i gas : Nat) (acc : List Int), i + k = 64 * ws.length → k + 1 ≤ gas →
      Gen.Ssa3.bitmap_ToArray_loop3 fuel ws ((64 * ws.length : Nat) : Int) gas acc (i : Int)
        = some (acc ++ ((List.range' i k).filter (bitAt ws)).map Int.ofNat)
  | 0, i, gas, acc, hik, hg => by
    obtain ⟨g, rfl, hg'⟩ := gas_pos hg
    have hil : ¬ (i < 64 * ws.length) := by omega
    rw [Gen.Ssa3.bitmap_ToArray_loop3]
    simp only [Int.ofNat_lt, hil, decide_false, Bool.false_eq_true, ↓reduceIte, List.range'_zero, List.filter_nil,
      List.map_nil, List.append_nil]
  | k+1, i, gas, acc, hik, hg => by
    obtain ⟨g, rfl, hg'⟩ := gas_pos hg
    have hil : i < 64 * ws.length := by omega
    have hw : i / 64 < ws.length := by omega
    have e1 : addI32 (i : Int) 1 = ((i + 1 : Nat) : Int) := addI32_ofNat (b := 1) (by omega)
    have e2 : toU64 ((i % 64 : Nat) : Int) = i % 64 := toU64_ofNat_lt (by omega)
    have ih := fun acc' => ToArray_loop fuel ws hlen k (i + 1) g acc' (by omega) (by omega)
    rw [Gen.Ssa3.bitmap_ToArray_loop3, List.range'_succ, List.filter_cons]
    simp only [Int.ofNat_lt, hil, decide_true, ↓reduceIte, shrI32_6_ofNat, index_ofNat, List.getElem?_eq_getElem hw,
      Option.bind_some, andI32_63_ofNat, e2, ToArray_test ws hw, e1, setIdx_newArray_one, ih]
    cases bitAt ws i with
    | false => simp only [Bool.false_eq_true, ↓reduceIte]
    | true => simp only [↓reduceIte, List.map_cons, List.append_assoc, List.cons_append, List.nil_append]; rfl

/-- Domain: `words` with fewer than `2^25` words (`BmDom`: the bit length `64*len` fits an `int32`, which is the type
    of the Go loop variable and of the bound `l`); no hypothesis on the words.  Fuel: every
    `fuel ≥ 64 * len(words) + 1` (one iteration per bit position, plus the exit test).  The Go function cannot panic
    on this domain: the result is `some`. -/
theorem Tie_bitmap_ToArray (ws : List Nat) (fuel : Nat) (hlen : ws.length < 2^25) (hfuel : 64 * ws.length + 1 ≤ fuel) :
    Gen.Ssa3.bitmap_ToArray fuel ws = some ((toArray ws).map Int.ofNat) := by
  have e : toI32 (mulI64 (len ws) 64) = ((64 * ws.length : Nat) : Int) := by
    have h1 : mulI64 (len ws) 64 = ((64 * ws.length : Nat) : Int) := by
      rw [Nat.mul_comm]; exact mulI64_ofNat (b := 64) (by omega)
    rw [h1]; exact toI32_ofNat_lt (by omega)
  have h := ToArray_loop fuel ws hlen (64 * ws.length) 0 fuel [] (by omega) (by omega)
  rw [Gen.Ssa3.bitmap_ToArray]
  simp only [e, newArray_zero]
  rw [Int.natCast_zero] at h
  rw [h, toArray, List.range_eq_range', Nat.mul_comm ws.length 64, List.nil_append]

set_option maxRecDepth 20000 in
example : Gen.Ssa3.bitmap_ToArray 129 [5, 0x8000000000000001] = some [0, 2, 64, 127] := by decide +kernel
example : toArray [5, 0x8000000000000001] = [0, 2, 64, 127] := by decide +kernel
example : Gen.Ssa3.bitmap_ToArray 1 [] = some [] := by decide +kernel
set_option maxRecDepth 20000 in
example : Gen.Ssa3.bitmap_ToArray 128 [5, 0x8000000000000001] = none := by decide +kernel

end Low
