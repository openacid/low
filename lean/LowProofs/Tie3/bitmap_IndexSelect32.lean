import Generated.Ssa3.bitmap_IndexSelect32
import LowProofs.Tie3.bitmap_IndexSelect32_L
import LowModel.Bitmap.Select
/-
  Tie: the definition regenerated from the SSA form of `bitmap.IndexSelect32` (a loop over all bit positions that
  appends to a slice made with `make([]int32, 0, len(words))`) equals the hand-written model `indexSelect32`.
  The generated loop `bitmap_IndexSelect32_loop3` carries the slice contents `sidx`, `ith` (starting at -1 and
  incremented BEFORE the test `ith&31 == 0`) and the position `i` (a Go `int`); the model `selIdxGo` recurses over the
  list of remaining positions with `cnt = ith + 1` (tested before the increment) and conses.  `SelIdxL.selIdx_loop`
  relates the two for the positions `List.range' i k`, with the slice built so far as a generic prefix `acc`.
-/
namespace Low
open Low.GoSem Low.Tie2L Low.Tie3L Low.SelIdxL

/-- Domain: `words` with fewer than `2^25` words (`BmDom`; every position then fits an `int32`); no hypothesis on the
    words.  Fuel: every `fuel ≥ 64 * len(words) + 1` (one loop iteration per bit position).  The Go function cannot
    panic on this domain: the result is `some`. -/
theorem Tie_bitmap_IndexSelect32 (ws : List Nat) (fuel : Nat) (hlen : ws.length < 2^25)
    (hfuel : 64 * ws.length + 1 ≤ fuel) :
    Gen.Ssa3.bitmap_IndexSelect32 fuel ws = some ((indexSelect32 ws).map Int.ofNat) := by
  have e : shlI64 (ws.length : Int) 6 = ((ws.length * 64 : Nat) : Int) := shlI64_6_ofNat (by omega)
  have h := selIdx_loop ws hlen (Gen.Ssa3.bitmap_IndexSelect32_loop3 fuel ws ((ws.length * 64 : Nat) : Int))
    _ (fun gas t14 t15 t16 => by rw [Gen.Ssa3.bitmap_IndexSelect32_loop3])
    (ws.length * 64) 0 fuel 0 [] (by omega) (by omega) (by omega)
  rw [Gen.Ssa3.bitmap_IndexSelect32]
  simp only [len_eq, e, makeSliceCap_zero, Option.bind_some]
  rw [indexSelect32, List.range_eq_range']
  exact h

example : Gen.Ssa3.bitmap_IndexSelect32 65 [0xffffffffffffffff] = some [0, 32] := by decide +kernel
example : indexSelect32 [0xffffffffffffffff] = [0, 32] := by decide +kernel
set_option maxRecDepth 4000 in
example : Gen.Ssa3.bitmap_IndexSelect32 129 [0xffffffff, 5] = some [0, 64] := by decide +kernel
example : Gen.Ssa3.bitmap_IndexSelect32 64 [0xffffffffffffffff] = none := by decide +kernel

end Low
