import Generated.Ssa4.pbcmpl_verStr
import LowProofs.Tie3.Lemmas
import LowModel.Pbcmpl
/-
  Tie for `pbcmpl.verStr` (strip the trailing NUL bytes of the 16-byte version field): the definition regenerated from
  the function's go/ssa form equals the model function `Low.verStr`, for every byte list shorter than 2^62 and every
  fuel ≥ len+1 (the loop runs at most len+1 times).
-/
namespace Low
open Low.GoSem Low.TieL Low.Tie2L Low.Tie3L

private theorem verStr_snoc_zero (l : List Nat) : verStr (l ++ [0]) = verStr l := by
  simp [verStr, List.reverse_append]

private theorem verStr_snoc_ne (l : List Nat) (x : Nat) (hx : x ≠ 0) : verStr (l ++ [x]) = l ++ [x] := by
  simp [verStr, List.reverse_append, hx]

/-- the loop walks `i = k - 1` down over the trailing NUL bytes of `buf[:k]` -/
private theorem loop_eq (fuel : Nat) (buf : List Nat) (hlen : buf.length < 2^62) :
    ∀ (k gas : Nat), k ≤ buf.length → k + 1 ≤ gas →
      Gen.Ssa4.pbcmpl_verStr_loop3 fuel buf gas ((k : Int) - 1) = some (verStr (buf.take k))
  | 0, gas + 1, _, _ => by
    rw [Gen.Ssa4.pbcmpl_verStr_loop3]
    rfl
  | k + 1, gas + 1, hk, hg => by
    have hkl : k < buf.length := by omega
    have e6 : ((k + 1 : Nat) : Int) - 1 = (k : Int) := by omega
    have h7 : (k : Int) ≥ 0 := by omega
    rw [Gen.Ssa4.pbcmpl_verStr_loop3, e6]
    simp only [h7, decide_true, ↓reduceIte, index_ofNat, List.getElem?_eq_getElem hkl, Option.bind_some,
      decide_eq_true_eq]
    rw [List.take_succ_eq_append_getElem hkl]
    by_cases hz : buf[k] = 0
    · have e2 : subI64 (k : Int) 1 = (k : Int) - 1 := by exact wrap64_id (by omega) (by omega)
      rw [if_pos hz, e2, loop_eq fuel buf hlen k gas (by omega) (by omega), hz, verStr_snoc_zero]
    · rw [if_neg hz, addI64_one_ofNat (by omega), slice_zero_ofNat buf (show k + 1 ≤ buf.length by omega),
        Option.bind_some, List.take_succ_eq_append_getElem hkl, verStr_snoc_ne _ _ hz]

/-- `verStr` as regenerated from its go/ssa form equals the model's `verStr` (trailing NUL bytes stripped), for every
    byte list shorter than 2^62 and every `fuel ≥ len + 1`; it never panics. -/
theorem Tie_pbcmpl_verStr (buf : List Nat) (fuel : Nat) (hlen : buf.length < 2^62) (hfuel : buf.length + 1 ≤ fuel) :
    Gen.Ssa4.pbcmpl_verStr fuel buf = some (verStr buf) := by
  have e1 : subI64 (len buf) 1 = ((buf.length : Nat) : Int) - 1 := by
    rw [len_eq]; exact wrap64_id (by omega) (by omega)
  rw [Gen.Ssa4.pbcmpl_verStr]
  simp only [e1]
  rw [loop_eq fuel buf hlen buf.length fuel (Nat.le_refl _) hfuel, List.take_length]

/-! non-vacuity: "1.0.0" padded to 16 bytes, and an all-NUL field -/
example : Gen.Ssa4.pbcmpl_verStr 17 [49, 46, 48, 46, 48, 0, 0, 0, 0, 0, 0, 0, 0, 0, 0, 0] = some [49, 46, 48, 46, 48] := by
  decide +kernel
example : Gen.Ssa4.pbcmpl_verStr 17 [49, 0, 48, 0] = some [49, 0, 48] := by decide +kernel
example : Gen.Ssa4.pbcmpl_verStr 5 [0, 0, 0] = some [] := by decide +kernel

end Low
