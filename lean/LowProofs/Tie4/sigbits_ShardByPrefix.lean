import LowProofs.Tie4.sigbits_ShardByPrefix_L
import LowProofs.Tie3.sigbits_FirstDiffBits
import LowProofs.Lemmas.C17Main
/-
  Tie: the definition regenerated from the SSA form of `sigbits.ShardByPrefix` — a function that creates the RECURSIVE
  CLOSURE `dfs`, which captures `keys`, `maxSize`, `firstDiffs` (read only), `prefixes`, `keyCnts` (appended to) and
  itself — equals the hand-written model `shardByPrefix` (`shardDfs` / `shardEach` / `shardScan`, LowModel/Sigbits.lean).

  Shape of the generated code (tools/ssa2lean4): `sigbits_ShardByPrefix_fn1_body` is the closure's body with the closure
  itself as the parameter `self` and the state `prefixes`, `keyCnts` passed in and returned; `sigbits_ShardByPrefix_fn1`
  closes the recursion with a depth counter; the loops of the closure are `…_fn1_loop5/10/17` (`_L.lean`).
  Shape of the proof: a SIMULATION by induction on the model's fuel (`fn1_sim`): whenever `shardDfs` with fuel `mf`
  returns `some r` on a range `s < e ≤ len(keys)`, the generated closure with any depth `≥ mf` (and loop fuel
  `≥ len(keys) + 1`) returns the same, converted.  That the model does return `some` for `1 ≤ maxSize` (its fuel
  `len(keys) + 1` suffices because every split point lies strictly inside the range) is `C17L.shard_post`, proved for
  property C17.  For `maxSize ≤ 0` neither side ever returns (`shardDfs_diverges`, `fn1_diverges`).
-/
namespace Low
open Low.GoSem Low.GoSem3 Low.TieL Low.Tie2L Low.Tie3L Low.C17L Low.Tie4L

theorem scan_splitOK (fds : List Nat) (s e longest : Nat) (h1 : s < e) :
    SplitOK fds (minFold fds s (e - 1 - s) longest) e s (shardScan fds (e - 1 - s) s longest [] ++ [e]) := by
  have hc1 : s + (e - 1 - s) + 1 = e := by omega
  have hsp := splitOK_cuts fds (minFold fds s (e - 1 - s) longest) (e - 1 - s) s s (Nat.le_refl _)
    (fun i hi hi' => by omega) (fun i hi hi' => minFold_le_bl fds (e - 1 - s) s _ i hi hi')
  rw [hc1, ← shardScan_eq] at hsp
  exact hsp

/-- one call of the closure on a range `s < e ≤ len(keys)`: the leaf (`loop5`), or the scan for the split points
    (`loop10`) followed by the loop over them (`loop17`), which calls the closure at the next depth -/
theorem fn1_succ (fuel : Nat) (mx : Int) (keys : List (List Nat)) (fds : List Nat)
    (hlen : fds.length + 1 = keys.length) (hn : keys.length < 2147483648) (hk : ∀ k ∈ keys, k.length < 2147483648)
    (hfuel : keys.length + 1 ≤ fuel) (d s e : Nat) (P K : List Int) (h1 : s < e) (h2 : e ≤ keys.length)
    (hs : s < keys.length) :
    Gen.Ssa4.sigbits_ShardByPrefix_fn1 fuel mx keys (cv fds) (d + 1) (s : Int) (e : Int) P K =
      if (e : Int) - (s : Int) ≤ mx then
        some (P ++ [((((fds.drop s).take (e - 1 - s)).foldl (fun mn d => if mn > d / 8 then d / 8 else mn)
          keys[s].length : Nat) : Int)], K ++ [(e : Int)])
      else
        Gen.Ssa4.sigbits_ShardByPrefix_fn1_loop17 fuel mx keys (cv fds)
          (Gen.Ssa4.sigbits_ShardByPrefix_fn1 fuel mx keys (cv fds) d) (s : Int) (e : Int) P K fuel (s : Int) 0
          (cv (shardScan fds (e - 1 - s) s keys[s].length [] ++ [e])) P K := by
  have hks : keys[s]? = some keys[s] := List.getElem?_eq_getElem hs
  have hkl : toI32 ((keys[s].length : Nat) : Int) = ((keys[s].length : Nat) : Int) :=
    toI32_ofNat_lt (hk _ (List.getElem_mem hs))
  have e0 : subI32 (e : Int) (s : Int) = (e : Int) - (s : Int) := by
    rw [subI32_ofNat (by omega) (by omega)]; omega
  have hc1 : s + (e - 1 - s) + 1 = e := by omega
  have hc2 : s + (e - 1 - s) ≤ fds.length := by omega
  have hc3 : (e - 1 - s) + 1 ≤ fuel := by omega
  rw [Gen.Ssa4.sigbits_ShardByPrefix_fn1, Gen.Ssa4.sigbits_ShardByPrefix_fn1_body]
  simp only [e0, index_ofNat, hks, Option.bind_some, len_eq, hkl]
  by_cases hleaf : (e : Int) - (s : Int) ≤ mx
  · simp only [hleaf, decide_true, ↓reduceIte]
    exact loop5_eq fuel mx keys fds _ (s : Int) e _ _ _ _ (by omega) (e - 1 - s) s fuel keys[s].length hc1 hc2 hc3
  · simp only [hleaf, decide_false, Bool.false_eq_true, ↓reduceIte, slice_newArray_empty, Option.bind_some]
    exact loop10_eq fuel mx keys fds _ (s : Int) e P K P K (by omega) (e - 1 - s) s fuel keys[s].length [] hc1 hc2 hc3

theorem fn1_sim (fuel : Nat) (mx : Int) (keys : List (List Nat)) (fds : List Nat)
    (hlen : fds.length + 1 = keys.length) (hn : keys.length < 2147483648) (hk : ∀ k ∈ keys, k.length < 2147483648)
    (hfuel : keys.length + 1 ≤ fuel) :
    ∀ (mf d s e : Nat) (acc r : ShardAcc), mf ≤ d → s < e → e ≤ keys.length →
      shardDfs keys fds mx mf s e acc = some r →
      Gen.Ssa4.sigbits_ShardByPrefix_fn1 fuel mx keys (cv fds) d (s : Int) (e : Int) (cv acc.1) (cv acc.2) = some (cv2 r)
  | 0, d, s, e, acc, r, _, _, _, hm => by simp [shardDfs] at hm
  | mf+1, d, s, e, acc, r, hd, h1, h2, hm => by
    obtain ⟨d', rfl⟩ : ∃ d', d = d' + 1 := ⟨d - 1, by omega⟩
    have hs : s < keys.length := by omega
    have hks : keys[s]? = some keys[s] := List.getElem?_eq_getElem hs
    rw [shardDfs] at hm
    rw [fn1_succ fuel mx keys fds hlen hn hk hfuel d' s e _ _ h1 h2 hs]
    by_cases hleaf : (e : Int) - (s : Int) ≤ mx
    · rw [if_pos hleaf] at hm
      simp only [hks] at hm
      cases hm
      rw [if_pos hleaf]
      simp [cv2, cv]
    · rw [if_neg hleaf] at hm
      simp only [hks] at hm
      rw [if_neg hleaf]
      -- the split points form a strictly ascending chain in `(s, e]`
      have hsp := scan_splitOK fds s e keys[s].length h1
      have hch := chain_of_splitOK fds _ e keys.length h2 _ s hsp
      have hcl := chain_length keys.length _ s hch
      exact loop17_sim fuel mx keys fds _ (s : Int) (e : Int) (cv acc.1) (cv acc.2) keys.length mf _ (by omega)
        (fun a b acc' r' ha hb hab => fn1_sim fuel mx keys fds hlen hn hk hfuel mf d' a b acc' r' (by omega) ha hb hab)
        (shardScan fds (e - 1 - s) s keys[s].length [] ++ [e]) 0 fuel s acc r rfl hch (by omega) hm

theorem first_split (fds : List Nat) (s e longest : Nat) (h1 : s < e) :
    ∃ t rest, shardScan fds (e - 1 - s) s longest [] ++ [e] = t :: rest ∧ s < t ∧ t ≤ e := by
  have hsp := scan_splitOK fds s e longest h1
  cases hl : shardScan fds (e - 1 - s) s longest [] ++ [e] with
  | nil => rw [hl] at hsp; simp [SplitOK] at hsp
  | cons t rest =>
    rw [hl] at hsp
    refine ⟨t, rest, rfl, ?_⟩
    cases rest with
    | nil => simp only [SplitOK] at hsp; omega
    | cons t' r' => simp only [SplitOK] at hsp; omega

/-- `maxSize ≤ 0`, the model: every non-empty range is "too large" and its first sub-range is non-empty again, so the
    recursion only ends when the model's fuel does -/
theorem shardDfs_diverges (mx : Int) (keys : List (List Nat)) (fds : List Nat) (hmx : mx ≤ 0) :
    ∀ (mf s e : Nat) (acc : ShardAcc), s < e → e ≤ keys.length → shardDfs keys fds mx mf s e acc = none
  | 0, _, _, _, _, _ => by simp [shardDfs]
  | mf+1, s, e, acc, h1, h2 => by
    have hs : s < keys.length := by omega
    have hks : keys[s]? = some keys[s] := List.getElem?_eq_getElem hs
    obtain ⟨t, rest, hl, ht1, ht2⟩ := first_split fds s e keys[s].length h1
    rw [shardDfs, if_neg (by omega)]
    simp only [hks]
    rw [hl, shardEach, shardDfs_diverges mx keys fds hmx mf s t acc ht1 (by omega)]

/-- `maxSize ≤ 0`, the generated code: the same for every recursion depth `d` (given the loop fuel of the tie): the
    closure returns `none` because the depth is used up, however large it is -/
theorem fn1_diverges (fuel : Nat) (mx : Int) (keys : List (List Nat)) (fds : List Nat) (hmx : mx ≤ 0)
    (hlen : fds.length + 1 = keys.length) (hn : keys.length < 2147483648) (hk : ∀ k ∈ keys, k.length < 2147483648)
    (hfuel : keys.length + 1 ≤ fuel) :
    ∀ (d s e : Nat) (P K : List Int), s < e → e ≤ keys.length →
      Gen.Ssa4.sigbits_ShardByPrefix_fn1 fuel mx keys (cv fds) d (s : Int) (e : Int) P K = none
  | 0, _, _, _, _, _, _ => by rw [Gen.Ssa4.sigbits_ShardByPrefix_fn1]
  | d+1, s, e, P, K, h1, h2 => by
    have hs : s < keys.length := by omega
    obtain ⟨t, rest, hl, ht1, ht2⟩ := first_split fds s e keys[s].length h1
    obtain ⟨g, rfl⟩ : ∃ g, fuel = g + 1 := ⟨fuel - 1, by omega⟩
    have ih := fn1_diverges (g + 1) mx keys fds hmx hlen hn hk hfuel d s t P K ht1 (by omega)
    rw [fn1_succ (g + 1) mx keys fds hlen hn hk hfuel d s e P K h1 h2 hs, if_neg (by omega), hl,
      Gen.Ssa4.sigbits_ShardByPrefix_fn1_loop17]
    have hpos : (0 : Int) < (((t :: rest).length : Nat) : Int) := by simp only [List.length_cons]; omega
    simp only [len_eq, List.length_map, hpos, decide_true, ↓reduceIte]
    rw [show (0 : Int) = ((0 : Nat) : Int) from rfl, index_ofNat]
    simp only [cv, List.map_cons, List.getElem?_cons_zero, Option.bind_some]
    have ih' : Gen.Ssa4.sigbits_ShardByPrefix_fn1 (g + 1) mx keys (List.map Int.ofNat fds) d (s : Int) (Int.ofNat t) P K
        = none := ih
    rw [ih', Option.bind_none]

theorem parent_eq (fuel : Nat) (mx : Int) (keys : List (List Nat)) (fds : List Nat)
    (hfd : Gen.Ssa3.sigbits_FirstDiffBits fuel keys = some (cv fds))
    (hlen : fds.length + 1 = keys.length) (hn : keys.length < 2147483648) :
    Gen.Ssa4.sigbits_ShardByPrefix fuel keys mx =
      (Gen.Ssa4.sigbits_ShardByPrefix_fn1 fuel mx keys (cv fds) fuel ((0 : Nat) : Int) ((fds.length + 1 : Nat) : Int)
        (cv []) (cv [0])).bind fun r => some (r.1, r.2) := by
  have e1 : addI64 ((fds.length : Nat) : Int) 1 = ((fds.length + 1 : Nat) : Int) := addI64_one_ofNat (by omega)
  have e2 : toI32 ((fds.length + 1 : Nat) : Int) = ((fds.length + 1 : Nat) : Int) := toI32_ofNat_lt (by omega)
  have e3 : quoI64 ((keys.length : Nat) : Int) (32 : Int) = some ((keys.length / 32 : Nat) : Int) := by
    rw [quoI64, if_neg (by omega), show (32 : Int) = ((32 : Nat) : Int) from rfl, ← Int.ofNat_tdiv, wrap64_ofNat (by omega)]
  rw [Gen.Ssa4.sigbits_ShardByPrefix]
  simp only [hfd, Option.bind_some, len_eq, List.length_map, e1, e2, e3, makeSliceCap_zero, setIdx_newArray_one,
    List.nil_append]
  rfl

theorem parent_sim (fuel : Nat) (mx : Int) (keys : List (List Nat)) (fds : List Nat) (r : ShardAcc) (mf : Nat)
    (hfd : Gen.Ssa3.sigbits_FirstDiffBits fuel keys = some (cv fds))
    (hlen : fds.length + 1 = keys.length) (hn : keys.length < 2147483648) (hk : ∀ k ∈ keys, k.length < 2147483648)
    (hfuel : keys.length + 1 ≤ fuel) (hmf : mf ≤ fuel)
    (hm : shardDfs keys fds mx mf 0 (fds.length + 1) ([], [0]) = some r) :
    Gen.Ssa4.sigbits_ShardByPrefix fuel keys mx = some (cv2 r) := by
  rw [parent_eq fuel mx keys fds hfd hlen hn,
    fn1_sim fuel mx keys fds hlen hn hk hfuel mf fuel 0 (fds.length + 1) ([], [0]) r hmf (by omega) (by omega) hm]
  rfl

/-- **Tie of `sigbits.ShardByPrefix`** (with its recursive closure `dfs`).
    Domain: `keys` byte strings (bytes `< 256`), each shorter than `2^28` bytes (the domain of `FirstDiffBits`),
    `len(keys) < 2^31` (the key indices are `int32`), and `1 ≤ maxSize`.  `keys` need NOT be sorted or distinct.
    Fuel: every `fuel` with `len(keys) + 1 ≤ fuel` (the recursion depth of `dfs` — each level strictly shrinks the range —
    and the iterations of its three loops, of the loop of `FirstDiffBits`) and `len(k)/8 + 2 ≤ fuel` for every key
    (the loop of `sFirstDiffBit`).
    For `keys = []` Go panics (`FirstDiffBits` makes a slice of length `-1`); both sides are `none`.
    The hypothesis `1 ≤ maxSize` is NOT an artefact: for `maxSize ≤ 0` the Go function never terminates (`dfs(s, s+1)`
    calls `dfs(s, s+1)`: stack overflow), see `Tie_sigbits_ShardByPrefix_diverges`. -/
theorem Tie_sigbits_ShardByPrefix (keys : List (List Nat)) (maxSize : Int) (fuel : Nat)
    (hbytes : ∀ k ∈ keys, ∀ x ∈ k, x < 256) (hlen : ∀ k ∈ keys, k.length < 2^28) (hn : keys.length < 2^31)
    (hm : 1 ≤ maxSize) (hfuel1 : keys.length + 1 ≤ fuel) (hfuel2 : ∀ k ∈ keys, k.length / 8 + 2 ≤ fuel) :
    Gen.Ssa4.sigbits_ShardByPrefix fuel keys maxSize
      = (shardByPrefix keys maxSize).map (fun r => (r.1.map Int.ofNat, r.2.map Int.ofNat)) := by
  have hfd := Tie_sigbits_FirstDiffBits keys fuel hbytes hlen (by omega) (by omega) hfuel2
  by_cases hne : keys = []
  · subst hne
    rw [Gen.Ssa4.sigbits_ShardByPrefix, hfd]
    simp [shardByPrefix, firstDiffBits]
  · obtain ⟨Ls, Bs, hsome, -⟩ := shard_post keys maxSize hne hbytes hm (fun _ _ _ _ => True)
      (fun _ _ _ _ _ => trivial) (fun _ _ _ _ _ _ _ _ _ _ => trivial)
    have hfm : firstDiffBits keys = some (fdsOf keys) := C16L.firstDiffBits_eq hne hbytes
    rw [hsome]
    rw [shardByPrefix, hfm] at hsome
    rw [hfm] at hfd
    have := parent_sim fuel maxSize keys (fdsOf keys) (Ls, 0 :: Bs) (keys.length + 1) hfd (fdsOf_length keys hne) hn
      (fun k hk => by have := hlen k hk; omega) hfuel1 hfuel1 hsome
    rw [this]; rfl

/-- **FINDING (Go code / domain of the model).**  For `maxSize ≤ 0` and at least one key, `ShardByPrefix` does not
    terminate: every non-empty range is "too large", and a range of one key is split into itself (`dfs(s, s+1)` calls
    `dfs(s, s+1)`), so Go recurses until the stack overflows (a fatal error, not a panic that can be recovered).
    Generated code and model agree also here, but only because both run out of fuel: the generated definition is
    `none` for EVERY `fuel` above the bound of the tie, the model's `shardDfs` is `none` for every fuel, in particular for
    the model's own `len(keys) + 1`.  (For `keys = []` both are `none` because `FirstDiffBits` panics.) -/
theorem Tie_sigbits_ShardByPrefix_diverges (keys : List (List Nat)) (maxSize : Int) (fuel : Nat)
    (hbytes : ∀ k ∈ keys, ∀ x ∈ k, x < 256) (hlen : ∀ k ∈ keys, k.length < 2^28) (hn : keys.length < 2^31)
    (hm : maxSize ≤ 0) (hfuel1 : keys.length + 1 ≤ fuel) (hfuel2 : ∀ k ∈ keys, k.length / 8 + 2 ≤ fuel) :
    Gen.Ssa4.sigbits_ShardByPrefix fuel keys maxSize = none ∧ shardByPrefix keys maxSize = none := by
  have hfd := Tie_sigbits_FirstDiffBits keys fuel hbytes hlen (by omega) (by omega) hfuel2
  by_cases hne : keys = []
  · subst hne
    rw [Gen.Ssa4.sigbits_ShardByPrefix, hfd]
    simp [shardByPrefix, firstDiffBits]
  · have hfm : firstDiffBits keys = some (fdsOf keys) := C16L.firstDiffBits_eq hne hbytes
    have hl := fdsOf_length keys hne
    rw [hfm] at hfd
    constructor
    · rw [parent_eq fuel maxSize keys (fdsOf keys) hfd hl hn,
        fn1_diverges fuel maxSize keys (fdsOf keys) hm hl hn (fun k hk => by have := hlen k hk; omega) hfuel1
          fuel 0 ((fdsOf keys).length + 1) _ _ (by omega) (by omega)]
      rfl
    · rw [shardByPrefix, hfm]
      exact shardDfs_diverges maxSize keys (fdsOf keys) hm _ 0 _ _ (by omega) (by omega)

/-- the tie without a hypothesis on `maxSize` (see the two theorems above for what it means on each side of `1`) -/
theorem Tie_sigbits_ShardByPrefix_all (keys : List (List Nat)) (maxSize : Int) (fuel : Nat)
    (hbytes : ∀ k ∈ keys, ∀ x ∈ k, x < 256) (hlen : ∀ k ∈ keys, k.length < 2^28) (hn : keys.length < 2^31)
    (hfuel1 : keys.length + 1 ≤ fuel) (hfuel2 : ∀ k ∈ keys, k.length / 8 + 2 ≤ fuel) :
    Gen.Ssa4.sigbits_ShardByPrefix fuel keys maxSize
      = (shardByPrefix keys maxSize).map (fun r => (r.1.map Int.ofNat, r.2.map Int.ofNat)) := by
  by_cases hm : 1 ≤ maxSize
  · exact Tie_sigbits_ShardByPrefix keys maxSize fuel hbytes hlen hn hm hfuel1 hfuel2
  · obtain ⟨h1, h2⟩ := Tie_sigbits_ShardByPrefix_diverges keys maxSize fuel hbytes hlen hn (by omega) hfuel1 hfuel2
    rw [h1, h2]; rfl

-- non-vacuity: concrete values (the same as the Go code returns), on the generated side by evaluation …
private theorem run1 : Gen.Ssa4.sigbits_ShardByPrefix 5 [[1, 2, 3], [1, 2, 7, 9], [1, 2, 7, 9, 0], [2]] 2
    = some ([3, 4, 1], [0, 1, 3, 4]) := by decide +kernel
example : Gen.Ssa4.sigbits_ShardByPrefix 5 [[1, 2, 3], [1, 2, 7, 9], [1, 2, 7, 9, 0], [2]] 2
    = some ([3, 4, 1], [0, 1, 3, 4]) := run1
example : Gen.Ssa4.sigbits_ShardByPrefix 7 [[1, 2, 3], [1, 2, 7, 9], [1, 2, 7, 9, 0], [2], [2, 5], [3]] 1
    = some ([3, 4, 5, 1, 2, 1], [0, 1, 2, 3, 4, 5, 6]) := by decide +kernel
-- … and on the model side through the tie theorem, whose hypotheses are therefore satisfiable
example : (shardByPrefix [[1, 2, 3], [1, 2, 7, 9], [1, 2, 7, 9, 0], [2]] 2).map
    (fun r => (r.1.map Int.ofNat, r.2.map Int.ofNat)) = some ([3, 4, 1], [0, 1, 3, 4]) := by
  rw [← Tie_sigbits_ShardByPrefix _ 2 5 (by decide +kernel) (by decide +kernel) (by decide +kernel) (by decide +kernel) (by decide +kernel) (by decide +kernel)]
  exact run1
-- the fuel bound `len(keys) + 1` is tight: a range that splits into `len(keys)` single keys needs `len(keys) + 1`
-- iterations of the loop over the split points
example : Gen.Ssa4.sigbits_ShardByPrefix 5 [[1], [2], [3], [4]] 1 = some ([1, 1, 1, 1], [0, 1, 2, 3, 4]) := by decide +kernel
example : Gen.Ssa4.sigbits_ShardByPrefix 4 [[1], [2], [3], [4]] 1 = none := by decide +kernel
-- no keys: panic; maxSize = 0: divergence (whatever the fuel)
example : Gen.Ssa4.sigbits_ShardByPrefix 9 [] 3 = none := by decide +kernel
example : Gen.Ssa4.sigbits_ShardByPrefix 50 [[1, 2, 3], [1, 2, 7, 9]] 0 = none := by decide +kernel
example : shardByPrefix [[1, 2, 3], [1, 2, 7, 9]] 0 = none :=
  (Tie_sigbits_ShardByPrefix_diverges _ 0 3 (by decide +kernel) (by decide +kernel) (by decide +kernel) (by decide +kernel) (by decide +kernel) (by decide +kernel)).2

end Low
