import Generated.Ssa4.sigbits_ShardByPrefix
import LowProofs.Tie3.Lemmas
import LowProofs.Lemmas.C17Scan
import LowModel.Sigbits
/-
  Loop lemmas for the tie of `sigbits.ShardByPrefix` (see `sigbits_ShardByPrefix.lean`): the three loops of the
  closure `dfs` (`ShardByPrefix$1`) as the translator emits them.
    * `loop5`  — the leaf: minimum of `len(keys[s])` and `firstDiffs[i]>>3` over the range, then the two appends;
    * `loop10` — the scan that collects the split points in `endsAt` (with the reset `endsAt = endsAt[0:0]`);
    * `loop17` — the loop over the split points that calls the closure (`self`) and threads `prefixes`, `keyCnts`.
  `int32` values are `Int` in the generated code and `Nat` in the model: `cv` converts.
-/
namespace Low.Tie4L
open Low.GoSem Low.GoSem3 Low.TieL Low.Tie2L Low.Tie3L Low.C17L

/-- `[]int32` of the model (`Nat`) as the generated code sees it (`Int`) -/
abbrev cv (l : List Nat) : List Int := l.map Int.ofNat

/-- the type of the closure `dfs` in the generated code: `s`, `e`, then the state `prefixes`, `keyCnts` -/
abbrev SelfT := Int → Int → List Int → List Int → Option (List Int × List Int)

theorem cv_getElem? (l : List Nat) (i : Nat) (h : i < l.length) : (cv l)[i]? = some ((l[i] : Nat) : Int) := by
  simp [cv, List.getElem?_eq_getElem h]

/-- `make([]T, 0, N)` with a constant `N`: go/ssa allocates an array of `N` elements and slices it `[:0]` -/
theorem slice_newArray_empty {α : Type} (z : α) (n : Nat) :
    GoSem2.slice (newArray z n) (0 : Int) (0 : Int) = some [] := by
  simp [GoSem2.slice]

/-- the leaf loop: `min` over `firstDiffs[i] >> 3` for `i` in `[i, e-1)`, then `prefixes = append(prefixes, min)`,
    `keyCnts = append(keyCnts, e)` -/
theorem loop5_eq (fuel : Nat) (mx : Int) (keys : List (List Nat)) (fds : List Nat) (self : SelfT) (s0 : Int) (e : Nat)
    (P0 K0 P K : List Int) (he : e < 2147483648) :
    ∀ (cnt i gas m : Nat), i + cnt + 1 = e → i + cnt ≤ fds.length → cnt + 1 ≤ gas →
      Gen.Ssa4.sigbits_ShardByPrefix_fn1_loop5 fuel mx keys (cv fds) self s0 (e : Int) P0 K0 gas (m : Int) (i : Int) P K
        = some (P ++ [((((fds.drop i).take cnt).foldl (fun mn d => if mn > d / 8 then d / 8 else mn) m : Nat) : Int)],
            K ++ [(e : Int)])
  | 0, i, gas, m, h1, h2, hg => by
    obtain ⟨g, rfl, -⟩ := gas_pos hg
    have e0 : subI32 (e : Int) 1 = ((e - 1 : Nat) : Int) := subI32_ofNat (b := 1) (by omega) he
    have hn : ¬ (i < e - 1) := by omega
    rw [Gen.Ssa4.sigbits_ShardByPrefix_fn1_loop5]
    simp only [e0, Int.ofNat_lt, hn, decide_false, Bool.false_eq_true, ↓reduceIte, setIdx_newArray_one, Option.bind_some,
      List.take_zero, List.foldl_nil]
  | cnt+1, i, gas, m, h1, h2, hg => by
    obtain ⟨g, rfl, -⟩ := gas_pos hg
    have e0 : subI32 (e : Int) 1 = ((e - 1 : Nat) : Int) := subI32_ofNat (b := 1) (by omega) he
    have hlt : i < e - 1 := by omega
    have hi : i < fds.length := by omega
    have e1 : addI32 (i : Int) 1 = ((i + 1 : Nat) : Int) := addI32_ofNat (b := 1) (by omega)
    have hd : (fds.drop i).take (cnt + 1) = fds[i] :: (fds.drop (i + 1)).take cnt := by
      rw [List.drop_eq_getElem_cons hi, List.take_succ_cons]
    rw [Gen.Ssa4.sigbits_ShardByPrefix_fn1_loop5]
    simp only [e0, Int.ofNat_lt, hlt, decide_true, ↓reduceIte, index_ofNat, cv_getElem? fds i hi, Option.bind_some,
      shrI32_3_ofNat, e1, gt_iff_lt]
    rw [hd, List.foldl_cons]
    have ih := fun m' => loop5_eq fuel mx keys fds self s0 e P0 K0 P K he cnt (i + 1) g m' (by omega) (by omega) (by omega)
    by_cases hc : fds[i] / 8 < m
    · simp only [hc, decide_true, ↓reduceIte]
      exact ih _
    · simp only [hc, decide_false, Bool.false_eq_true, ↓reduceIte]
      exact ih _

/-- the scan of an oversized range: `longest` / `endsAt` as `shardScan` computes them; at the end `e` is appended and
    the loop over the split points (`loop17`) is entered with `s` and index `0` -/
theorem loop10_eq (fuel : Nat) (mx : Int) (keys : List (List Nat)) (fds : List Nat) (self : SelfT) (s0 : Int) (e : Nat)
    (P0 K0 P K : List Int) (he : e < 2147483648) :
    ∀ (cnt i gas longest : Nat) (ends : List Nat), i + cnt + 1 = e → i + cnt ≤ fds.length → cnt + 1 ≤ gas →
      Gen.Ssa4.sigbits_ShardByPrefix_fn1_loop10 fuel mx keys (cv fds) self s0 (e : Int) P0 K0 gas (longest : Int) (cv ends)
          (i : Int) P K
        = Gen.Ssa4.sigbits_ShardByPrefix_fn1_loop17 fuel mx keys (cv fds) self s0 (e : Int) P0 K0 fuel s0 0
            (cv (shardScan fds cnt i longest ends ++ [e])) P K
  | 0, i, gas, longest, ends, h1, h2, hg => by
    obtain ⟨g, rfl, -⟩ := gas_pos hg
    have e0 : subI32 (e : Int) 1 = ((e - 1 : Nat) : Int) := subI32_ofNat (b := 1) (by omega) he
    have hn : ¬ (i < e - 1) := by omega
    rw [Gen.Ssa4.sigbits_ShardByPrefix_fn1_loop10]
    simp only [e0, Int.ofNat_lt, hn, decide_false, Bool.false_eq_true, ↓reduceIte, setIdx_newArray_one, Option.bind_some,
      shardScan, cv, List.map_append, List.map_cons, List.map_nil]
    rfl
  | cnt+1, i, gas, longest, ends, h1, h2, hg => by
    obtain ⟨g, rfl, -⟩ := gas_pos hg
    have e0 : subI32 (e : Int) 1 = ((e - 1 : Nat) : Int) := subI32_ofNat (b := 1) (by omega) he
    have hlt : i < e - 1 := by omega
    have hi : i < fds.length := by omega
    have e1 : addI32 (i : Int) 1 = ((i + 1 : Nat) : Int) := addI32_ofNat (b := 1) (by omega)
    have hg' : fds.getD i 0 = fds[i] := by simp [List.getD, List.getElem?_eq_getElem hi]
    rw [Gen.Ssa4.sigbits_ShardByPrefix_fn1_loop10]
    simp only [e0, Int.ofNat_lt, hlt, decide_true, ↓reduceIte, index_ofNat, cv_getElem? fds i hi, Option.bind_some,
      shrI32_3_ofNat, e1, setIdx_newArray_one, List.nil_append]
    rw [shardScan]
    simp only [hg']
    have ih := fun longest' ends' => loop10_eq fuel mx keys fds self s0 e P0 K0 P K he cnt (i + 1) g longest' ends'
      (by omega) (by omega) (by omega)
    by_cases hc : fds[i] / 8 < longest
    · simp only [hc, decide_true, ↓reduceIte]
      exact ih _ [i + 1]
    · by_cases hq : fds[i] / 8 = longest
      · have hq' : ((fds[i] / 8 : Nat) : Int) = (longest : Int) := by rw [hq]
        simp only [hc, decide_false, Bool.false_eq_true, ↓reduceIte, hq', decide_true]
        simp only [hq, ↓reduceIte]
        rw [← ih longest (ends ++ [i + 1])]
        simp [cv]
      · have hq' : ¬ ((fds[i] / 8 : Nat) : Int) = (longest : Int) := by omega
        simp only [hc, decide_false, Bool.false_eq_true, ↓reduceIte, hq', hq]
        exact ih _ _

/-- a strictly ascending chain `s < t₁ < t₂ < … ≤ n` (the split points of a range) -/
def Chain (n : Nat) : Nat → List Nat → Prop
  | _, [] => True
  | s, t :: es => s < t ∧ t ≤ n ∧ Chain n t es

theorem chain_of_splitOK (fds : List Nat) (lam e n : Nat) (he : e ≤ n) :
    ∀ (es : List Nat) (s : Nat), SplitOK fds lam e s es → Chain n s es
  | [], _, h => by simp [SplitOK] at h
  | [t], s, h => by
    simp only [SplitOK] at h
    exact ⟨h.2.1, by omega, trivial⟩
  | t :: t' :: es, s, h => by
    simp only [SplitOK] at h
    exact ⟨h.1, by omega, chain_of_splitOK fds lam e n he (t' :: es) t h.2.2.2.2⟩

theorem chain_length (n : Nat) : ∀ (es : List Nat) (s : Nat), Chain n s es → es.length ≤ n - s
  | [], s, _ => by simp
  | t :: es, s, h => by
    have := chain_length n es t h.2.2
    have := h.1
    have := h.2.1
    simp only [List.length_cons]; omega

abbrev cv2 (r : ShardAcc) : List Int × List Int := (cv r.1, cv r.2)

/-- The loop over the split points `L`, at index `j` with `es = L.drop j` still to visit (a chain above `s'`), with
    `es.length + 1` units of fuel: given a `self` that follows `shardDfs` on every range, it follows `shardEach`.
    `hL` keeps the index `j + 1` an `int`. -/
theorem loop17_sim (fuel : Nat) (mx : Int) (keys : List (List Nat)) (fds : List Nat) (self : SelfT) (s0 e0 : Int)
    (P0 K0 : List Int) (n mf : Nat) (L : List Nat) (hL : L.length < 4611686018427387904)
    (hself : ∀ (a b : Nat) (acc r : ShardAcc), a < b → b ≤ n → shardDfs keys fds mx mf a b acc = some r →
      self (a : Int) (b : Int) (cv acc.1) (cv acc.2) = some (cv2 r)) :
    ∀ (es : List Nat) (j gas s' : Nat) (acc r : ShardAcc), es = L.drop j → Chain n s' es → es.length + 1 ≤ gas →
      shardEach keys fds mx mf s' es acc = some r →
      Gen.Ssa4.sigbits_ShardByPrefix_fn1_loop17 fuel mx keys (cv fds) self s0 e0 P0 K0 gas (s' : Int) (j : Int) (cv L)
        (cv acc.1) (cv acc.2) = some (cv2 r)
  | [], j, gas, s', acc, r, hd, hc, hg, hm => by
    obtain ⟨g, rfl, -⟩ := gas_pos hg
    have hj : L.length ≤ j := drop_eq_nil_le hd
    have hn : ¬ (j < L.length) := by omega
    rw [shardEach] at hm
    cases hm
    rw [Gen.Ssa4.sigbits_ShardByPrefix_fn1_loop17]
    simp only [len_eq, cv, List.length_map, Int.ofNat_lt, hn, decide_false, Bool.false_eq_true, ↓reduceIte]
  | t :: rest, j, gas, s', acc, r, hd, hc, hg, hm => by
    obtain ⟨g, rfl, -⟩ := gas_pos hg
    have hj : j < L.length := drop_eq_cons_lt hd
    have ht : L[j]? = some t := getElem?_of_drop_eq_cons hd
    have ht' : (cv L)[j]? = some (t : Int) := by simp [cv, ht]
    have e1 : addI64 (j : Int) 1 = ((j + 1 : Nat) : Int) := addI64_one_ofNat (by omega)
    rw [shardEach] at hm
    cases hdfs : shardDfs keys fds mx mf s' t acc with
    | none => rw [hdfs] at hm; cases hm
    | some acc' =>
      rw [hdfs] at hm
      have hs := hself s' t acc acc' hc.1 hc.2.1 hdfs
      have ih := loop17_sim fuel mx keys fds self s0 e0 P0 K0 n mf L hL hself rest (j + 1) g t acc' r
        (drop_succ_of_drop_eq_cons hd) hc.2.2 (by simp only [List.length_cons] at hg; omega) hm
      rw [Gen.Ssa4.sigbits_ShardByPrefix_fn1_loop17]
      simp only [len_eq, List.length_map, Int.ofNat_lt, hj, decide_true, ↓reduceIte, index_ofNat, ht', Option.bind_some, hs, e1]
      exact ih

end Low.Tie4L
