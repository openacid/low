import LowProofs.Props.C18
import LowProofs.Tie.iohelper_SectionWriter_Seek
import LowProofs.Tie.iohelper_SectionWriter_Size
import LowProofs.Tie2.iohelper_SectionWriter_Write
import LowProofs.Tie2.iohelper_SectionWriter_WriteAt
/-
  C18 end to end: one step (`step_refines`) and any call sequence (`C18_refine`) stated about the definitions
  REGENERATED from the go/ssa form of the four methods `(*SectionWriter).Write`, `WriteAt`, `Seek`, `Size`
  (`Generated/Ssa/iohelper_SectionWriter_Seek.lean`, `…_Size.lean`, `Generated/Ssa2/iohelper_SectionWriter_Write.lean`,
  `…_WriteAt.lean`) against the reference cursor machine `RefSW` of `LowModel/Spec.lean`.

  Shapes.  The generated definitions take the receiver's fields `base off limit` (a `SectionWriter` record here is just
  these three integers), the caller's buffer `p`, and -- for the one external call `io.WriterAt.WriteAt` -- the scripted
  answer `⟨accept, fail⟩` of the underlying writer; they return
    Write   : `some (n, err, final off, what was handed to the underlying writer)`  (`none` = panic)
    WriteAt : `some (n, err, what was handed to the underlying writer)`            (stores to no field)
    Seek    : `(n, err, final off)`                                               (no external call, cannot panic)
    Size    : `n`
  where `err : GoSem.Err` is the identity of the Go error value and the last component is `some (offset, len)` or
  `none` (= the underlying writer was not called).  `base` and `limit` are stored to by no method (by construction of
  the translation), so the successor state is `(base, final off, limit)`.
  The reference machine returns `RefOut = ⟨n, error class, some (offset, len) / none⟩`; `refErrGo` below maps its four
  error classes to the Go error identities.  No model function occurs in the conclusions.
  (The states the constructors `NewSectionWriter`, `AtToWriter` build satisfy `SwInv`: `C18_init` / `C18_atToWriter`;
  `E2E7/C18.lean` starts the call sequences from the generated constructors.)
-/
namespace Low

/-- the Go error value (its identity, `GoSem.Err`) an error class of the reference machine stands for -/
def refErrGo : Option String → GoSem.Err
  | none => none
  | some c =>
    if c = "ShortWrite" then some "io.ErrShortWrite"
    else if c = "Whence" then some "iohelper.errWhence"
    else if c = "Offset" then some "iohelper.errOffset"
    else some "(error of the underlying writer)"

theorem refErrGo_errName (e : Option IoErr) : refErrGo (errName e) = ioErrId e := by
  cases e with
  | none => rfl
  | some x => cases x <;> decide

/-- the successor state the generated code determines: only `off` is ever stored to -/
def SectionWriter.withOff (s : SectionWriter) (off : Int) : SectionWriter := ⟨s.base, off, s.limit⟩

theorem SectionWriter.withOff_eq {s s' : SectionWriter} (hb : s'.base = s.base) (hl : s'.limit = s.limit) :
    s.withOff s'.off = s' := by
  cases s'
  simp only [SectionWriter.withOff] at *
  simp only [hb, hl]

private theorem ucall_map (u : Option UCall) :
    (u.map (fun c => (c.off, c.len))).map (fun c : Int × Nat => (c.1, (c.2 : Int)))
      = u.map (fun u => (u.off, (u.len : Int))) := by
  cases u <;> rfl

/-- `Write`, one step.  From a state satisfying `SwInv` (`0 ≤ base ≤ off`, `base ≤ limit`, `limit` and `off` int64),
    for every buffer `p` (of a length that fits an `int`) and every answer of the underlying writer, the code of
    `Write` (regenerated from its SSA form) does not panic, returns the count and the error the reference machine
    returns, hands to the underlying writer exactly the (offset, number of leading bytes of `p`) the reference
    machine predicts (or does not call it when it predicts no call), leaves the cursor where the reference machine
    leaves it, and the successor state satisfies `SwInv` again.
    Hypotheses: `SwInv s`, `p.length < 2^63` (the tie's `limit - off < 2^63` is proved from `SwInv`). -/
theorem E2E_C18_write (s : SectionWriter) (hi : SwInv s) (p : List Nat) (hp : p.length < 2^63)
    (accept : Nat) (fail : Bool) :
    let R := (toRef s).write p.length accept fail
    Gen.Ssa2.iohelper_SectionWriter_Write s.base s.off s.limit p ⟨accept, fail⟩
        = some (R.2.n, refErrGo R.2.err, R.1.off, R.2.ucall.map (fun c => (c.1, (c.2 : Int))))
      ∧ R.1 = toRef (s.withOff R.1.off) ∧ SwInv (s.withOff R.1.off) := by
  intro R
  have hsub : s.limit - s.off < 2^63 := by obtain ⟨h0, h1, h2, h3, h4⟩ := hi; omega
  obtain ⟨hinv, href⟩ := write_refines s p.length ⟨accept, fail⟩ hi
  obtain ⟨ht, hb, hl⟩ := Tie_iohelper_SectionWriter_Write s p ⟨accept, fail⟩ hsub hp
  have hR : R = _ := href
  rw [hR]
  simp only [toRef, toRefOut, refErrGo_errName, ucall_map]
  rw [SectionWriter.withOff_eq hb hl]
  exact ⟨ht, rfl, hinv⟩

/-- `WriteAt`, one step.  From a state satisfying `SwInv`, for every buffer, every offset that is an int64
    (`RefSW.callOK`) and every answer of the underlying writer, the code of `WriteAt` (regenerated from its SSA form)
    does not panic, returns the count and the error the reference machine returns, and hands to the underlying
    writer exactly what the reference machine predicts.  The method stores to no field: the state is unchanged by
    construction.
    Hypotheses: `SwInv s`, `p.length < 2^63`, `(toRef s).callOK (.writeAt p.length off accept fail)` (i.e.
    `-2^63 ≤ off < 2^63`). -/
theorem E2E_C18_writeAt (s : SectionWriter) (hi : SwInv s) (p : List Nat) (hp : p.length < 2^63) (off : Int)
    (accept : Nat) (fail : Bool) (hc : (toRef s).callOK (.writeAt p.length off accept fail) = true) :
    let R := (toRef s).writeAt p.length off accept fail
    Gen.Ssa2.iohelper_SectionWriter_WriteAt s.base s.off s.limit p off ⟨accept, fail⟩
        = some (R.n, refErrGo R.err, R.ucall.map (fun c => (c.1, (c.2 : Int)))) := by
  intro R
  simp only [RefSW.callOK, Bool.and_eq_true, decide_eq_true_eq] at hc
  have hR : R = _ := writeAt_refines s p.length off ⟨accept, fail⟩ hi hc.1 hc.2
  rw [hR]
  simp only [toRefOut, refErrGo_errName, ucall_map]
  exact Tie_iohelper_SectionWriter_WriteAt s p off ⟨accept, fail⟩ hp

/-- `Seek`, one step.  From a state satisfying `SwInv`, for every `offset`, `whence` whose target position is an
    int64 (`RefSW.callOK`; an invalid `whence` is always in the domain), the code of `Seek` (regenerated from its SSA
    form; it cannot panic and makes no external call) returns the position and the error the reference machine
    returns and leaves the cursor where the reference machine leaves it; the reference machine predicts no call of
    the underlying writer; the successor state satisfies `SwInv`.
    Hypotheses: `SwInv s`, `(toRef s).callOK (.seek offset whence)`. -/
theorem E2E_C18_seek (s : SectionWriter) (hi : SwInv s) (offset whence : Int)
    (hc : (toRef s).callOK (.seek offset whence) = true) :
    let R := (toRef s).seek offset whence
    Gen.Ssa.iohelper_SectionWriter_Seek s.base s.off s.limit offset whence = (R.2.n, refErrGo R.2.err, R.1.off)
      ∧ R.2.ucall = none ∧ R.1 = toRef (s.withOff R.1.off) ∧ SwInv (s.withOff R.1.off) := by
  intro R
  obtain ⟨hinv, href⟩ := seek_refines s offset whence hi hc
  obtain ⟨ht, hb, hl⟩ := Tie_iohelper_SectionWriter_Seek s offset whence
  have hR : R = _ := href
  rw [hR]
  simp only [toRef, toRefOut, refErrGo_errName]
  rw [SectionWriter.withOff_eq hb hl]
  exact ⟨ht, rfl, rfl, hinv⟩

/-- `Size`.  From a state satisfying `SwInv` the code of `Size` (regenerated from its SSA form; no panic, no store,
    no external call) returns `limit - base`, which is what the reference machine returns. -/
theorem E2E_C18_size (s : SectionWriter) (hi : SwInv s) :
    Gen.Ssa.iohelper_SectionWriter_Size s.base s.off s.limit = ((toRef s).step .size).2.n
      ∧ ((toRef s).step .size).2.n = s.limit - s.base := by
  have hr := step_refines s .size hi rfl
  simp only [SectionWriter.step, toRefCall] at hr
  refine ⟨?_, rfl⟩
  rw [Tie_iohelper_SectionWriter_Size, hr.2]
  rfl

/-- a call of the API as the generated code receives it: the buffer itself, and the scripted answer of the
    underlying writer for `Write` / `WriteAt` -/
inductive GenCall where
  | write (p : List Nat) (accept : Nat) (fail : Bool)
  | writeAt (p : List Nat) (off : Int) (accept : Nat) (fail : Bool)
  | seek (offset whence : Int)
  | size

/-- the call as the reference machine sees it (only the length of the buffer matters) -/
def GenCall.toRef : GenCall → RefCall
  | .write p accept fail => .write p.length accept fail
  | .writeAt p off accept fail => .writeAt p.length off accept fail
  | .seek offset whence => .seek offset whence
  | .size => .size

/-- one API call executed by the GENERATED code on the receiver state: successor state (only `off` is stored to)
    and `(n, err, call made on the underlying writer)`; `none` = panic -/
def genStep (s : SectionWriter) : GenCall → Option (SectionWriter × (Int × GoSem.Err × GoSem2.ExtCall))
  | .write p accept fail =>
      (Gen.Ssa2.iohelper_SectionWriter_Write s.base s.off s.limit p ⟨accept, fail⟩).map
        fun r => (s.withOff r.2.2.1, (r.1, r.2.1, r.2.2.2))
  | .writeAt p off accept fail =>
      (Gen.Ssa2.iohelper_SectionWriter_WriteAt s.base s.off s.limit p off ⟨accept, fail⟩).map fun r => (s, r)
  | .seek offset whence =>
      let r := Gen.Ssa.iohelper_SectionWriter_Seek s.base s.off s.limit offset whence
      some (s.withOff r.2.2, (r.1, r.2.1, none))
  | .size => some (s, (Gen.Ssa.iohelper_SectionWriter_Size s.base s.off s.limit, none, none))

/-- the generated code run over a call sequence; `none` as soon as a call panics -/
def genRun (s : SectionWriter) : List GenCall → Option (List (Int × GoSem.Err × GoSem2.ExtCall))
  | [] => some []
  | c :: r =>
    match genStep s c with
    | none => none
    | some (s', o) => (genRun s' r).map (o :: ·)

/-- what the reference machine's outcome looks like in the result shape of the generated code -/
def refOutGo (o : RefOut) : Int × GoSem.Err × GoSem2.ExtCall :=
  (o.n, refErrGo o.err, o.ucall.map (fun c => (c.1, (c.2 : Int))))

/-- one step of the generated code = one step of the reference machine, and `SwInv` is preserved -/
theorem E2E_C18_step (s : SectionWriter) (hi : SwInv s) (c : GenCall)
    (hp : match c with | .write p _ _ => p.length < 2^63 | .writeAt p _ _ _ => p.length < 2^63 | _ => True)
    (hc : (toRef s).callOK c.toRef = true) :
    ∃ s', genStep s c = some (s', refOutGo ((toRef s).step c.toRef).2) ∧
      toRef s' = ((toRef s).step c.toRef).1 ∧ SwInv s' := by
  cases c with
  | write p accept fail =>
    obtain ⟨h1, h2, h3⟩ := E2E_C18_write s hi p hp accept fail
    refine ⟨s.withOff ((toRef s).write p.length accept fail).1.off, ?_, h2.symm, h3⟩
    simp only [genStep, h1, Option.map_some, GenCall.toRef, RefSW.step, refOutGo]
  | writeAt p off accept fail =>
    have h1 := E2E_C18_writeAt s hi p hp off accept fail hc
    refine ⟨s, ?_, rfl, hi⟩
    simp only [genStep, h1, Option.map_some, GenCall.toRef, RefSW.step, refOutGo]
  | seek offset whence =>
    obtain ⟨h1, h2, h3, h4⟩ := E2E_C18_seek s hi offset whence hc
    refine ⟨s.withOff ((toRef s).seek offset whence).1.off, ?_, h3.symm, h4⟩
    simp only [genStep, h1, GenCall.toRef, RefSW.step, refOutGo, h2, Option.map_none]
  | size =>
    obtain ⟨h1, h2⟩ := E2E_C18_size s hi
    refine ⟨s, ?_, rfl, hi⟩
    simp only [genStep, h1, GenCall.toRef, RefSW.step, refOutGo, refErrGo, Option.map_none]

/-- C18 (refinement) end to end: along ANY sequence of `Write` / `WriteAt` / `Seek` / `Size` calls executed by the
    GENERATED code, starting from a state satisfying `SwInv` (e.g. one made by `NewSectionWriter`, `C18_init`), whose
    requested positions are int64 values (`RefSW.runOK`) and whose buffers have lengths that fit an `int`, with an
    underlying writer that may fail or write short at any call: no call panics, and every return value, every error
    and every call made on the underlying writer is exactly what the reference cursor machine `RefSW` predicts. -/
theorem E2E_C18_refine : ∀ (calls : List GenCall) (s : SectionWriter), SwInv s →
    (∀ c ∈ calls, match c with
      | .write p _ _ => p.length < 2^63 | .writeAt p _ _ _ => p.length < 2^63 | _ => True) →
    (toRef s).runOK (calls.map GenCall.toRef) = true →
    genRun s calls = some (((toRef s).run (calls.map GenCall.toRef)).map refOutGo)
  | [], _, _, _, _ => rfl
  | c :: r, s, hi, hp, hok => by
    simp only [List.map_cons, RefSW.runOK, Bool.and_eq_true] at hok
    obtain ⟨s', h1, h2, h3⟩ := E2E_C18_step s hi c (hp c List.mem_cons_self) hok.1
    have ih := E2E_C18_refine r s' h3 (fun c hc => hp c (List.mem_cons_of_mem _ hc)) (by rw [h2]; exact hok.2)
    simp only [genRun, h1, ih, Option.map_some, List.map_cons, RefSW.run, h2]

/-! non-vacuity: a section [5, 8): write 3 (fills it), write 1 (short), seek back 1, write 2 (truncated to 1), size -/
example : genRun (newSectionWriter 5 3)
    [.write [1, 2, 3] 3 false, .write [4] 1 false, .seek (-1) 1, .write [5, 6] 2 false, .size] =
    some [(3, none, some (5, 3)), (0, some "io.ErrShortWrite", none), (2, none, none),
      (1, some "io.ErrShortWrite", some (7, 1)), (3, none, none)] := by
  decide +kernel
example : ((toRef (newSectionWriter 5 3)).run
    [.write 3 3 false, .write 1 1 false, .seek (-1) 1, .write 2 2 false, .size]).map refOutGo =
    [(3, none, some (5, 3)), (0, some "io.ErrShortWrite", none), (2, none, none),
      (1, some "io.ErrShortWrite", some (7, 1)), (3, none, none)] := by
  decide +kernel

end Low
