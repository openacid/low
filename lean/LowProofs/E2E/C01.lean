import LowProofs.Tie.bitmap_Rank64
import LowProofs.Tie.bitmap_Rank128
import LowProofs.E2E.Lemmas
/-
  C01 end to end: the property clauses of `Props/C01.lean` stated about the definitions REGENERATED from the
  go/ssa form of `bitmap.Rank64` / `bitmap.Rank128` (`Generated/Ssa/*.lean`), by composing `C01_rank64` /
  `C01_rank128` with `Tie_bitmap_Rank64` / `Tie_bitmap_Rank128`.
  Here the rank index argument is the one the model's `indexRank64` / `indexRank128` build; `E2E2/C01.lean` states the
  clauses with the index the generated `IndexRank64` / `IndexRank128` return.
-/
namespace Low
open Low.E2EL

/-- The code of `Rank64` (regenerated from its SSA form), called on a bitmap `ws` of fewer than `2^25` words
    (`BmDom`, so that bit positions are `int32` values), the index `IndexRank64(ws, trailing)` (model-built, see
    the file header) and any position `i < 64 * len(ws)`, does not panic and returns exactly
    (number of 1-bits of `ws` before position `i`, bit `i` of `ws`).
    Hypotheses: `ws.length < 2^25`, `i < 64 * ws.length`.  The tie's hypothesis "every index entry `n` has
    `n + 64 ≤ 2^31`" is proved from these (`indexRank64_mem_le`). -/
theorem E2E_C01_rank64 (ws : List Nat) (t : Bool) (i : Nat) (hlen : ws.length < 2^25)
    (hi : i < 64 * ws.length) :
    Gen.Ssa.bitmap_Rank64 ws ((indexRank64 ws t).map Int.ofNat) (i : Int)
      = some ((rank ws i : Int), ((bitAt ws i).toNat : Int)) := by
  rw [Tie_bitmap_Rank64 ws _ i (fun n hn => by have := indexRank64_mem_le hn; omega), C01_rank64 ws t i hi]
  rfl

/-- The code of `Rank128` (regenerated from its SSA form), called on a bitmap `ws` of fewer than `2^25` words,
    the index `IndexRank128(ws)` (model-built) and any position `i < 64 * len(ws)`, does not panic and returns
    exactly (number of 1-bits of `ws` before position `i`, bit `i` of `ws`).
    Hypotheses: `ws.length < 2^25`, `i < 64 * ws.length`.  The tie's hypotheses `i + 64 < 2^31` and "every index
    entry `n` has `n + 64 ≤ 2^31`" are proved from these. -/
theorem E2E_C01_rank128 (ws : List Nat) (i : Nat) (hlen : ws.length < 2^25) (hi : i < 64 * ws.length) :
    Gen.Ssa.bitmap_Rank128 ws ((indexRank128 ws).map Int.ofNat) (i : Int)
      = some ((rank ws i : Int), ((bitAt ws i).toNat : Int)) := by
  rw [Tie_bitmap_Rank128 ws _ i (by omega) (fun n hn => by have := indexRank128_mem_le hn; omega),
    C01_rank128 ws i hi]
  rfl

/-! non-vacuity: the generated code on a concrete two-word bitmap, and the instance of the theorem it is -/
example : Gen.Ssa.bitmap_Rank64 [5, 2^63] ((indexRank64 [5, 2^63] true).map Int.ofNat) 127 = some (2, 1) := by
  decide +kernel
example : Gen.Ssa.bitmap_Rank64 [5, 2^63] ((indexRank64 [5, 2^63] true).map Int.ofNat) ((127 : Nat) : Int)
    = some ((rank [5, 2^63] 127 : Int), ((bitAt [5, 2^63] 127).toNat : Int)) :=
  E2E_C01_rank64 [5, 2^63] true 127 (by decide +kernel) (by decide +kernel)
example : Gen.Ssa.bitmap_Rank128 [5, 2^63] ((indexRank128 [5, 2^63]).map Int.ofNat) 64 = some (2, 0) := by
  decide +kernel

end Low
