import LowProofs.Props.C14
import LowProofs.Tie.bitmap_Getw
/-
  C14 end to end (read-back clause): the `Getw` clause of `C14_join` stated about the definition REGENERATED from
  the go/ssa form of `bitmap.Getw` (`Generated/Ssa/bitmap_Getw.lean`).
  Here the joined bitmap is the one the model's `bmJoin` builds; `E2E2/C14.lean` states the clause on what the generated
  `Join` returns, and has `Slice`.
-/
namespace Low

/-- For a legal width `w ∈ {1,2,4,…,64}` and values `vs` with `len(vs) * w < 2^31` (the code of `Getw` computes
    `i * w` in `int32`): `Join(vs, w)` (model-built) does not panic, has `ceil(len*w/64)` `uint64` words, and the
    CODE of `Getw` (regenerated from its SSA form) on that result returns, without panic, the low `w` bits of
    `vs[i]` for every index `i < len(vs)`; no bit at or above `len*w` is set.
    Hypotheses: `w ∈ [1,2,4,8,16,32,64]`, `vs.length * w < 2^31`.  The tie's hypotheses `w ≤ 64` and
    `i * w < 2^31` are proved from these. -/
theorem E2E_C14_join_getw (vs : List Nat) (w : Nat) (hw : w ∈ [1, 2, 4, 8, 16, 32, 64])
    (hdom : vs.length * w < 2^31) :
    ∃ r, bmJoin vs w = some r ∧ r.length = (vs.length * w + 63) / 64 ∧ WordsOK r ∧
      (∀ i (hi : i < vs.length), Gen.Ssa.bitmap_Getw r (i : Int) (w : Int) = some (vs[i] % 2^w)) ∧
      (∀ j, vs.length * w ≤ j → bitAt r j = false) := by
  obtain ⟨r, h1, h2, h3, h4, h5⟩ := C14_join vs w hw
  refine ⟨r, h1, h2, h3, ?_, h5⟩
  intro i hi
  have hw64 : w ≤ 64 := by
    simp only [List.mem_cons, List.not_mem_nil, or_false] at hw
    omega
  have hiw : i * w < 2^31 := Nat.lt_of_le_of_lt (Nat.mul_le_mul_right w (Nat.le_of_lt hi)) hdom
  rw [Tie_bitmap_Getw r i w hw64 hiw]
  exact h4 i hi

/-! non-vacuity: three 4-bit values (one with high garbage) joined, then read back by the generated code -/
example : bmJoin [0x1f, 0x2, 0x3] 4 = some [0x32f] := by decide +kernel
example : Gen.Ssa.bitmap_Getw [0x32f] 0 4 = some 0xf ∧ Gen.Ssa.bitmap_Getw [0x32f] 2 4 = some 3 := by decide +kernel

end Low
