import LowProofs.E2E.C03Strict
import LowProofs.E2E.C10
/-
  `NewPath` (a function of C10) followed by `PathToIndex` (C03), both regenerated.  The theorem spans the functions of two
  properties and is deliberately registered for NEITHER check (a change to `NewPath` must not fail the C03 check, which
  quantifies over well-formed path words however they were produced).  Built by `setup.sh`.
-/
namespace Low

/-- `E2E_C03_strict` with the path word produced by the CODE of `NewPath` from the left-aligned prefix of the node:
    `NewPath` then `PathToIndex`, both regenerated, return the pre-order count. -/
theorem E2E_C03_strict_newPath (T h : Nat) (n : List Bool) (fuel : Nat) (h1 : 2^h ≤ T) (h2 : T < 2^(h+1))
    (h30 : h ≤ 30) (hn : n.length ≤ h) (hs : T.testBit n.length = true) (hfuel : 33 ≤ fuel) :
    (Gen.Ssa.bmtree_NewPath (bitsVal n <<< (h - n.length)) (n.length : Int) (h : Int)).bind
        (Gen.Ssa2.bmtree_PathToIndex fuel (T : Int)) = some (preIdx T 0 n : Int) := by
  rw [E2E_C10_newPath (by omega) hn, Option.bind_some]
  exact E2E_C03_strict T h n fuel h1 h2 h30 hn hs hfuel

end Low
