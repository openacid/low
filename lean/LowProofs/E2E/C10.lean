import LowProofs.Props.C10
import LowProofs.Tie.bmtree_NewPath
import LowProofs.Tie.bmtree_PathLen
import LowProofs.Tie.bmtree_PathHeight
import LowProofs.Tie.bmtree_PathBits
import LowProofs.Tie.bmtree_PathMask
/-
  C10 end to end: `C10_newPath`, `C10_len`, `C10_height`, `C10_halves(_word)` stated about the definitions
  REGENERATED from the go/ssa form of `bmtree.NewPath`, `PathLen`, `PathHeight`, `PathBits`, `PathMask`
  (`Generated/Ssa/bmtree_*.lean`).  No model function occurs in the statements: only generated code and the
  specification vocabulary (`encPath`, `bitsVal`; nodes are branch lists `n : List Bool`, every `l`-bit prefix is
  `bitsVal n` of exactly one `n` of length `l`).
  (`PathStr` is in `E2E7/C10.lean`; the order clauses `C10_order` … are statements
  about `encPath` alone, i.e. through `E2E_C10_newPath` about the words the code of `NewPath` returns.)
-/
namespace Low

/-- The code of `NewPath` (regenerated from its SSA form), for every height `h ≤ 32` and every node `n` of
    length `l ≤ h`, called on the prefix of `n` left-aligned in `h` bits: does not panic and returns the specified
    path word `encPath h n`.
    Hypotheses: `h ≤ 32`, `n.length ≤ h` (the tie's `length ≤ 64` and `h < 2^31` follow). -/
theorem E2E_C10_newPath {h : Nat} {n : List Bool} (hh : h ≤ 32) (hl : n.length ≤ h) :
    Gen.Ssa.bmtree_NewPath (bitsVal n <<< (h - n.length)) (n.length : Int) (h : Int) = some (encPath h n) := by
  rw [Tie_bmtree_NewPath _ _ _ hl (by omega) (by omega), C10_newPath hh hl]

/-- The code of `PathLen` on a specified path word returns the length of the node. -/
theorem E2E_C10_len {h : Nat} {n : List Bool} (hh : h ≤ 32) (hl : n.length ≤ h) :
    Gen.Ssa.bmtree_PathLen (encPath h n) = (n.length : Int) := by
  rw [Tie_bmtree_PathLen, C10_len hh hl]

/-- The code of `PathHeight` on the path word of a non-root node returns the tree height. -/
theorem E2E_C10_height {h : Nat} {n : List Bool} (hh : h ≤ 32) (hl : n.length ≤ h) (hn : n ≠ []) :
    Gen.Ssa.bmtree_PathHeight (encPath h n) = (h : Int) := by
  rw [Tie_bmtree_PathHeight, C10_height hh hl hn]

/-- The code of `PathBits` / `PathMask` returns the upper / lower 32-bit half of ANY word (no hypothesis). -/
theorem E2E_C10_halves_word (p : Nat) :
    Gen.Ssa.bmtree_PathBits p = p >>> 32 ∧ Gen.Ssa.bmtree_PathMask p = p % 2 ^ 32 := by
  rw [Tie_bmtree_PathBits, Tie_bmtree_PathMask]; exact C10_halves_word p

/-- The code of `PathBits` / `PathMask` on a specified path word returns the left-aligned prefix / the
    left-aligned run of `|n|` ones. -/
theorem E2E_C10_halves {h : Nat} {n : List Bool} (hh : h ≤ 32) (hl : n.length ≤ h) :
    Gen.Ssa.bmtree_PathBits (encPath h n) = bitsVal n <<< (h - n.length) ∧
    Gen.Ssa.bmtree_PathMask (encPath h n) = (2 ^ n.length - 1) <<< (h - n.length) := by
  rw [Tie_bmtree_PathBits, Tie_bmtree_PathMask]; exact C10_halves hh hl

/-- Self-consistency stated PURELY on generated code: for every height `h ≤ 32`, length `l ≤ h` and `l`-bit
    prefix (given as the node `n`, `l = n.length`, prefix value `bitsVal n`), the code of `NewPath` on the
    left-aligned prefix returns (without panic) a word `p` on which the code of `PathLen` returns `l`, the code of
    `PathBits` returns the left-aligned prefix that was passed in, the code of `PathMask` returns `l` ones
    left-aligned in `h` bits, and -- unless `l = 0` (the root's word is 0 whatever the height) -- the code of
    `PathHeight` returns `h`.
    Hypotheses: `h ≤ 32`, `n.length ≤ h`. -/
theorem E2E_C10_roundtrip {h : Nat} {n : List Bool} (hh : h ≤ 32) (hl : n.length ≤ h) :
    ∃ p, Gen.Ssa.bmtree_NewPath (bitsVal n <<< (h - n.length)) (n.length : Int) (h : Int) = some p ∧
      Gen.Ssa.bmtree_PathLen p = (n.length : Int) ∧
      (n.length ≠ 0 → Gen.Ssa.bmtree_PathHeight p = (h : Int)) ∧
      Gen.Ssa.bmtree_PathBits p = bitsVal n <<< (h - n.length) ∧
      Gen.Ssa.bmtree_PathMask p = (2 ^ n.length - 1) <<< (h - n.length) :=
  ⟨encPath h n, E2E_C10_newPath hh hl, E2E_C10_len hh hl,
    fun hn => E2E_C10_height hh hl (fun e => hn (by rw [e]; rfl)),
    (E2E_C10_halves hh hl).1, (E2E_C10_halves hh hl).2⟩

/-! non-vacuity: node 101 in a tree of height 5 -/
example : Gen.Ssa.bmtree_NewPath 0b10100 3 5 = some 0x140000001c := by decide +kernel
example : Gen.Ssa.bmtree_PathLen 0x140000001c = 3 ∧ Gen.Ssa.bmtree_PathHeight 0x140000001c = 5 ∧
    Gen.Ssa.bmtree_PathBits 0x140000001c = 0b10100 ∧ Gen.Ssa.bmtree_PathMask 0x140000001c = 0b11100 := by decide +kernel
example : ∃ p, Gen.Ssa.bmtree_NewPath (bitsVal [true, false, true] <<< (5 - 3)) (3 : Nat) (5 : Nat) = some p ∧
      Gen.Ssa.bmtree_PathLen p = (3 : Nat) ∧ (3 ≠ 0 → Gen.Ssa.bmtree_PathHeight p = (5 : Nat)) ∧
      Gen.Ssa.bmtree_PathBits p = bitsVal [true, false, true] <<< (5 - 3) ∧
      Gen.Ssa.bmtree_PathMask p = (2 ^ 3 - 1) <<< (5 - 3) :=
  E2E_C10_roundtrip (n := [true, false, true]) (by decide +kernel) (by decide +kernel)

end Low
