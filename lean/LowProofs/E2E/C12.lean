import LowProofs.Props.C12
import LowProofs.Tie.bitmap_Get
import LowProofs.Tie.bitmap_Get1
import LowProofs.Tie.bitmap_SafeGet
import LowProofs.Tie.bitmap_SafeGet1
/-
  C12 end to end (inspection clauses): `C12_get`, `C12_get_oob`, `C12_safeGet` stated about the definitions
  REGENERATED from the go/ssa form of `bitmap.Get`, `Get1`, `SafeGet`, `SafeGet1` (`Generated/Ssa/*.lean`).
  No model function occurs in the statements: only the generated code and the specification `bitAt`.
  (The construction clauses of C12 -- `Of`, `OfMany`, `ToArray`, `Builder` -- are in `E2E2/C12.lean` and
  `E2E2/C12Builder.lean`.)
-/
namespace Low

/-- The code of `Get` and of `Get1` (regenerated from their SSA forms), for every position `i` inside the bitmap
    `ws`: no panic; `Get` returns bit `i` in place (`bit << (i % 64)`), `Get1` returns it as 0/1.
    Hypothesis: `i < 64 * ws.length` only (no size bound is needed for the equation; Go values have
    `i < 2^31`). -/
theorem E2E_C12_get (ws : List Nat) (i : Nat) (hi : i < 64 * ws.length) :
    Gen.Ssa.bitmap_Get ws (i : Int) = some ((bitAt ws i).toNat <<< (i % 64)) ∧
    Gen.Ssa.bitmap_Get1 ws (i : Int) = some (bitAt ws i).toNat := by
  rw [Tie_bitmap_Get, Tie_bitmap_Get1]
  exact C12_get ws i hi

/-- The code of `Get` and of `Get1` panics (`none`) for every position outside the bitmap: at or beyond the end,
    and negative.  This is what the `Safe` variants avoid. -/
theorem E2E_C12_get_oob (ws : List Nat) (i : Int) (hi : i < 0 ∨ 64 * (ws.length : Int) ≤ i) :
    Gen.Ssa.bitmap_Get ws i = none ∧ Gen.Ssa.bitmap_Get1 ws i = none := by
  by_cases h0 : i < 0
  · exact ⟨Tie_bitmap_Get_neg ws i h0, Tie_bitmap_Get1_neg ws i h0⟩
  · obtain ⟨n, rfl⟩ := Int.eq_ofNat_of_zero_le (by omega : 0 ≤ i)
    rw [Tie_bitmap_Get, Tie_bitmap_Get1]
    exact C12_get_oob ws n (by omega)

/-- The code of `SafeGet` and of `SafeGet1` (regenerated from their SSA forms), for a bitmap with
    `len(ws) < 2^31` (the code converts `len` to `int32`) and EVERY integer `i`: never panics; inside the bitmap
    the answers are bit `i` in place resp. as 0/1, and 0 for negative positions and positions at or beyond
    the end.
    Hypothesis: `ws.length < 2^31`. -/
theorem E2E_C12_safeGet (ws : List Nat) (i : Int) (hlen : ws.length < 2^31) :
    Gen.Ssa.bitmap_SafeGet ws i
      = some (if 0 ≤ i ∧ i < 64 * (ws.length : Int) then (bitAt ws i.toNat).toNat <<< (i.toNat % 64) else 0) ∧
    Gen.Ssa.bitmap_SafeGet1 ws i
      = some (if 0 ≤ i ∧ i < 64 * (ws.length : Int) then (bitAt ws i.toNat).toNat else 0) := by
  rw [Tie_bitmap_SafeGet ws i hlen, Tie_bitmap_SafeGet1 ws i hlen, (C12_safeGet ws i).1, (C12_safeGet ws i).2]
  exact ⟨rfl, rfl⟩

/-- Inside the bitmap the code of the `Safe` variants returns what the code of the panicking ones returns
    (stated purely on generated code). -/
theorem E2E_C12_safeGet_eq_get (ws : List Nat) (i : Nat) (hlen : ws.length < 2^31) (hi : i < 64 * ws.length) :
    Gen.Ssa.bitmap_SafeGet ws (i : Int) = Gen.Ssa.bitmap_Get ws (i : Int) ∧
    Gen.Ssa.bitmap_SafeGet1 ws (i : Int) = Gen.Ssa.bitmap_Get1 ws (i : Int) := by
  rw [Tie_bitmap_SafeGet ws _ hlen, Tie_bitmap_SafeGet1 ws _ hlen, Tie_bitmap_Get, Tie_bitmap_Get1,
    (C12_safeGet_eq_get ws i hi).1, (C12_safeGet_eq_get ws i hi).2]
  exact ⟨rfl, rfl⟩

example : Gen.Ssa.bitmap_Get [0, 6] 66 = some 4 ∧ Gen.Ssa.bitmap_Get1 [0, 6] 66 = some 1 := by decide +kernel
example : Gen.Ssa.bitmap_Get [0, 6] 128 = none ∧ Gen.Ssa.bitmap_Get1 [0, 6] (-1) = none := by decide +kernel
example : Gen.Ssa.bitmap_SafeGet [0, 6] 66 = some 4 ∧ Gen.Ssa.bitmap_SafeGet1 [0, 6] (-3) = some 0
    ∧ Gen.Ssa.bitmap_SafeGet1 [0, 6] 128 = some 0 := by decide +kernel

end Low
