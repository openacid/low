import LowProofs.Props.C11
import LowProofs.Tie.bmtree_PathOf
/-
  C11 end to end: `C11_fromStr32(_bits)` and `C11_pathOf` stated about the definitions REGENERATED from the go/ssa
  form of `bitmap.FromStr32` and `bmtree.PathOf` (`Generated/Ssa/*.lean`).  No model function occurs in the
  statements: only generated code and the specifications `bitsBE`, `bitsVal`, `encPath`.
  (`PathsOf` is in `E2E2/C11.lean`, `PathStr` in `E2E7/C10.lean`.)
-/
namespace Low

/-- The code of `FromStr32` (regenerated from its SSA form), for a string `s` (every element a byte) shorter than
    `2^28` bytes, any start bit `frm` and width `w ≤ 32` with `frm + w + 7` an `int32`: does not panic and returns
    `k = clamp (8|s| - frm, 0, w)` and the `w`-bit value whose top `k` bits are bits `[frm, frm+k)` of `s` and
    whose remaining `w - k` bits are 0.
    Hypotheses: `BytesOK s`, `s.length < 2^28`, `w ≤ 32`, `frm + w + 7 < 2^31` (the last two are the tie's int32
    domain; `C11_fromStr32` itself needs only `BytesOK s` and `w ≤ 32`). -/
theorem E2E_C11_fromStr32 {s : List Nat} (hs : BytesOK s) (frm w : Nat) (hw : w ≤ 32)
    (hlen : s.length < 2^28) (hdom : frm + w + 7 < 2^31) :
    Gen.Ssa.bitmap_FromStr32 s (frm : Int) ((frm + w : Nat) : Int) =
      some (((min (8 * s.length - frm) w : Nat) : Int),
       bitsVal (((bitsBE s).drop frm).take (min (8 * s.length - frm) w) ++
         List.replicate (w - min (8 * s.length - frm) w) false)) := by
  rw [Tie_bitmap_FromStr32 s frm (frm + w) (by omega) (by omega) hdom hlen hs, C11_fromStr32 hs frm w hw]

/-- The same bit by bit: the code of `FromStr32` returns some `(k, v)` with `k = min (8|s| - frm) w`, `v < 2^w`,
    bit `w-1-j` of `v` = bit `frm + j` of the string for `j < k`, and 0 for `k ≤ j < w`.  Same hypotheses. -/
theorem E2E_C11_fromStr32_bits {s : List Nat} (hs : BytesOK s) (frm w : Nat) (hw : w ≤ 32)
    (hlen : s.length < 2^28) (hdom : frm + w + 7 < 2^31) :
    ∃ v : Nat, Gen.Ssa.bitmap_FromStr32 s (frm : Int) ((frm + w : Nat) : Int)
        = some (((min (8 * s.length - frm) w : Nat) : Int), v) ∧
      v < 2 ^ w ∧
      (∀ j, j < min (8 * s.length - frm) w → (bitsBE s)[frm + j]? = some (v.testBit (w - 1 - j))) ∧
      (∀ j, min (8 * s.length - frm) w ≤ j → j < w → v.testBit (w - 1 - j) = false) := by
  obtain ⟨h1, h2, h3, h4⟩ := C11_fromStr32_bits hs frm w hw
  refine ⟨(fromStr32 s frm (frm + w)).2, ?_, h2, h3, h4⟩
  rw [Tie_bitmap_FromStr32 s frm (frm + w) (by omega) (by omega) hdom hlen hs, h1]

/-- The code of `PathOf` (regenerated from its SSA form, calling the regenerated `FromStr32`), for a string `s`
    shorter than `2^28` bytes, any start bit `frm` and height `h ≤ 32` with `frm + h + 7` an `int32`: does not
    panic and returns the path word of height `h` of the node spelled by bits `[frm, frm+k)` of `s`,
    `k = min (8|s| - frm) h`.
    Hypotheses: `BytesOK s`, `s.length < 2^28`, `h ≤ 32`, `frm + h + 7 < 2^31`. -/
theorem E2E_C11_pathOf {s : List Nat} (hs : BytesOK s) (frm h : Nat) (hh : h ≤ 32)
    (hlen : s.length < 2^28) (hdom : frm + h + 7 < 2^31) :
    Gen.Ssa.bmtree_PathOf s (frm : Int) (h : Int)
      = some (encPath h (((bitsBE s).drop frm).take (min (8 * s.length - frm) h))) := by
  rw [Tie_bmtree_PathOf s frm h hh hdom hlen hs, C11_pathOf hs frm h hh]

/-! non-vacuity: "abc" = 61 62 63; a 12-bit window starting at bit 20 runs off the end after 4 bits -/
example : Gen.Ssa.bitmap_FromStr32 [0x61, 0x62, 0x63] 4 16 = some (12, 0b000101100010)
    ∧ Gen.Ssa.bitmap_FromStr32 [0x61, 0x62, 0x63] 20 32 = some (4, 0b001100000000) := by decide +kernel
example : Gen.Ssa.bmtree_PathOf [0x61, 0x62, 0x63] 20 12 = some (encPath 12 [false, false, true, true]) := by
  decide +kernel

end Low
