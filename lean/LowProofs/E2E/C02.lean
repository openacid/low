import LowProofs.Tie2.bitmap_Select32
import LowProofs.Tie2.bitmap_Select32R64
import LowProofs.E2E.Lemmas
/-
  C02 end to end: `C02_select32` / `C02_select32R64` stated about the definitions REGENERATED from the go/ssa form
  of `bitmap.Select32` / `bitmap.Select32R64` (`Generated/Ssa2/*.lean`; the skip loops are recursion on `fuel`; the
  table `select8Lookup` is read through `GoSem2.tblSelect8`, i.e. the model's `select8Table`, which `E2E7/Tables.lean` shows
  equal to what the regenerated initialiser builds).
  Here the index arguments are those the model's `indexSelect32` / `indexRank64` build; `E2E2/C02.lean` states the clauses
  with the indexes the generated `IndexSelect32` / `IndexSelect32R64` return.
-/
namespace Low
open Low.E2EL

/-- The code of `Select32` (regenerated from its SSA form), for a bitmap `ws` of fewer than `2^25` words
    (`BmDom`), every word a `uint64`, with the index `IndexSelect32(ws)` (model-built), for every `i` below the
    number of 1-bits and EVERY `fuel ≥ len(ws) + 1`: terminates within the fuel, does not panic, and returns
    exactly (position of the `i`-th 1-bit, position of the `(i+1)`-th 1-bit or `64*len` when `i` is the last).
    Hypotheses: `ws.length < 2^25`, `WordsOK ws`, `i < (ones ws).length`, `ws.length + 1 ≤ fuel`.
    The tie's `len(selectIndex) < 2^31` is proved (`indexSelect32_length_le`). -/
theorem E2E_C02_select32 (ws : List Nat) (hlen : ws.length < 2^25) (hok : WordsOK ws) (i fuel : Nat)
    (hi : i < (ones ws).length) (hfuel : ws.length + 1 ≤ fuel) :
    Gen.Ssa2.bitmap_Select32 fuel ws ((indexSelect32 ws).map Int.ofNat) (i : Int)
      = some (((ones ws)[i] : Int), ((ones ws).getD (i + 1) (64 * ws.length) : Int)) := by
  rw [Tie_bitmap_Select32 ws _ i fuel hlen (by have := indexSelect32_length_le ws; omega) hfuel,
    C02_select32 ws hok i hi]
  rfl

/-- The code of `Select32R64` (regenerated from its SSA form), under the same conditions, with the two indexes
    `IndexSelect32R64(ws)` = (`IndexSelect32(ws)`, `IndexRank64(ws, true)`) (model-built), for EVERY
    `fuel ≥ len(ws) + 2`: terminates, does not panic, and returns the same pair.
    Hypotheses: `ws.length < 2^25`, `WordsOK ws`, `i < (ones ws).length`, `ws.length + 2 ≤ fuel`.
    The tie's hypotheses (entries of both indexes `< 2^31`, `len(rankIndex) < 2^31`, `i < 2^31`,
    `max (len words) (len rankIndex) + 1 ≤ fuel`) are all proved from these. -/
theorem E2E_C02_select32R64 (ws : List Nat) (hlen : ws.length < 2^25) (hok : WordsOK ws) (i fuel : Nat)
    (hi : i < (ones ws).length) (hfuel : ws.length + 2 ≤ fuel) :
    Gen.Ssa2.bitmap_Select32R64 fuel ws ((indexSelect32R64 ws).1.map Int.ofNat)
        ((indexSelect32R64 ws).2.map Int.ofNat) (i : Int)
      = some (((ones ws)[i] : Int), ((ones ws).getD (i + 1) (64 * ws.length) : Int)) := by
  have hn := ones_length_le ws
  have hrl := indexRank64_length ws true
  simp only [Bool.toNat_true] at hrl
  simp only [C02_indexSelect32R64]
  rw [Tie_bitmap_Select32R64 ws _ _ i fuel hlen
      (fun n h => by rcases indexSelect32_mem_lt h with h | h <;> omega)
      (by omega)
      (fun n h => by have := indexRank64_mem_le h; omega)
      (by omega)
      (by rw [hrl]; omega),
    C02_select32R64 ws hok i hi]
  rfl

/-! non-vacuity: 66 one-bits over three words with an empty word in the middle; a select that crosses the
    32-checkpoint and the empty word, and the last 1-bit (second component `64*len`) -/
example : Gen.Ssa2.bitmap_Select32 4 [2^64 - 1, 0, 2^63 + 1] ((indexSelect32 [2^64 - 1, 0, 2^63 + 1]).map Int.ofNat) 63
    = some (63, 128) := by decide +kernel
example : Gen.Ssa2.bitmap_Select32R64 5 [2^64 - 1, 0, 2^63 + 1]
    ((indexSelect32R64 [2^64 - 1, 0, 2^63 + 1]).1.map Int.ofNat)
    ((indexSelect32R64 [2^64 - 1, 0, 2^63 + 1]).2.map Int.ofNat) 65 = some (191, 192) := by decide +kernel

end Low
