import LowProofs.Props.C03
import LowProofs.Tie2.bmtree_PathToIndex
/-
  C03 end to end, part 1 (`Height`, `PathToIndex`; part 2 with `PathToIndexLoose` is `E2E/C03.lean` -- kept apart so that
  the checks of C04 and C05, whose statements mention `PathToIndex` only, do not depend on `PathToIndexLoose`): `C03_strict` stated about the
  definition REGENERATED from the go/ssa form of `bmtree.PathToIndex` (release build; `Generated/Ssa2/*.lean`, which calls the
  regenerated `Height`, `PathLen` and `shiftMulti`, the latter a loop: recursion on `fuel`).  No model function occurs in the
  statements: only generated code and the specifications `encPath`, `preIdx`.
  "`h` is the height of the tree with level bitmap `T`" is written as the input condition `2^h ≤ T < 2^(h+1)`,
  `h ≤ 30`; `E2E_C03_height` shows that this is exactly what the code of `Height` computes.
  (The specification facts `C03_preorder_*`, `C03_index_*` are about `preIdx` alone and need no tie; the `debug`
  build clauses are about the contract closures, which the release-build SSA does not contain.)
-/
namespace Low
open Low.C03L

/-- The code of `Height` (regenerated from its SSA form) on a level bitmap `T` with `2^h ≤ T < 2^(h+1)`,
    `h ≤ 30`, returns `h`. -/
theorem E2E_C03_height (T h : Nat) (h1 : 2^h ≤ T) (h2 : T < 2^(h+1)) (h30 : h ≤ 30) :
    Gen.Ssa.bmtree_Height (T : Int) = (h : Int) := by
  rw [Tie_bmtree_Height]; exact height_of_range h1 h2 h30

theorem E2EL.c03dom {T h : Nat} (h1 : 2^h ≤ T) (h2 : T < 2^(h+1)) (h30 : h ≤ 30) : 1 ≤ T ∧ T < 2^31 := by
  have b : 2^(h+1) ≤ 2^31 := Nat.pow_le_pow_right (by omega) (by omega)
  omega

/-- The code of `PathToIndex` (regenerated from its SSA form, release build), under the same conditions, for a
    node whose level is stored (`T.testBit n.length`), and EVERY `fuel ≥ 33`: terminates, does not panic, and
    returns the number of stored nodes before `n` in pre-order.
    Hypotheses: `2^h ≤ T`, `T < 2^(h+1)`, `h ≤ 30`, `n.length ≤ h`, `T.testBit n.length = true`, `33 ≤ fuel`
    (the tie's `1 ≤ T < 2^31` and `encPath h n < 2^64` are proved). -/
theorem E2E_C03_strict (T h : Nat) (n : List Bool) (fuel : Nat) (h1 : 2^h ≤ T) (h2 : T < 2^(h+1)) (h30 : h ≤ 30)
    (hn : n.length ≤ h) (hs : T.testBit n.length = true) (hfuel : 33 ≤ fuel) :
    Gen.Ssa2.bmtree_PathToIndex fuel (T : Int) (encPath h n) = some (preIdx T 0 n : Int) := by
  obtain ⟨a, b⟩ := E2EL.c03dom h1 h2 h30
  rw [Tie_bmtree_PathToIndex T _ fuel a b (encPath_lt64 h30 hn) hfuel,
    C03_strict T h n a b (height_of_range h1 h2 h30) hn hs]

/-! non-vacuity: level bitmap 0x72 (height 6, levels 1, 4, 5, 6 stored) -/
example : Gen.Ssa2.bmtree_PathToIndex 33 0x72 (encPath 6 [true, false, true, true]) = some 79 := by
  decide +kernel
example : Gen.Ssa2.bmtree_PathToIndex 40 ((0x72 : Nat) : Int) (encPath 6 [true, false, true, true])
    = some (preIdx 0x72 0 [true, false, true, true] : Int) :=
  E2E_C03_strict 0x72 6 _ 40 (by decide +kernel) (by decide +kernel) (by decide +kernel) (by decide +kernel) (by decide +kernel) (by decide +kernel)

end Low
