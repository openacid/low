import LowProofs.Props.C09
import LowProofs.Tie.bitstr_Len
import LowProofs.Tie2.bitstr_Cmp
import LowProofs.Tie2.bitstr_CmpUpto
import LowProofs.E2E.Lemmas
/-
  C09 end to end: the `Len` clause of `C09_new`, `C09_cmp` and `C09_cmpUpto` stated about the definitions
  REGENERATED from the go/ssa form of `bitstr.Len`, `bitstr.Cmp`, `bitstr.CmpUpto` (`Generated/Ssa/bitstr_Len.lean`,
  `Generated/Ssa2/bitstr_Cmp.lean`, `bitstr_CmpUpto.lean`; the latter calls the regenerated `cmpBytes`, a loop:
  recursion on `fuel`; `bytes.Compare` is the trusted `bytesCompare`).
  Here the encodings are those the model's `bsNew` builds; `E2E2/C09.lean` states the clauses on what the generated `New`
  returns, `E2E9/C09.lean` has `StrCmpUpto`.
-/
namespace Low
open Low.E2EL

/-- For a byte string `s` with `len(s) + 1 < 2^28` and `0 ≤ from ≤ to ≤ 8*len(s)`: `New(s, from, to)` (model-built)
    does not panic and returns bytes `enc` on which the CODE of `Len` (regenerated from its SSA form) returns,
    without panic, the length in bits of the bit string `s[8*floor(from/8), to)`; the first `Len` bits of `enc` are
    that bit string.
    Hypotheses: `BytesOK s`, `f ≤ t`, `t ≤ 8 * s.length`, `s.length + 1 < 2^28` (the last one is the tie's int32
    domain `len(enc) < 2^28`, through the proved bound `len(enc) ≤ len(s) + 1`). -/
theorem E2E_C09_new_len (s : List Nat) (hs : BytesOK s) (f t : Nat) (hft : f ≤ t) (ht : t ≤ 8 * s.length)
    (hlen : s.length + 1 < 2^28) :
    ∃ enc, bsNew s f t = some enc ∧ BytesOK enc ∧
      Gen.Ssa.bitstr_Len enc = some ((t : Int) - 8 * ((f / 8 : Nat) : Int)) ∧
      (bitsBE enc).take (t - 8 * (f / 8)) = bsPayload s f t := by
  obtain ⟨enc, h1, h2, h3, h4⟩ := C09_new s hs f t hft ht
  refine ⟨enc, h1, h2, ?_, h4⟩
  rw [Tie_bitstr_Len enc (by have := bsNew_length_le h1; omega), h3]

/-- The CODE of `Cmp` (regenerated from its SSA form) on two encodings `New(s,f,t)`, `New(s',f',t')` (model-built)
    does not panic and returns the sign of the lexicographic comparison of the two bit strings, a proper prefix
    sorting first.
    Hypotheses: those of `C09_cmp` (`BytesOK`, `f ≤ t ≤ 8*len(s)` for both) and `s.length + 1 < 2^63`,
    `s'.length + 1 < 2^63` (a Go length always fits an `int`; they give the tie's `len(enc) < 2^63`). -/
theorem E2E_C09_cmp (s : List Nat) (hs : BytesOK s) (f t : Nat) (hft : f ≤ t) (ht : t ≤ 8 * s.length)
    (s' : List Nat) (hs' : BytesOK s') (f' t' : Nat) (hft' : f' ≤ t') (ht' : t' ≤ 8 * s'.length)
    (hlen : s.length + 1 < 2^63) (hlen' : s'.length + 1 < 2^63)
    (enc enc' : List Nat) (he : bsNew s f t = some enc) (he' : bsNew s' f' t' = some enc') :
    Gen.Ssa2.bitstr_Cmp enc enc' = some (lexCmp (bsPayload s f t) (bsPayload s' f' t')) := by
  rw [Tie_bitstr_Cmp enc enc' (by have := bsNew_length_le he; omega) (by have := bsNew_length_le he'; omega)]
  exact C09_cmp s hs f t hft ht s' hs' f' t' hft' ht' enc enc' he he'

/-- The CODE of `CmpUpto` (regenerated from its SSA form), for plain bytes `a` of ANY length, an encoding
    `enc = New(s,f,t)` (model-built) and EVERY `fuel ≥ 9`: terminates, does not panic, and returns the sign of
    comparing the first `Len(enc)` bits of `a` (all of `a` when shorter) with the encoded bit string.
    Hypotheses: those of `C09_cmpUpto` and `s.length + 1 < 2^63`, `9 ≤ fuel`. -/
theorem E2E_C09_cmpUpto (a : List Nat) (ha : BytesOK a)
    (s : List Nat) (hs : BytesOK s) (f t : Nat) (hft : f ≤ t) (ht : t ≤ 8 * s.length)
    (hlen : s.length + 1 < 2^63) (fuel : Nat) (hfuel : 9 ≤ fuel)
    (enc : List Nat) (he : bsNew s f t = some enc) :
    Gen.Ssa2.bitstr_CmpUpto fuel a enc
      = some (lexCmp ((bitsBE a).take (t - 8 * (f / 8))) (bsPayload s f t)) := by
  rw [Tie_bitstr_CmpUpto a enc fuel (by have := bsNew_length_le he; omega) hfuel]
  exact C09_cmpUpto a ha s hs f t hft ht enc he

/-! non-vacuity: `New("abc", 5, 12) = 61 60 f0` -/
example : bsNew [0x61, 0x62, 0x63] 5 12 = some [0x61, 0x60, 0xf0]
    ∧ Gen.Ssa.bitstr_Len [0x61, 0x60, 0xf0] = some 12 := by decide +kernel
example : Gen.Ssa2.bitstr_Cmp [0x61, 0x60, 0xf0] [0x61, 0x62, 0xff] = some (-1)
    ∧ Gen.Ssa2.bitstr_Cmp [0x61, 0x60, 0xf0] [0x61, 0xff] = some 1 := by decide +kernel
example : Gen.Ssa2.bitstr_CmpUpto 9 [0x61, 0x6f, 0x00] [0x61, 0x60, 0xf0] = some 0
    ∧ Gen.Ssa2.bitstr_CmpUpto 9 [0x61] [0x61, 0x60, 0xf0] = some (-1) := by decide +kernel

end Low
