import LowProofs.Props.C08
import LowProofs.Tie2.bitword_bitWord_FirstDiff
/-
  C08 end to end: the `Get` clause of `C08_fromStr` and `C08_firstDiff(_empty)` stated about the definitions
  REGENERATED from the go/ssa form of the methods `bitWord.Get` and `bitWord.FirstDiff`
  (`Generated/Ssa2/bitword_bitWord_*.lean`; the loop of `FirstDiff` is recursion on `fuel` and calls the regenerated
  `Get`).  The receiver is passed field by field: `(width, byteCap, wordMask) = (n, 8/n, bwWordMask n)` are the values
  `newBW(n)` stores (these three numbers are the model-side part of the statements; `E2E7/C08.lean` takes the receiver
  from the generated `newBW` / the table `BitWord`; `FromStr` / `ToStr` are in `E2E2/C08.lean`).  No model function occurs
  in the conclusions: only generated code and the specification `bwWordAt`.
-/
namespace Low

theorem E2EL.width_cases {n : Nat} (hn : n ∈ [1,2,4,8]) : n = 1 ∨ n = 2 ∨ n = 4 ∨ n = 8 := by
  simpa using hn

/-- The code of `bitWord.Get` (regenerated from its SSA form), for a width `n ∈ {1,2,4,8}`, a string `s` shorter
    than `2^60` bytes and every word index `i < 8*len(s)/n`: does not panic and returns the `n` bits of `s` starting
    at bit `i*n`, most significant first (`bwWordAt`).
    Hypotheses: `n ∈ [1,2,4,8]`, `BytesOK s`, `s.length < 2^60`, `i < 8 * s.length / n` (the tie's `n * i < 2^63`
    is proved from the last two). -/
theorem E2E_C08_get (n : Nat) (hn : n ∈ [1,2,4,8]) (s : List Nat) (hs : BytesOK s) (hlen : s.length < 2^60)
    (i : Nat) (hi : i < 8 * s.length / n) :
    Gen.Ssa2.bitword_bitWord_Get (n : Int) ((8 / n : Nat) : Int) (bwWordMask n) s (i : Int)
      = some (bwWordAt n s i) := by
  have h1 : n * i ≤ 8 * s.length :=
    Nat.le_trans (Nat.mul_le_mul_left n (Nat.le_of_lt hi)) (Nat.mul_div_le _ _)
  rw [Tie_bitword_bitWord_Get n (E2EL.width_cases hn) s i (by omega)]
  exact ((C08_fromStr n hn s hs).2 i hi).2

/-- The code of `bitWord.FirstDiff` (regenerated from its SSA form), for a width `n ∈ {1,2,4,8}`, strings `a`, `b`
    shorter than `2^60` bytes, `0 ≤ from`, ANY `end` (also `-1`, beyond either string, `≤ from`, negative) and EVERY
    `fuel ≥ words(a) + 1`: with `lim = min(end', words(a), words(b))`, `end' = words(a)` if `end = -1` and `end`
    otherwise, terminates, does not panic and returns the smallest index in `[from, lim)` at which the words of
    `a` and `b` differ, or `lim` if there is none.
    Hypotheses: `n ∈ [1,2,4,8]`, `BytesOK a`, `BytesOK b`, `a.length < 2^60`, `b.length < 2^60`, `0 ≤ frm`,
    `a.length * (8 / n) + 1 ≤ fuel`. -/
theorem E2E_C08_firstDiff (n : Nat) (hn : n ∈ [1,2,4,8]) (a b : List Nat) (ha : BytesOK a) (hb : BytesOK b)
    (hla : a.length < 2^60) (hlb : b.length < 2^60) (frm e : Int) (hfrm : 0 ≤ frm)
    (fuel : Nat) (hfuel : a.length * (8 / n) + 1 ≤ fuel) :
    let wa : Int := ((8 * a.length / n : Nat) : Int)
    let wb : Int := ((8 * b.length / n : Nat) : Int)
    let lim : Int := min (min (if e = -1 then wa else e) wa) wb
    ∃ r, Gen.Ssa2.bitword_bitWord_FirstDiff fuel (n : Int) ((8 / n : Nat) : Int) (bwWordMask n) a b frm e = some r ∧
      (r = lim ∨ (frm ≤ r ∧ r < lim ∧ bwWordAt n a r.toNat ≠ bwWordAt n b r.toNat)) ∧
      ∀ j, frm ≤ j → j < r → bwWordAt n a j.toNat = bwWordAt n b j.toNat := by
  have h0 : (0 : Int) ≤ (n : Int) * frm := Int.mul_nonneg (by omega) hfrm
  rw [Tie_bitword_bitWord_FirstDiff n (E2EL.width_cases hn) a b frm e fuel hla hlb (by omega) hfuel]
  exact C08_firstDiff n hn a b ha hb frm e hfrm

/-- In particular an empty window (`lim ≤ from`) makes the code return `lim` itself. -/
theorem E2E_C08_firstDiff_empty (n : Nat) (hn : n ∈ [1,2,4,8]) (a b : List Nat) (ha : BytesOK a) (hb : BytesOK b)
    (hla : a.length < 2^60) (hlb : b.length < 2^60) (frm e : Int) (hfrm : 0 ≤ frm)
    (fuel : Nat) (hfuel : a.length * (8 / n) + 1 ≤ fuel) :
    let wa : Int := ((8 * a.length / n : Nat) : Int)
    let wb : Int := ((8 * b.length / n : Nat) : Int)
    let lim : Int := min (min (if e = -1 then wa else e) wa) wb
    lim ≤ frm →
      Gen.Ssa2.bitword_bitWord_FirstDiff fuel (n : Int) ((8 / n : Nat) : Int) (bwWordMask n) a b frm e = some lim := by
  intro wa wb lim h
  have h0 : (0 : Int) ≤ (n : Int) * frm := Int.mul_nonneg (by omega) hfrm
  rw [Tie_bitword_bitWord_FirstDiff n (E2EL.width_cases hn) a b frm e fuel hla hlb (by omega) hfuel]
  exact C08_firstDiff_empty n hn a b ha hb frm e hfrm h

example : Gen.Ssa2.bitword_bitWord_Get 2 4 3 [0xb4, 0x1e] 6 = some 3 ∧ bwWordAt 2 [0xb4, 0x1e] 6 = 3 := by decide +kernel
example : Gen.Ssa2.bitword_bitWord_FirstDiff 7 4 2 15 [0x12, 0x34, 0x56] [0x12, 0x35, 0x56, 0x78] 1 (-1) = some 3 := by
  decide +kernel

end Low
