import LowProofs.Props.C05
import LowProofs.Tie2.bmtree_IndexToPath
import LowProofs.E2E.C03Strict
/-
  C05 end to end: `C05_inverse` / `C05_inverse'` stated about the definition REGENERATED from the go/ssa form of
  `bmtree.IndexToPath` (`Generated/Ssa2/bmtree_IndexToPath.lean`; its loop is recursion on `fuel`; the table
  `idxToPath` is read through `GoSem2.tblIdxToPath`, which `E2E7/Tables.lean` shows equal to what the regenerated initialiser
  builds), and -- composed with `E2E_C03_strict` -- BOTH directions of the
  property stated purely on generated code:
    `PathToIndex_gen (full h) (IndexToPath_gen h idx) = idx`   and
    `IndexToPath_gen h (PathToIndex_gen (full h) (path word of n)) = path word of n`.
  `full h = 2^(h+1) - 1` is the level bitmap of the full tree of height `h`.
-/
namespace Low

private theorem full_lo (h : Nat) : 2^h ≤ 2^(h+1) - 1 := by
  have := Nat.two_pow_pos h; omega
private theorem full_hi (h : Nat) : 2^(h+1) - 1 < 2^(h+1) := by
  have := Nat.two_pow_pos (h+1); omega
private theorem full_bit {h k : Nat} (hk : k ≤ h) : (2^(h+1) - 1).testBit k = true := by
  rw [Nat.testBit_two_pow_sub_one]; simp; omega

/-- The code of `IndexToPath` (regenerated from its SSA form), for every height `h ≤ 30`, every index
    `idx < 2^(h+1) - 1` of the full tree and EVERY `fuel ≥ 32`: terminates within the fuel, does not panic, and
    returns exactly the path word (`encPath h`, well-formed by construction) of the node at pre-order position
    `idx` (`nodeAt h idx`, whose pre-order index is `idx` by `C05_nodeAt`).
    Hypotheses: `h ≤ 30`, `idx < 2^(h+1) - 1`, `32 ≤ fuel` (`min h 31 + 1 ≤ fuel` would do). -/
theorem E2E_C05_inverse {h idx fuel : Nat} (hh : h ≤ 30) (hi : idx < 2 ^ (h + 1) - 1) (hfuel : 32 ≤ fuel) :
    Gen.Ssa2.bmtree_IndexToPath fuel (h : Int) (idx : Int) = some (encPath h (nodeAt h idx)) := by
  rw [Tie_bmtree_IndexToPath h _ fuel (by omega) (by omega), C05_inverse hh hi]

/-- The "equivalently" clause: the code of `IndexToPath` on the pre-order index of a node `n` of the full tree
    returns the path word of `n`. -/
theorem E2E_C05_inverse' {h : Nat} {n : List Bool} {fuel : Nat} (hh : h ≤ 30) (hn : n.length ≤ h)
    (hfuel : 32 ≤ fuel) :
    Gen.Ssa2.bmtree_IndexToPath fuel (h : Int) ((preIdx (2 ^ (h + 1) - 1) 0 n : Nat) : Int)
      = some (encPath h n) := by
  rw [E2E_C05_inverse hh (C05_preIdx_lt hn) hfuel, C05_nodeAt' hn]

/-- Direction 1, purely on generated code: for every `h ≤ 30`, `idx < 2^(h+1) - 1`, `fuel ≥ 32`, `fuel' ≥ 33`:
    the code of `IndexToPath` returns a path word on which the code of `PathToIndex` (for the full tree of
    height `h`) returns `idx`; neither panics. -/
theorem E2E_C05_roundtrip {h idx fuel fuel' : Nat} (hh : h ≤ 30) (hi : idx < 2 ^ (h + 1) - 1)
    (hfuel : 32 ≤ fuel) (hfuel' : 33 ≤ fuel') :
    (Gen.Ssa2.bmtree_IndexToPath fuel (h : Int) (idx : Int)).bind
        (Gen.Ssa2.bmtree_PathToIndex fuel' ((2 ^ (h + 1) - 1 : Nat) : Int)) = some (idx : Int) := by
  obtain ⟨hlen, hpre⟩ := C05_nodeAt hi
  rw [E2E_C05_inverse hh hi hfuel, Option.bind_some,
    E2E_C03_strict (2 ^ (h + 1) - 1) h (nodeAt h idx) fuel' (full_lo h) (full_hi h) hh hlen (full_bit hlen) hfuel',
    hpre]

/-- Direction 2, purely on generated code: for every node `n` of depth `≤ h ≤ 30`, the code of `PathToIndex`
    (full tree of height `h`) on the path word of `n` returns an index on which the code of `IndexToPath`
    returns that path word again; neither panics. -/
theorem E2E_C05_roundtrip' {h : Nat} {n : List Bool} {fuel fuel' : Nat} (hh : h ≤ 30) (hn : n.length ≤ h)
    (hfuel : 32 ≤ fuel) (hfuel' : 33 ≤ fuel') :
    (Gen.Ssa2.bmtree_PathToIndex fuel' ((2 ^ (h + 1) - 1 : Nat) : Int) (encPath h n)).bind
        (Gen.Ssa2.bmtree_IndexToPath fuel (h : Int)) = some (encPath h n) := by
  rw [E2E_C03_strict (2 ^ (h + 1) - 1) h n fuel' (full_lo h) (full_hi h) hh hn (full_bit hn) hfuel',
    Option.bind_some]
  exact E2E_C05_inverse' hh hn hfuel

/-! non-vacuity (height 6: shortcut not taken for idx 3, taken for idx 100) -/
example : Gen.Ssa2.bmtree_IndexToPath 32 6 100 = some (encPath 6 [true, true, false, false, false, false]) := by
  decide +kernel
example : (Gen.Ssa2.bmtree_IndexToPath 32 6 100).bind (Gen.Ssa2.bmtree_PathToIndex 33 127) = some 100 := by
  decide +kernel
example : (Gen.Ssa2.bmtree_IndexToPath 32 ((6 : Nat) : Int) ((3 : Nat) : Int)).bind
    (Gen.Ssa2.bmtree_PathToIndex 33 ((2 ^ (6 + 1) - 1 : Nat) : Int)) = some ((3 : Nat) : Int) :=
  E2E_C05_roundtrip (by decide +kernel) (by decide +kernel) (by decide +kernel) (by decide +kernel)

end Low
