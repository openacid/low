import LowProofs.Props.C13
import LowProofs.Tie2.bitmap_NextOne
import LowProofs.Tie2.bitmap_PrevOne
/-
  C13 end to end: the clauses of `Props/C13.lean` stated about the definitions REGENERATED from the go/ssa form of
  `bitmap.NextOne` / `bitmap.PrevOne` (`Generated/Ssa2/*.lean`; loops are recursion on `fuel`), by composing
  `C13_next` / `C13_prev` with `Tie_bitmap_NextOne` / `Tie_bitmap_PrevOne`.  No model function occurs in the
  statements: only the generated code and the specification `bitAt`.
-/
namespace Low

/-- The code of `NextOne` (regenerated from its SSA form), for a bitmap `ws` of fewer than `2^25` words
    (`BmDom`), every word a `uint64`, `0 ≤ i ≤ end ≤ 64*len(ws)` and `i` inside the bitmap, and for EVERY
    `fuel ≥ len(ws) + 1`: terminates within the fuel, does not panic, and returns `-1` exactly when `[i, end)`
    holds no 1-bit, otherwise the smallest position of a 1-bit in `[i, end)`.
    Hypotheses: `ws.length < 2^25`, `WordsOK ws`, `i ≤ e`, `e ≤ 64 * ws.length`, `i < 64 * ws.length`,
    `ws.length + 1 ≤ fuel`. -/
theorem E2E_C13_next (ws : List Nat) (i e fuel : Nat) (hlen : ws.length < 2^25) (hok : WordsOK ws)
    (hie : i ≤ e) (he : e ≤ 64 * ws.length) (hi : i < 64 * ws.length) (hfuel : ws.length + 1 ≤ fuel) :
    ∃ r : Int, Gen.Ssa2.bitmap_NextOne fuel ws (i : Int) (e : Int) = some r ∧
      ((r = -1 ∧ ∀ p, i ≤ p → p < e → bitAt ws p = false) ∨
       (∃ q : Nat, r = (q : Int) ∧ i ≤ q ∧ q < e ∧ bitAt ws q = true ∧
          ∀ p, i ≤ p → p < q → bitAt ws p = false)) := by
  rw [Tie_bitmap_NextOne ws i e fuel hlen hfuel]
  exact C13_next ws i e hok hie he hi

/-- The code of `PrevOne` (regenerated from its SSA form), for a bitmap `ws` of fewer than `2^25` words, every
    word a `uint64`, `0 ≤ i ≤ end ≤ 64*len(ws)`, `i` inside the bitmap, `end ≥ 1`, and for EVERY
    `fuel ≥ len(ws)`: terminates within the fuel, does not panic, and returns `-1` exactly when `[i, end)` holds
    no 1-bit, otherwise the largest position of a 1-bit in `[i, end)`.
    Hypotheses: `ws.length < 2^25`, `WordsOK ws`, `i ≤ e`, `e ≤ 64 * ws.length`, `i < 64 * ws.length`, `1 ≤ e`,
    `ws.length ≤ fuel`.  The tie's hypothesis `e < 2^31` follows from `e ≤ 64 * ws.length < 2^31`. -/
theorem E2E_C13_prev (ws : List Nat) (i e fuel : Nat) (hlen : ws.length < 2^25) (hok : WordsOK ws)
    (hie : i ≤ e) (he : e ≤ 64 * ws.length) (hi : i < 64 * ws.length) (he1 : 1 ≤ e) (hfuel : ws.length ≤ fuel) :
    ∃ r : Int, Gen.Ssa2.bitmap_PrevOne fuel ws (i : Int) (e : Int) = some r ∧
      ((r = -1 ∧ ∀ p, i ≤ p → p < e → bitAt ws p = false) ∨
       (∃ q : Nat, r = (q : Int) ∧ i ≤ q ∧ q < e ∧ bitAt ws q = true ∧
          ∀ p, q < p → p < e → bitAt ws p = false)) := by
  rw [Tie_bitmap_PrevOne ws i e fuel hlen hok (by omega) hfuel]
  exact C13_prev ws i e hok hie he hi he1

/-! non-vacuity: the generated code skips two all-zero words and finds bit 63 of word 3; clipping; PrevOne -/
example : Gen.Ssa2.bitmap_NextOne 5 [1, 0, 0, 2^63] 1 256 = some 255 := by decide +kernel
example : Gen.Ssa2.bitmap_NextOne 5 [1, 0, 0, 2^63] 1 255 = some (-1) := by decide +kernel
example : Gen.Ssa2.bitmap_PrevOne 4 [1, 0, 0, 2^63] 0 255 = some 0 := by decide +kernel
example : ∃ r : Int, Gen.Ssa2.bitmap_NextOne 7 [1, 0, 0, 2^63] ((1 : Nat) : Int) ((256 : Nat) : Int) = some r ∧
      ((r = -1 ∧ ∀ p, 1 ≤ p → p < 256 → bitAt [1, 0, 0, 2^63] p = false) ∨
       (∃ q : Nat, r = (q : Int) ∧ 1 ≤ q ∧ q < 256 ∧ bitAt [1, 0, 0, 2^63] q = true ∧
          ∀ p, 1 ≤ p → p < q → bitAt [1, 0, 0, 2^63] p = false)) :=
  E2E_C13_next [1, 0, 0, 2^63] 1 256 7 (by decide +kernel)
    (by intro w hw; simp at hw; rcases hw with h | h | h <;> subst h <;> decide +kernel)
    (by decide +kernel) (by decide +kernel) (by decide +kernel) (by decide +kernel)

end Low
