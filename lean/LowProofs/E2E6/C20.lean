import LowProofs.Props.C20
import LowProofs.Tie6.size_Of
/-
  C20 end to end: the clauses of C20 (`C20_of`, `C20_nil`, `C20_table`, `C20_slice_append`) stated PURELY about the
  definitions REGENERATED from the go/ssa form of `size.Of` and `size.sizeof` (`Generated/Ssa6/size_Of.lean`,
  `size_sizeof.lean`: the directly recursive `sizeof` closed with a depth counter, its four loops as recursion on
  `fuel`, `reflect` as the abstract value tree of `LowModel/GoSem6.lean`).  No model function (`sizeOf`, `sizeOfTop`)
  occurs in the statements: only generated code, the specification `structSize` (the property's table, LowModel/SizeOf.lean)
  and `Tie6.erase`, which forgets the `reflect.Kind` of the scalars (the spec is stated on widths).
  (Composition of `Tie_size_Of` with the theorems of `Props/C20.lean`.)

  Domain (hypotheses about the INPUT only): the tree is built from the supported kinds (`(erase v).supported`: no
  chan / func / unsafe.Pointer); lengths are Go ints (`width v ≤ 2^63`); the structural sum is `< 2^63` (it fits the
  `int` result).  Fuel: EVERY `fuel ≥ depth v` and `≥ width v`.
  `C20_stat` (the first line of `Stat`) is NOT restated: `size.stat` formats with `fmt.Sprintf` and is refused by the
  translator (see tools/ssa2lean6/README.md); it calls the same `sizeof(v)`.
-/
namespace Low
open Low.GoSem6 Low.Tie6

/-- C20_of: `size.Of` returns the structural sum (and does not panic) for every value built from the supported kinds -/
theorem E2E_C20_of (fuel : Nat) (v : RVal) (hsup : (erase v).supported = true) (hd : depth v ≤ fuel) (hw : width v ≤ fuel)
    (hl : width v ≤ 9223372036854775808) (hs : structSize (erase v) < 9223372036854775808) :
    Gen.Ssa6.size_Of fuel (some v) = some ((structSize (erase v) : Nat) : Int) := by
  rw [Tie_size_Of fuel v hd hw hl hs, C20_of _ hsup]; rfl

/-- C20_nil: a nil argument has size 0 (for every fuel) -/
theorem E2E_C20_nil (fuel : Nat) : Gen.Ssa6.size_Of fuel none = some 0 := by
  rw [Tie_size_Of_nil]; rfl

/-- the same for `sizeof` itself on a Value (what `Stat` prints in its header line) -/
theorem E2E_C20_sizeof (fuel : Nat) (v : RVal) (hsup : (erase v).supported = true) (hd : depth v ≤ fuel)
    (hw : width v ≤ fuel) (hl : width v ≤ 9223372036854775808) (hs : structSize (erase v) < 9223372036854775808) :
    Gen.Ssa6.size_sizeof fuel (some v) = some ((structSize (erase v) : Nat) : Int) := by
  rw [Tie_size_sizeof fuel v hd hw hl hs, sizeOf_eq _ hsup]; rfl

/-- the domain of the clauses below -/
def InDom (fuel : Nat) (v : RVal) : Prop :=
  (erase v).supported = true ∧ depth v ≤ fuel ∧ width v ≤ fuel ∧ width v ≤ 9223372036854775808 ∧
    structSize (erase v) < 9223372036854775808

theorem E2E_C20_of' {fuel : Nat} {v : RVal} (h : InDom fuel v) :
    Gen.Ssa6.size_Of fuel (some v) = some ((structSize (erase v) : Nat) : Int) :=
  E2E_C20_of fuel v h.1 h.2.1 h.2.2.1 h.2.2.2.1 h.2.2.2.2

/-- C20_table, clause by clause, about the regenerated `size.Of`: the fixed width of a scalar; header 16 / 24 / 8 / 8 /
    16 plus the parts for strings, slices, maps, pointers, interfaces; the plain sum for arrays and structs -/
theorem E2E_C20_table (fuel : Nat) :
    (∀ k, InDom fuel (.scalar k) → Gen.Ssa6.size_Of fuel (some (.scalar k)) = some ((k.size : Nat) : Int)) ∧
    (∀ n, InDom fuel (.str n) → Gen.Ssa6.size_Of fuel (some (.str n)) = some ((16 + n : Nat) : Int)) ∧
    (∀ es, InDom fuel (.slice es) →
      Gen.Ssa6.size_Of fuel (some (.slice es)) = some ((24 + structSizeList (eraseList es) : Nat) : Int)) ∧
    (∀ ps, InDom fuel (.map ps) →
      Gen.Ssa6.size_Of fuel (some (.map ps)) = some ((8 + structSizePairs (erasePairs ps) : Nat) : Int)) ∧
    (InDom fuel (.ptr none) → Gen.Ssa6.size_Of fuel (some (.ptr none)) = some 8) ∧
    (∀ p, InDom fuel (.ptr (some p)) →
      Gen.Ssa6.size_Of fuel (some (.ptr (some p))) = some ((8 + structSize (erase p) : Nat) : Int)) ∧
    (InDom fuel (.iface none) → Gen.Ssa6.size_Of fuel (some (.iface none)) = some 16) ∧
    (∀ p, InDom fuel (.iface (some p)) →
      Gen.Ssa6.size_Of fuel (some (.iface (some p))) = some ((16 + structSize (erase p) : Nat) : Int)) ∧
    (∀ es, InDom fuel (.arr es) →
      Gen.Ssa6.size_Of fuel (some (.arr es)) = some ((structSizeList (eraseList es) : Nat) : Int)) ∧
    (∀ fs, InDom fuel (.struct fs) →
      Gen.Ssa6.size_Of fuel (some (.struct fs)) = some ((structSizeList (eraseList fs) : Nat) : Int)) := by
  refine ⟨?_, ?_, ?_, ?_, ?_, ?_, ?_, ?_, ?_, ?_⟩
  · intro k h; rw [E2E_C20_of' h]; simp [erase, structSize]
  · intro n h; rw [E2E_C20_of' h]; simp [erase, structSize]
  · intro es h; rw [E2E_C20_of' h]; simp [erase, structSize]
  · intro ps h; rw [E2E_C20_of' h]; simp [erase, structSize]
  · intro h; rw [E2E_C20_of' h]; simp [erase, structSize]
  · intro p h; rw [E2E_C20_of' h]; simp [erase, structSize]
  · intro h; rw [E2E_C20_of' h]; simp [erase, structSize]
  · intro p h; rw [E2E_C20_of' h]; simp [erase, structSize]
  · intro es h; rw [E2E_C20_of' h]; simp [erase, structSize]
  · intro fs h; rw [E2E_C20_of' h]; simp [erase, structSize]

theorem eraseList_append : ∀ xs ys : List RVal, eraseList (xs ++ ys) = eraseList xs ++ eraseList ys
  | [], ys => by simp [eraseList]
  | x :: r, ys => by simp [eraseList, eraseList_append r ys]

/-- C20_slice_append: a slice of `xs ++ ys` costs one header plus both parts -/
theorem E2E_C20_slice_append (fuel : Nat) (xs ys : List RVal) (h : InDom fuel (.slice (xs ++ ys))) :
    Gen.Ssa6.size_Of fuel (some (.slice (xs ++ ys)))
      = some ((24 + structSizeList (eraseList xs) + structSizeList (eraseList ys) : Nat) : Int) := by
  rw [E2E_C20_of' h]
  simp only [erase, structSize, eraseList_append, structSizeList_append]
  rw [Nat.add_assoc]

/-- outside the supported kinds: a channel / func / unsafe.Pointer at the top makes `size.Of` panic ("unknown kind") -/
theorem E2E_C20_opaque (fuel : Nat) (k : Opaque) (h : 1 ≤ fuel) : Gen.Ssa6.size_Of fuel (some (.opaque k)) = none := by
  rw [Tie_size_Of fuel (.opaque k) (by simp [depth]; omega) (by simp [width]; omega) (by simp [width])
    (by simp [erase, structSize])]
  simp [erase, sizeOfTop, sizeOf]

/-! ### non-vacuity: the generated definitions EVALUATED on concrete trees (the hypotheses of the clauses hold for them) -/

/-- `struct{ M map[string]int32; P *int64; S string }{ {"ab": 1}, nil, "xyz" }`: (8 + (16+2) + 4) + 8 + (16+3) = 57 -/
def ex1 : RVal := .struct [.map [(.str 2, .scalar .int32)], .ptr none, .str 3]
example : Gen.Ssa6.size_Of 4 (some ex1) = some 57 := by decide +kernel
example : InDom 4 ex1 := by unfold InDom; decide +kernel

/-- `[][]uint16{{1,2,3},{}}` : 24 + (24 + 6) + 24 = 78; a nil pointer: 8; a string: 16 + 5 -/
def ex2 : RVal := .slice [.slice [.scalar .uint16, .scalar .uint16, .scalar .uint16], .slice []]
example : Gen.Ssa6.size_Of 4 (some ex2) = some 78 := by decide +kernel
example : InDom 4 ex2 := by unfold InDom; decide +kernel
example : Gen.Ssa6.size_Of 1 (some (.ptr none)) = some 8 := by decide +kernel
example : Gen.Ssa6.size_Of 6 (some (.str 5)) = some 21 := by decide +kernel
/-- `[]interface{}{uint(7), nil, &struct{A uintptr; B [2]bool}{}}` : 24 + (16+8) + 16 + (16 + 8 + (8 + 2)) = 98 -/
def ex3 : RVal := .slice [.iface (some (.scalar .uint)), .iface none,
  .iface (some (.ptr (some (.struct [.scalar .uintptr, .arr [.scalar .bool, .scalar .bool]]))))]
example : Gen.Ssa6.size_Of 6 (some ex3) = some 98 := by decide +kernel
example : InDom 6 ex3 := by unfold InDom; decide +kernel
/-- too little fuel is `none`, a func inside a struct panics -/
example : Gen.Ssa6.size_Of 3 (some (.str 5)) = none := by decide +kernel
example : Gen.Ssa6.size_Of 9 (some (.struct [.scalar .int, .opaque .func])) = none := by decide +kernel

end Low
