import Generated.Ssa2.iohelper_SectionWriter_Write
import LowProofs.Tie2.Lemmas
import LowProofs.Tie.iohelper_SectionWriter_Seek
import LowModel.Iohelper
/-
  Tie: the definition regenerated from the SSA form of `(*iohelper.SectionWriter).Write` equals the hand-written
  model `SectionWriter.write`.  The generated definition takes the receiver's fields `base`, `off`, `limit`, the
  buffer `p` and the answer `ans` of the underlying `io.WriterAt` (external call, `GoSem2.extWriteAt`), and returns
  `(n, err, final value of off, what was handed to the underlying writer)`; `off` is the only field the method
  stores to, so `base` and `limit` are unchanged by construction of the translation (in the model: second conjunct).
  The model works with `len p` only (`plen`), and records the underlying call as `UCall = (offset, length)`.
-/
namespace Low
open Low.GoSem Low.Tie2L

/-- Domain: every receiver state with `limit - off < 2^63` (`hsub`), every buffer of a length that fits an `int`
    (`hp`: `convert int64 <- int (len p)` is the identity; always true in Go), every answer of the underlying writer.
    No range hypothesis on the individual fields is needed (all `int64` sums wrap on both sides).

    `hsub` is a GENUINE DOMAIN RESTRICTION: for `off < limit` with `limit - off ≥ 2^63` (possible for in-range
    `int64` fields: any pair more than `MaxInt64` apart, e.g. `off = -2^62`, `limit = 2^63 - 1`, see the last two
    examples below) the `int64` subtraction `max := s.limit - s.off` wraps to a NEGATIVE value, `len(p) > max` holds for every `p`, and the Go code
    evaluates `p[0:max]` with a negative bound: a run-time panic (generated definition: `none`), whereas the model
    `SectionWriter.write` clamps with `mx.toNat = 0` and reports a zero-length write.  For `off ≥ limit` the
    hypothesis holds trivially.  It holds for every writer made by `NewSectionWriter(w, off, n)` with `off ≥ 0`,
    `n ≥ 0`, `off + n ≤ MaxInt64` and moved by `Seek`/`Write` (then `base ≤ off`, so `limit - off ≤ limit - base = n`),
    and more generally whenever `0 ≤ base ≤ off` or `limit - base` does not overflow.
    Under `hsub`: total, no panic. -/
theorem Tie_iohelper_SectionWriter_Write (s : SectionWriter) (p : List Nat) (ans : UAns)
    (hsub : s.limit - s.off < 2^63) (hp : p.length < 2^63) :
    Gen.Ssa2.iohelper_SectionWriter_Write s.base s.off s.limit p ⟨ans.accept, ans.fail⟩
      = some ((s.write p.length ans).2.1.n, ioErrId (s.write p.length ans).2.1.err, (s.write p.length ans).1.off,
              (s.write p.length ans).2.2.map (fun u => (u.off, (u.len : Int))))
    ∧ (s.write p.length ans).1.base = s.base ∧ (s.write p.length ans).1.limit = s.limit := by
  rw [Gen.Ssa2.iohelper_SectionWriter_Write, SectionWriter.write]
  by_cases h0 : s.off ≥ s.limit
  · simp [h0, ioErrId]
  · have hmx : wrap64 (s.limit - s.off) = s.limit - s.off := wrap64_id (by omega) (by omega)
    have hlen : toI64 (len p) = (p.length : Int) := by rw [len_eq]; exact toI64_ofNat_lt (by omega)
    simp only [h0, subI64, hmx, hlen, UAns.apply, GoSem2.extWriteAt, decide_false, Bool.false_eq_true, ↓reduceIte]
    by_cases h1 : (p.length : Int) > s.limit - s.off
    · obtain ⟨m, hm⟩ : ∃ m : Nat, s.limit - s.off = (m : Int) := ⟨(s.limit - s.off).toNat, by omega⟩
      have hml : m ≤ p.length := by omega
      have hmin : min m p.length = m := by omega
      have hn : toI64 ((min ans.accept m : Nat) : Int) = ((min ans.accept m : Nat) : Int) :=
        toI64_ofNat_lt (by omega)
      rw [hm] at h1
      simp only [hm, h1, decide_true, ↓reduceIte, slice_zero_ofNat p hml, Option.bind_some, List.length_take, hmin,
        Int.toNat_natCast, hn, addI64, len_eq, Option.map_some]
      generalize (ans.fail || decide (ans.accept < m)) = failed
      cases failed <;> simp [GoSem2.extErr, ioErrId]
    · have hn : toI64 ((min ans.accept p.length : Nat) : Int) = ((min ans.accept p.length : Nat) : Int) :=
        toI64_ofNat_lt (by omega)
      simp only [h1, decide_false, Bool.false_eq_true, ↓reduceIte, hn, addI64, len_eq, Option.map_some]
      by_cases hf : ans.fail = true <;> by_cases ha : ans.accept < p.length <;>
        simp [hf, ha, GoSem2.extErr, ioErrId]

example : Gen.Ssa2.iohelper_SectionWriter_Write 10 12 20 [1, 2, 3, 4, 5, 6, 7, 8, 9, 10] ⟨100, false⟩ = some (8, some "io.ErrShortWrite", 20, some (12, 8)) := by decide +kernel
example : Gen.Ssa2.iohelper_SectionWriter_Write 10 12 20 [1, 2, 3, 4, 5] ⟨3, false⟩ = some (3, some "(error of the underlying writer)", 15, some (12, 5)) := by decide +kernel
example : (SectionWriter.write ⟨10, 12, 20⟩ 10 ⟨100, false⟩) = (⟨10, 20, 20⟩, ⟨8, some .shortWrite⟩, some ⟨12, 8⟩) := by decide +kernel
-- outside `hsub` (`limit - off ≥ 2^63`): the code panics in `p[0:max]` (negative `max`), the model does not
example : Gen.Ssa2.iohelper_SectionWriter_Write 0 (-4611686018427387904) 9223372036854775807 [1] ⟨1, false⟩ = none := by decide +kernel
example : (SectionWriter.write ⟨0, -4611686018427387904, 9223372036854775807⟩ 1 ⟨1, false⟩).2.1 = ⟨0, some .shortWrite⟩ := by decide +kernel

end Low
