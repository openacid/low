import Generated.Ssa2.bitstr_CmpUpto
import LowProofs.Tie2.bitstr_cmpBytes
import LowModel.Bitstr
/-
  Tie: the definition regenerated from the SSA form of `bitstr.CmpUpto` (loop-free itself, but it calls `cmpBytes`,
  which has a loop, hence the `fuel` argument) equals the hand-written model `bsCmpUpto`.  The call of `cmpBytes` is
  replaced by the model's `cmpBytes` with `Tie_bitstr_cmpBytes`.
-/
namespace Low
open Low.GoSem Low.TieL Low.Tie2L

/-- the sharper fuel bound: `fuel ≥ min (len a) 8 + 1` (both calls of `cmpBytes` get a first argument that is no
    longer than `a`) -/
theorem Tie_bitstr_CmpUpto_fuel (a b : List Nat) (fuel : Nat) (hlb : b.length < 2^63)
    (hfuel : min a.length 8 + 1 ≤ fuel) :
    Gen.Ssa2.bitstr_CmpUpto fuel a b = bsCmpUpto a b := by
  have hf2 : ∀ k, min (min k a.length) 8 + 1 ≤ fuel := fun k => by omega
  rw [Gen.Ssa2.bitstr_CmpUpto, bsCmpUpto]
  simp only [len_eq]
  by_cases h1 : b.length = 1
  · simp [h1]
  have h1' : ¬ (b.length : Int) = 1 := by omega
  simp only [h1, h1', decide_false, Bool.false_eq_true, ↓reduceIte]
  by_cases h0 : b.length = 0
  · -- `lb = 0`: `la < -1` is false, then `a[:-2]` panics
    have e1 : subI64 ((0 : Nat) : Int) 1 = -1 := by decide
    have e2 : subI64 ((0 : Nat) : Int) 2 = -2 := by decide
    have hlt : ¬ (a.length : Int) < -1 := by omega
    simp only [h0, e1, e2, hlt, decide_false, Bool.false_eq_true, ↓reduceIte, ite_self]
    rfl
  have e1 : subI64 (b.length : Int) 1 = ((b.length - 1 : Nat) : Int) := subI64_ofNat (b := 1) (by omega) hlb
  have e2 : subI64 (b.length : Int) 2 = ((b.length - 2 : Nat) : Int) := subI64_ofNat (b := 2) (by omega) hlb
  have e3 : subI64 ((b.length - 1 : Nat) : Int) 1 = ((b.length - 1 - 1 : Nat) : Int) :=
    subI64_ofNat (b := 1) (by omega) (by omega)
  simp only [h0, ↓reduceIte, e1, e2, e3, Int.ofNat_lt, decide_eq_true_eq]
  by_cases hlt : a.length < b.length - 1
  · -- `la < lb-1`: `cmpBytes(a, b[:lb-1])`
    simp only [hlt, ↓reduceIte]
    rw [slice_zero_ofNat _ (by omega), Option.bind_some, Tie_bitstr_cmpBytes _ _ _ hfuel]
    cases cmpBytes a (List.take (b.length - 1) b) <;> rfl
  · -- `la ≥ lb-1`: `cmpBytes(a[:lb-2], b[:lb-2])`, then the last byte under the mask
    simp only [hlt, ↓reduceIte]
    rw [slice_zero_ofNat _ (by omega), Option.bind_some, slice_zero_ofNat _ (by omega), Option.bind_some,
      Tie_bitstr_cmpBytes _ _ _ (by rw [List.length_take]; exact hf2 _)]
    cases cmpBytes (List.take (b.length - 2) a) (List.take (b.length - 2) b) with
    | none => rfl
    | some rst =>
      simp only [Option.bind_some, ne_eq, ite_not, index_ofNat, andU8, gt_iff_lt]
      by_cases hr : rst = 0
      · simp only [hr, ↓reduceIte]
        cases a[b.length - 1 - 1]? <;> cases b[b.length - 1]? <;> cases b[b.length - 1 - 1]? <;> rfl
      · simp only [hr, ↓reduceIte]

/-- Domain: `len(b) < 2^63` (a Go length always fits an `int`; the hypothesis only excludes a wrap of `lb - 1`,
    `lb - 2` that cannot happen).  No hypothesis on `len(a)` (it is only compared and used as a slice bound) and
    none on the bytes (`&` on `Nat` is the byte `&`).
    Fuel: every `fuel ≥ 9` (the loop of `cmpBytes` runs only on a first argument shorter than 8 bytes).
    Where the Go function panics (`lb = 0`: `a[:-2]`; `lb ≥ 2` with `cmpBytes` running out of `b`; the byte reads)
    both sides are `none`. -/
theorem Tie_bitstr_CmpUpto (a b : List Nat) (fuel : Nat) (hlb : b.length < 2^63) (hfuel : 9 ≤ fuel) :
    Gen.Ssa2.bitstr_CmpUpto fuel a b = bsCmpUpto a b :=
  Tie_bitstr_CmpUpto_fuel a b fuel hlb (by omega)

example : Gen.Ssa2.bitstr_CmpUpto 9 [1, 2, 0xab, 7] [1, 2, 0xa0, 0xf0] = some 0 := by decide +kernel
example : bsCmpUpto [1, 2, 0xab, 7] [1, 2, 0xa0, 0xf0] = some 0 := by decide +kernel
example : Gen.Ssa2.bitstr_CmpUpto 9 [1, 2] [1, 2, 0xa0, 0xf0] = some (-1) := by decide +kernel
example : Gen.Ssa2.bitstr_CmpUpto 9 [1, 2, 0xab] [] = none := by decide +kernel
example : Gen.Ssa2.bitstr_CmpUpto 9 [1, 2, 0xbb, 7] [1, 2, 0xa0, 0xf0] = some 1 := by decide +kernel

end Low
