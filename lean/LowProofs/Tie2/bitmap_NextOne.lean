import Generated.Ssa2.bitmap_NextOne
import LowProofs.Tie2.Lemmas
import LowModel.Bitmap.Next
/-
  Tie: the definition regenerated from the SSA form of `bitmap.NextOne` (a function with a loop) equals the
  hand-written model `nextOne`.  The generated loop `bitmap_NextOne_loop5` walks an index `i` (`bm[i>>6]`, `i += 64`),
  the model's `nextLoop` recurses over the suffix `bm.drop (i/64)`; `NextOne_loop` relates the two by induction on
  the suffix, for an arbitrary continuation `k` (the code after the loop, passed to the loop as `blk2`).
-/
namespace Low
open Low.GoSem Low.TieL Low.Tie2L

/-- at the word-aligned position `64*j`, `rest = bm[j:]`, any continuation `k`; fuel `len(rest) + 1` -/
theorem NextOne_loop (fuel : Nat) (bm : List Nat) (i : Int) (e : Nat) (k : Int → Option Int)
    (hlen : bm.length < 2^25) :
    ∀ (rest : List Nat) (j gas : Nat), rest = bm.drop j → rest.length + 1 ≤ gas →
      Gen.Ssa2.bitmap_NextOne_loop5 fuel bm i (e : Int) k gas ((64 * j : Nat) : Int)
        = (nextLoop e rest (64 * j)).bind (fun r => k (match r with | none => -1 | some p => (p : Int)))
  | [], j, gas, hr, hg => by
    obtain ⟨g, rfl, hg'⟩ := gas_pos hg
    have hnone : bm[64 * j / 64]? = none := by
      rw [Nat.mul_div_cancel_left _ (by omega : 0 < 64)]; exact getElem?_of_drop_eq_nil hr
    rw [Gen.Ssa2.bitmap_NextOne_loop5, nextLoop]
    simp only [shrI32_6_ofNat, index_ofNat, hnone, Int.ofNat_lt, decide_eq_true_eq]
    by_cases h : 64 * j < e <;> simp [h]
  | w :: r, j, gas, hr, hg => by
    obtain ⟨g, rfl, hg'⟩ := gas_pos hg
    have hjl : j < bm.length := drop_eq_cons_lt hr
    have hw : bm[64 * j / 64]? = some w := by
      rw [Nat.mul_div_cancel_left _ (by omega : 0 < 64)]; exact getElem?_of_drop_eq_cons hr
    have ih := NextOne_loop fuel bm i e k hlen r (j + 1) g (drop_succ_of_drop_eq_cons hr)
      hg'
    have htz : tz w 64 ≤ 64 := tz_le _ _
    rw [Gen.Ssa2.bitmap_NextOne_loop5, nextLoop]
    simp only [shrI32_6_ofNat, index_ofNat, hw, Int.ofNat_lt, decide_eq_true_eq, Option.bind_some]
    by_cases h : 64 * j < e
    · by_cases h0 : w = 0
      · have e1 : addI32 ((64 * j : Nat) : Int) 64 = ((64 * (j + 1) : Nat) : Int) := by
          have := addI32_ofNat (a := 64 * j) (b := 64) (by omega)
          simpa [Nat.mul_add] using this
        simp only [h, h0, e1, ih]
        simp [Nat.mul_add]
      · have e1 : addI32 ((64 * j : Nat) : Int) (toI32 (trailingZeros64 w)) = ((64 * j + tz w 64 : Nat) : Int) := by
          rw [toI32_tz64]; exact addI32_ofNat (by omega)
        simp only [h, h0, e1, ↓reduceIte, ne_eq, not_false_eq_true, Option.bind_some]
    · simp [h]

/-- Domain: `bm` with fewer than `2^25` words (the project's `BmDom`: bit positions fit an `int32`), `i` and `end`
    any non-negative `int32` (as `Nat`; the equation needs no upper bound: where `i/64 ≥ len(bm)` both sides panic).
    Fuel: every `fuel ≥ len(bm) + 1` (the loop visits each word at most once, plus the final test).
    No hypothesis on the words.  Where the Go function panics (`bm[i>>6]` out of range, also inside the loop when
    `end > 64*len(bm)`) both sides are `none`. -/
theorem Tie_bitmap_NextOne (bm : List Nat) (i e fuel : Nat) (hlen : bm.length < 2^25)
    (hfuel : bm.length + 1 ≤ fuel) :
    Gen.Ssa2.bitmap_NextOne fuel bm (i : Int) (e : Int) = nextOne bm i e := by
  have hj : i % 64 < 64 := Nat.mod_lt _ (by omega)
  rw [Gen.Ssa2.bitmap_NextOne, nextOne]
  simp only [shrI32_6_ofNat, andI32_63_ofNat, index_ofNat, tblRMask_ofNat (Nat.lt_trans hj (by omega)), andU64_eq]
  cases hw : bm[i / 64]? with
  | none => rfl
  | some w0 =>
    have hil : i / 64 < bm.length := (List.getElem?_eq_some_iff.mp hw).1
    simp only [Option.bind_some, Option.bind_eq_bind]
    generalize w0 &&& rmask (i % 64) = word
    have htz : tz word 64 ≤ 64 := tz_le _ _
    by_cases h0 : word = 0
    · have e1 : addI32 (i : Int) 63 = ((i + 63 : Nat) : Int) := addI32_ofNat (b := 63) (by omega)
      have e2 : andI32 ((i + 63 : Nat) : Int) (-64) = ((64 * ((i + 63) / 64) : Nat) : Int) := by
        rw [andI32_neg64_ofNat (by omega), Nat.mul_comm]
      have e3 : (i + 63) / 64 * 64 / 64 = (i + 63) / 64 := Nat.mul_div_cancel _ (by omega)
      simp only [h0, ne_eq, not_true_eq_false, decide_false, Bool.false_eq_true, ↓reduceIte, e1, e2]
      rw [NextOne_loop fuel bm i e _ hlen _ ((i + 63) / 64) fuel rfl (by simp only [List.length_drop]; omega),
        e3, Nat.mul_comm 64]
      cases nextLoop e (List.drop ((i + 63) / 64) bm) ((i + 63) / 64 * 64) with
      | none => rfl
      | some r =>
        cases r with
        | none => simp
        | some p =>
          simp only [Option.bind_some, ge_iff_le, Int.ofNat_le, decide_eq_true_eq]
    · have e1 : shlI32 ((i / 64 : Nat) : Int) 6 = ((i / 64 * 64 : Nat) : Int) := shlI32_6_ofNat (by omega)
      have e2 : addI32 ((i / 64 * 64 : Nat) : Int) (toI32 (trailingZeros64 word)) = ((i / 64 * 64 + tz word 64 : Nat) : Int) := by
        rw [toI32_tz64]; exact addI32_ofNat (by omega)
      simp only [h0, ne_eq, not_false_eq_true, decide_true, ↓reduceIte, e1, e2, ge_iff_le,
        Int.ofNat_le, decide_eq_true_eq]

example : Gen.Ssa2.bitmap_NextOne 4 [0, 0, 0x10] 3 192 = some 132 := by decide +kernel
example : nextOne [0, 0, 0x10] 3 192 = some 132 := by decide +kernel
example : Gen.Ssa2.bitmap_NextOne 4 [0, 0, 0x10] 3 132 = some (-1) := by decide +kernel
example : Gen.Ssa2.bitmap_NextOne 1 [0, 0, 0x10] 3 192 = none := by decide +kernel

end Low
