import Generated.Ssa2.bitword_bitWord_FirstDiff
import LowProofs.Tie2.bitword_bitWord_Get
import LowModel.Bitword
/-
  Tie: the definition regenerated from the SSA form of `(*bitword.bitWord).FirstDiff` (a function with a loop that
  calls `Get`) equals the hand-written model `bwFirstDiff`.  The generated loop `bitword_bitWord_FirstDiff_loop9`
  counts `i` from `from` up to the clamped `end`; the model's `bwFirstDiffLoop` does the same with the fuel
  `(end - from).toNat`; `FirstDiff_loop` relates the two by induction on `(end - i).toNat`, using the tie of `Get`
  for `i ≥ 0` and `bitword_bitWord_Get_neg` for `i < 0`.
-/
namespace Low
open Low.GoSem Low.Tie2L

/-- the loop at position `i`, with `d = (e - i).toNat` iterations to go and at least `d + 1` units of fuel
    (for a negative `i` one unit is enough: both sides panic at once); `bc` = the field `byteCap`, not read here.
    `he`: `w.width * k` inside `Get` does not wrap for `0 ≤ k ≤ e`;
    `hlo` (only used for `i < 0`): `w.width * i` does not wrap for the negative start. -/
theorem FirstDiff_loop (fuel n : Nat) (hn : n = 1 ∨ n = 2 ∨ n = 4 ∨ n = 8) (bc : Int) (a b : List Nat)
    (arg3 arg4 e : Int) (he : ∀ k : Nat, (k : Int) ≤ e → n * k < 2^63) :
    ∀ (d gas : Nat) (i : Int), d = (e - i).toNat → 1 ≤ gas → (0 ≤ i → d + 1 ≤ gas) → (i < 0 → -2^63 ≤ (n : Int) * i) →
      Gen.Ssa2.bitword_bitWord_FirstDiff_loop9 fuel (n : Int) bc (bwWordMask n) a b arg3 arg4 e gas i
        = bwFirstDiffLoop n a b e d i
  | 0, gas, i, hd, hg1, hg, hlo => by
    obtain ⟨g, rfl, _⟩ := gas_pos (n := 0) hg1
    have h : ¬ i < e := by omega
    rw [Gen.Ssa2.bitword_bitWord_FirstDiff_loop9, bwFirstDiffLoop]
    simp [h]
  | d+1, gas, i, hd, hg1, hg, hlo => by
    obtain ⟨g, rfl, _⟩ := gas_pos (n := 0) hg1
    have h : i < e := by omega
    rw [Gen.Ssa2.bitword_bitWord_FirstDiff_loop9, bwFirstDiffLoop]
    by_cases hneg : i < 0
    · simp only [h, hneg, decide_true, ↓reduceIte, bitword_bitWord_Get_neg n hn _ _ a i hneg (hlo hneg),
        Option.bind_none]
    · obtain ⟨k, rfl⟩ : ∃ k : Nat, i = (k : Int) := ⟨i.toNat, by omega⟩
      have hk : n * k < 2^63 := he k (Int.le_of_lt h)
      have hk1 : n * (k + 1) < 2^63 := he (k + 1) (Int.add_one_le_of_lt h)
      have hkn : k + 1 ≤ n * (k + 1) := Nat.le_mul_of_pos_left _ (by omega)
      have H : d = (e - ((k : Int) + 1)).toNat ∧ 1 ≤ g ∧ d + 1 ≤ g ∧ (k : Int) + 1 < 9223372036854775808 := by omega
      have e1 : addI64 (k : Int) 1 = ((k : Int) + 1) := by
        exact wrap64_id (by omega) H.2.2.2
      have ih := FirstDiff_loop fuel n hn bc a b arg3 arg4 e he d g ((k : Int) + 1) H.1 H.2.1 (fun _ => H.2.2.1)
        (fun h0 => absurd h0 (by omega))
      simp only [h, hneg, decide_true, ↓reduceIte, bitword_bitWord_Get_eq n hn bc a k hk,
        bitword_bitWord_Get_eq n hn bc b k hk, Int.toNat_natCast, e1, ih]
      cases bwGet n a k with
      | none => rfl
      | some x =>
        cases bwGet n b k with
        | none => rfl
        | some y => by_cases hxy : x = y <;> simp [hxy]

/-- Domain: `n ∈ {1,2,4,8}` (receiver made by `newBW(n)`), `a`, `b` any strings shorter than `2^60` bytes (`ha`, `hb`:
    the `int` products `len(a) * w.byteCap`, `len(b) * w.byteCap` (`byteCap ≤ 8`) and `w.width * i` inside `Get` for
    `i < end ≤ len * byteCap` do not wrap; NO hypothesis on the bytes), `end` ANY `int` (`-1` = up to the shorter length;
    it is clamped to both lengths; a very negative `end` is returned as it is by both sides), `from` any `int` with
    `-2^63 ≤ n * from` (`hfrm`; true for every `from ≥ -2^60`, in particular every `from ≥ 0`): for a negative `from`
    below the clamped `end`, the model says panic (`Get` reads `s[negative]`), and so does the code as long as
    `w.width * from` does not wrap; for `from < -2^60` it may wrap to a valid offset (e.g. `n = 8`, `from = -2^61`:
    offset 0) and the code would go on where the model says `none` — a genuine (and practically irrelevant) domain
    restriction, the same as `hith` of `Tie_bitword_bitWord_Get`.
    Fuel: every `fuel ≥ len(a) * (8/n) + 1` (at most one iteration per word of `a`, plus the final test).
    Where the Go function panics (negative `from` below `end`) both sides are `none`. -/
theorem Tie_bitword_bitWord_FirstDiff (n : Nat) (hn : n = 1 ∨ n = 2 ∨ n = 4 ∨ n = 8) (a b : List Nat) (frm e : Int)
    (fuel : Nat) (ha : a.length < 2^60) (hb : b.length < 2^60) (hfrm : -2^63 ≤ (n : Int) * frm)
    (hfuel : a.length * (8 / n) + 1 ≤ fuel) :
    Gen.Ssa2.bitword_bitWord_FirstDiff fuel (n : Int) ((8 / n : Nat) : Int) (bwWordMask n) a b frm e
      = bwFirstDiff n a b frm e := by
  rw [Gen.Ssa2.bitword_bitWord_FirstDiff, bwFirstDiff]
  have hnm : n * (8 / n) = 8 := by rcases hn with h | h | h | h <;> subst h <;> rfl
  have hla : n * (a.length * (8 / n)) < 2^63 := by rw [Nat.mul_left_comm, hnm]; omega
  have hlb : n * (b.length * (8 / n)) < 2^63 := by rw [Nat.mul_left_comm, hnm]; omega
  have hn1 : 1 ≤ n := by omega
  simp only [len_eq, mulI64_ofNat (Nat.lt_of_le_of_lt (Nat.le_mul_of_pos_left _ hn1) hla),
    mulI64_ofNat (Nat.lt_of_le_of_lt (Nat.le_mul_of_pos_left _ hn1) hlb), ← Int.natCast_mul]
  generalize a.length * (8 / n) = la at hla hfuel ⊢
  generalize b.length * (8 / n) = lb at hlb ⊢
  have key : ∀ x e' : Int, e' ≤ (la : Int) →
      Gen.Ssa2.bitword_bitWord_FirstDiff_loop9 fuel (n : Int) ((8 / n : Nat) : Int) (bwWordMask n) a b frm x e' fuel frm
        = bwFirstDiffLoop n a b e' (e' - frm).toNat frm := fun x e' he' =>
    FirstDiff_loop fuel n hn _ a b frm x e'
      (fun k hk => Nat.lt_of_le_of_lt (Nat.mul_le_mul_left n (by omega : k ≤ la)) hla)
      _ fuel frm rfl (by omega) (by omega) (fun _ => hfrm)
  by_cases h1 : e = -1
  · by_cases h3 : (lb : Int) < (la : Int)
    · simp only [h1, h3, gt_iff_lt, Int.lt_irrefl, decide_true, decide_false, ↓reduceIte, Bool.false_eq_true]
      exact key _ _ (by omega)
    · simp only [h1, h3, gt_iff_lt, Int.lt_irrefl, decide_true, decide_false, ↓reduceIte, Bool.false_eq_true]
      exact key _ _ (by omega)
  · by_cases h2 : (la : Int) < e
    · by_cases h3 : (lb : Int) < (la : Int)
      · simp only [h1, h2, h3, decide_true, decide_false, ↓reduceIte, Bool.false_eq_true]
        exact key _ _ (by omega)
      · simp only [h1, h2, h3, decide_true, decide_false, ↓reduceIte, Bool.false_eq_true]
        exact key _ _ (by omega)
    · by_cases h4 : (lb : Int) < e
      · simp only [h1, h2, h4, decide_true, decide_false, ↓reduceIte, Bool.false_eq_true]
        exact key _ _ (by omega)
      · simp only [h1, h2, h4, decide_false, ↓reduceIte, Bool.false_eq_true]
        exact key _ _ (by omega)

example : Gen.Ssa2.bitword_bitWord_FirstDiff 9 2 4 3 [0x1b, 0xe4] [0x1b, 0xe0, 0xff] 1 (-1) = some 6 := by decide +kernel
example : bwFirstDiff 2 [0x1b, 0xe4] [0x1b, 0xe0, 0xff] 1 (-1) = some 6 := by decide +kernel
example : Gen.Ssa2.bitword_bitWord_FirstDiff 5 4 2 15 [0x1b, 0xe4] [0x1b, 0xe4, 0xff] 0 9 = some 4 := by decide +kernel
example : Gen.Ssa2.bitword_bitWord_FirstDiff 5 4 2 15 [0x1b, 0xe4] [0x1b, 0xe4, 0xff] (-1) 3 = none := by decide +kernel
example : Gen.Ssa2.bitword_bitWord_FirstDiff 4 4 2 15 [0x1b, 0xe4] [0x1b, 0xe4, 0xff] 0 9 = none := by decide +kernel
-- outside `hfrm` (`8 * -2^61 = -2^64` wraps to offset 0): the code compares `a[0]`, `b[0]`, the model says panic
example : Gen.Ssa2.bitword_bitWord_FirstDiff 5 8 1 255 [7] [8] (-2305843009213693952) 1 = some (-2305843009213693952) := by decide +kernel
example : bwFirstDiff 8 [7] [8] (-2305843009213693952) 1 = none := by decide +kernel

end Low
