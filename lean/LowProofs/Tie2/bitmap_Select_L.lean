import LowModel.Bitmap.Select
import LowProofs.Tie2.Lemmas
import LowProofs.Lemmas.C02Word
/-
  Shared lemmas for the ties of `bitmap.Select32` and `bitmap.Select32R64`:
   * `selChain`: the `32 / 16 / 8 / table` in-word search in the shape in which go/ssa emits it (a chain of join
     blocks, generic in the continuation `k` = the code after the search), `selChain_eq`: it is the model's `selWord`,
     `selChain_neg`: with a negative `findIth` the table index `uint64(findIth)` is out of range (panic);
   * `scan_loop`: the final "next non-zero word" loop, for any function `L` that satisfies the one-step equation of
     the generated loop, is the model's `nextNonZero`.
-/
namespace Low.Tie2Sel
open Low Low.GoSem Low.TieL Low.Tie2L Low.C02L

/-- the two `int32` results of `Select32` / `Select32R64`, from the model's `Nat`s -/
def castPair (p : Nat × Nat) : Int × Int := ((p.1 : Int), (p.2 : Int))

theorem sel8Row_le : ∀ (n w v : Nat), v ∈ sel8Row n w → v ≤ 8
  | 0, _, _, h => by cases h
  | n+1, w, v, h => by
    rcases List.mem_cons.mp h with rfl | h
    · exact tz_le 8 w
    · exact sel8Row_le n _ v h

/-- every table entry is a `tz _ 8`, hence at most 8 (8 = "not found") -/
theorem sel8_le {idx v : Nat} (h : sel8 idx = some v) : v ≤ 8 := by
  unfold sel8 select8Table at h
  rw [List.getElem?_toArray] at h
  obtain ⟨b, _, hb⟩ := List.mem_flatMap.mp (List.mem_of_getElem? h)
  exact sel8Row_le 8 b v hb

/-- the table has 256 rows of 8 entries -/
theorem sel8_ge {idx : Nat} (h : 2048 ≤ idx) : sel8 idx = none := by
  unfold sel8 select8Table
  rw [List.getElem?_toArray, C02L.flatMap_getElem? (by decide) (C02L.sel8Row_length 8),
    List.getElem?_eq_none (by rw [List.length_range]; omega)]
  rfl

/-- blocks 7/8/10 of `Select32R64` (10/11/13 of `Select32`; block numbers of the SSA listing at the head of the
    `Generated/Ssa2` file): the byte step and the table lookup; `k` = the code after the search -/
def selChain3 {α : Type} (k : Int → Option α) (ww : Nat) (f : Int) (off : Int) : Option α :=
  if decide (onesCount8 (toU8 (ww : Int)) ≤ f) = true then
    Option.bind (GoSem2.tblSelect8
        ((orU64 (andU64 (shrU64 ww 5) 2040) (toU64 (subI64 f (onesCount8 (toU8 (ww : Int))))) : Nat) : Int))
      fun v => k (addI32 (addI32 (toI32 (v : Int)) off) 8)
  else
    Option.bind (GoSem2.tblSelect8 ((orU64 (shlU64 (andU64 ww 255) 3) (toU64 f) : Nat) : Int))
      fun v => k (addI32 (toI32 (v : Int)) off)

/-- blocks 5/6: the 16-bit step -/
def selChain2 {α : Type} (k : Int → Option α) (ww : Nat) (f : Int) (off : Int) : Option α :=
  if decide (onesCount16 (GoSem2.toU16 (ww : Int)) ≤ f) = true then
    selChain3 k (shrU64 ww 16) (subI64 f (onesCount16 (GoSem2.toU16 (ww : Int)))) (orI32 off 16)
  else selChain3 k ww f off

/-- the whole in-word search as emitted: the 32-bit step, then `selChain2`, `selChain3` -/
def selChain {α : Type} (k : Int → Option α) (w : Nat) (f : Int) : Option α :=
  if decide (onesCount32 (toU32 (w : Int)) ≤ f) = true then
    selChain2 k (shrU64 w 32) (subI64 f (onesCount32 (toU32 (w : Int)))) (orI32 0 32)
  else selChain2 k w f 0

theorem selTail_le {ww f base v : Nat} (h : selTail ww f base = some v) : v ≤ base + 16 := by
  unfold selTail at h
  split at h
  · cases hs : sel8 (((ww >>> 5) &&& 0x7f8) ||| (f - popc ww 8)) with
    | none => rw [hs] at h; simp at h
    | some u => rw [hs] at h; have := sel8_le hs; simp at h; omega
  · cases hs : sel8 (((ww &&& 0xff) <<< 3) ||| f) with
    | none => rw [hs] at h; simp at h
    | some u => rw [hs] at h; have := sel8_le hs; simp at h; omega

theorem selMid_le {ww f base v : Nat} (hb : base = 0 ∨ base = 32) (h : selMid ww f base = some v) : v ≤ base + 32 := by
  unfold selMid at h
  have e : base ||| 16 = base + 16 := by rcases hb with rfl | rfl <;> decide
  split at h
  · have := selTail_le h; omega
  · have := selTail_le h; omega

/-- the in-word result is at most 64 (64 only when the table answers "not found") -/
theorem selWord_le {w f v : Nat} (h : selWord w f = some v) : v ≤ 64 := by
  rw [selWord_eq] at h
  split at h
  · have := selMid_le (Or.inr rfl) h; omega
  · have := selMid_le (Or.inl rfl) h; omega

theorem testBit_mod_pow (x n j : Nat) (hj : j < n) : (x % 2 ^ n).testBit j = x.testBit j := by
  rw [Nat.testBit_mod_two_pow]; simp [hj]

theorem onesCount32_toU32 (w : Nat) : onesCount32 (toU32 (w : Int)) = ((popc w 32 : Nat) : Int) := by
  rw [onesCount32, toU32, u32_ofNat]
  exact congrArg _ (popc_congr (fun k hk => testBit_mod_pow w 32 k hk))

theorem toU16_ofNat (w : Nat) : GoSem2.toU16 (w : Int) = w % 2 ^ 16 := by
  unfold GoSem2.toU16; omega

theorem onesCount16_toU16 (w : Nat) : onesCount16 (GoSem2.toU16 (w : Int)) = ((popc w 16 : Nat) : Int) := by
  rw [onesCount16, toU16_ofNat]
  exact congrArg _ (popc_congr (fun k hk => testBit_mod_pow w 16 k hk))

theorem onesCount8_toU8 (w : Nat) : onesCount8 (toU8 (w : Int)) = ((popc w 8 : Nat) : Int) := by
  rw [onesCount8, toU8_ofNat]
  exact congrArg _ (popc_congr (fun k hk => testBit_mod_pow w 8 k hk))

theorem shl3_255 (ww : Nat) : shlU64 (andU64 ww 255) 3 = (ww &&& 0xff) <<< 3 := by
  rw [shlU64_eq, andU64_eq, shl64, if_pos (by omega), Nat.shiftLeft_eq]
  have : ww &&& 255 ≤ 255 := Nat.and_le_right
  apply Nat.mod_eq_of_lt
  simp only [M64]; omega

theorem orI32_0_32 : orI32 0 32 = ((32 : Nat) : Int) := by decide

theorem orI32_0_16 : orI32 ((0 : Nat) : Int) 16 = (((0 ||| 16 : Nat) : Nat) : Int) := by decide

theorem orI32_32_16 : orI32 ((32 : Nat) : Int) 16 = (((32 ||| 16 : Nat) : Nat) : Int) := by decide

theorem selChain3_eq {α : Type} (k : Int → Option α) (ww f off : Nat) (hf : f < 2 ^ 63) (hoff : off ≤ 48) :
    selChain3 k ww (f : Int) (off : Int) = (selTail ww f off).bind (fun v => k (v : Int)) := by
  have hp : popc ww 8 ≤ 8 := popc_le ww 8
  unfold selChain3 selTail
  simp only [onesCount8_toU8, Int.ofNat_le, decide_eq_true_eq]
  by_cases h : popc ww 8 ≤ f
  · have e1 : subI64 (f : Int) ((popc ww 8 : Nat) : Int) = ((f - popc ww 8 : Nat) : Int) :=
      subI64_ofNat h (by omega)
    have e2 : toU64 ((f - popc ww 8 : Nat) : Int) = f - popc ww 8 :=
      toU64_ofNat_lt (by omega)
    simp only [h, ↓reduceIte, e1, e2, shrU64_lt ww (by omega : 5 < 64), andU64_eq, orU64_eq, tblSelect8_ofNat]
    cases hs : sel8 (ww >>> 5 &&& 2040 ||| (f - popc ww 8)) with
    | none => simp only [Option.bind_none]
    | some v =>
      have hv := sel8_le hs
      have e3 : toI32 (v : Int) = v := toI32_ofNat_lt (by omega)
      have e4 : addI32 (v : Int) (off : Int) = ((v + off : Nat) : Int) := addI32_ofNat (by omega)
      have e5 : addI32 ((v + off : Nat) : Int) 8 = ((v + off + 8 : Nat) : Int) := addI32_ofNat (b := 8) (by omega)
      simp only [Option.bind_some, e3, e4, e5]
  · have e2 : toU64 (f : Int) = f := toU64_ofNat_lt (by omega)
    simp only [h, ↓reduceIte, e2, shl3_255, orU64_eq, tblSelect8_ofNat]
    cases hs : sel8 ((ww &&& 255) <<< 3 ||| f) with
    | none => simp only [Option.bind_none]
    | some v =>
      have hv := sel8_le hs
      have e3 : toI32 (v : Int) = v := toI32_ofNat_lt (by omega)
      have e4 : addI32 (v : Int) (off : Int) = ((v + off : Nat) : Int) := addI32_ofNat (by omega)
      simp only [Option.bind_some, e3, e4]

theorem selChain2_eq {α : Type} (k : Int → Option α) (ww f off : Nat) (hf : f < 2 ^ 63) (hoff : off = 0 ∨ off = 32) :
    selChain2 k ww (f : Int) (off : Int) = (selMid ww f off).bind (fun v => k (v : Int)) := by
  have hp : popc ww 16 ≤ 16 := popc_le ww 16
  unfold selChain2 selMid
  simp only [onesCount16_toU16, Int.ofNat_le, decide_eq_true_eq]
  by_cases h : popc ww 16 ≤ f
  · have e1 : subI64 (f : Int) ((popc ww 16 : Nat) : Int) = ((f - popc ww 16 : Nat) : Int) :=
      subI64_ofNat h (by omega)
    have e2 : orI32 (off : Int) 16 = ((off ||| 16 : Nat) : Int) := by
      rcases hoff with rfl | rfl
      · exact orI32_0_16
      · exact orI32_32_16
    have e3 : off ||| 16 ≤ 48 := by rcases hoff with rfl | rfl <;> decide
    simp only [h, ↓reduceIte, e1, e2, shrU64_lt ww (by omega : 16 < 64)]
    exact selChain3_eq k _ _ _ (by omega) e3
  · simp only [h, ↓reduceIte]
    exact selChain3_eq k _ _ _ hf (by omega)

/-- for a non-negative `findIth` the emitted chain is `selWord` followed by the continuation.  `f < 2^63`: `findIth`
    is a Go `int`.  No hypothesis on `w`: the conversions `uint32(ww)`, `uint16(ww)`, `uint8(ww)` truncate. -/
theorem selChain_eq {α : Type} (k : Int → Option α) (w f : Nat) (hf : f < 2 ^ 63) :
    selChain k w (f : Int) = (selWord w f).bind (fun v => k (v : Int)) := by
  have hp : popc w 32 ≤ 32 := popc_le w 32
  unfold selChain
  rw [selWord_eq]
  simp only [onesCount32_toU32, Int.ofNat_le, decide_eq_true_eq]
  by_cases h : popc w 32 ≤ f
  · have e1 : subI64 (f : Int) ((popc w 32 : Nat) : Int) = ((f - popc w 32 : Nat) : Int) :=
      subI64_ofNat h (by omega)
    simp only [h, ↓reduceIte, e1, orI32_0_32, shrU64_lt w (by omega : 32 < 64)]
    exact selChain2_eq k _ _ 32 (by omega) (Or.inr rfl)
  · simp only [h, ↓reduceIte]
    exact selChain2_eq k _ _ 0 hf (Or.inl rfl)

/-- a negative `findIth` (`int(i - rankIndex[wordI])` with `rankIndex[wordI] > i`) fails every `ones <= findIth`
    test and reaches `select8Lookup[(ww&0xff)<<3 | uint64(findIth)]` with `uint64(findIth) ≥ 2^63`: index out of
    range, a panic. -/
theorem selChain_neg {α : Type} (k : Int → Option α) (w : Nat) (f : Int) (h0 : f < 0)
    (h1 : -9223372036854775808 ≤ f) : selChain k w f = none := by
  have c32 : ¬ (onesCount32 (toU32 (w : Int)) ≤ f) := by rw [onesCount32_toU32]; omega
  have c16 : ¬ (onesCount16 (GoSem2.toU16 (w : Int)) ≤ f) := by rw [onesCount16_toU16]; omega
  have c8 : ¬ (onesCount8 (toU8 (w : Int)) ≤ f) := by rw [onesCount8_toU8]; omega
  have hu : 9223372036854775808 ≤ toU64 f := by
    rw [toU64]; unfold u64; simp only [M64]; omega
  have hor : toU64 f ≤ shlU64 (andU64 w 255) 3 ||| toU64 f := Nat.right_le_or
  unfold selChain selChain2 selChain3
  simp only [c32, c16, c8, decide_false, Bool.false_eq_true, ↓reduceIte, orU64_eq, tblSelect8_ofNat]
  rw [sel8_ge (by omega)]
  rfl

/-- `L` is any function with the one-step equation of the generated loop (`…_loop15` / `…_loop18`): `a` is the first
    result, `t1 = int32(len(words))`.  Needs `len(words) < 2^25` for `wordI<<6 + tz` and `l<<6` not to wrap. -/
theorem scan_loop (ws : List Nat) (a t1 : Int) (L : Nat → Int → Option (Int × Int)) (ht1 : t1 = (ws.length : Int))
    (hlen : ws.length < 2 ^ 25)
    (hL : ∀ gas t, L (gas + 1) t =
      if decide (t < t1) = true then
        Option.bind (index ws t) fun w =>
          if decide (w ≠ (0 : Nat)) = true then some (a, addI32 (shlI32 t 6) (toI32 (trailingZeros64 w)))
          else L gas (addI32 t 1)
      else some (a, shlI32 t1 6)) :
    ∀ (rest : List Nat) (j gas : Nat), rest = ws.drop j → rest.length + 1 ≤ gas →
      L gas (j : Int) = some (a, ((nextNonZero ws.length rest j : Nat) : Int))
  | [], j, gas, hr, hg => by
    obtain ⟨g, rfl, hg'⟩ := gas_pos hg
    have hj : ws.length ≤ j := drop_eq_nil_le hr
    have hlt : ¬ ((j : Int) < (ws.length : Int)) := by omega
    have e1 : shlI32 (ws.length : Int) 6 = ((ws.length * 64 : Nat) : Int) :=
      shlI32_6_ofNat (by omega)
    rw [hL, nextNonZero, ht1]
    simp only [hlt, decide_false, Bool.false_eq_true, ↓reduceIte, e1]
  | w :: r, j, gas, hr, hg => by
    obtain ⟨g, rfl, hg'⟩ := gas_pos hg
    have hj : j < ws.length := drop_eq_cons_lt hr
    have hlt : (j : Int) < (ws.length : Int) := by omega
    have hw : ws[j]? = some w := getElem?_of_drop_eq_cons hr
    have ih := scan_loop ws a t1 L ht1 hlen hL r (j + 1) g
      (drop_succ_of_drop_eq_cons hr) hg'
    have htz : tz w 64 ≤ 64 := tz_le _ _
    have e1 : shlI32 (j : Int) 6 = ((j * 64 : Nat) : Int) := shlI32_6_ofNat (by omega)
    have e2 : addI32 ((j * 64 : Nat) : Int) (toI32 (trailingZeros64 w)) = ((j * 64 + tz w 64 : Nat) : Int) := by
      rw [toI32_tz64]; exact addI32_ofNat (by omega)
    have e3 : addI32 (j : Int) 1 = ((j + 1 : Nat) : Int) := addI32_ofNat (b := 1) (by omega)
    rw [hL, nextNonZero, ht1]
    simp only [hlt, decide_true, ↓reduceIte, index_ofNat, hw, Option.bind_some, e1, e2, e3, ih]
    by_cases h0 : w = 0 <;> simp [h0]

end Low.Tie2Sel
