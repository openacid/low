import Generated.Ssa2.bitmap_PrevOne
import LowProofs.Tie2.Lemmas
import LowModel.Bitmap.Next
/-
  Tie: the definition regenerated from the SSA form of `bitmap.PrevOne` (a function with a loop) equals the
  hand-written model `prevOne`.  The generated loop `bitmap_PrevOne_loop5` walks `end` DOWN (`bm[end>>6]`,
  `end -= 64`) through the values `64*k - 1` (`k` a natural number; `-1` for `k = 0`, where the loop test
  `end >= i` fails because `i ≥ 0`); the model's `prevLoop` recurses over `(bm.take k).reverse`.
  `PrevOne_loop` relates the two by induction on that reversed prefix, for an arbitrary continuation `kont`
  (the code after the loop, passed to the loop as `blk2`).
-/
namespace Low
open Low.GoSem Low.TieL Low.Tie2L

theorem PrevOne_take_succ_reverse {α : Type} (xs : List α) (k : Nat) (h : k < xs.length) :
    (xs.take (k + 1)).reverse = xs[k] :: (xs.take k).reverse := by
  simp

theorem PrevOne_loop (fuel : Nat) (bm : List Nat) (i : Nat) (e : Int) (kont : Int → Option Int)
    (hlen : bm.length < 2^25) (hws : ∀ w ∈ bm, w < 2^64) :
    ∀ (rev : List Nat) (k gas : Nat), k ≤ bm.length → rev = (bm.take k).reverse → rev.length + 1 ≤ gas →
      Gen.Ssa2.bitmap_PrevOne_loop5 fuel bm (i : Int) e kont gas (((64 * k : Nat) : Int) - 1)
        = (prevLoop i rev k).bind (fun r => kont (match r with | none => -1 | some p => (p : Int)))
  | [], k, gas, hk, hr, hg => by
    obtain ⟨g, rfl, hg'⟩ := gas_pos hg
    have hk0 : k = 0 := by
      have := congrArg List.length hr
      simp at this; omega
    subst hk0
    rw [Gen.Ssa2.bitmap_PrevOne_loop5, prevLoop]
    have h1 : ¬ ((((64 * 0 : Nat) : Int) - 1) ≥ (i : Int)) := by omega
    have h2 : ¬ (64 * 0 > i) := by omega
    simp only [h1, h2, decide_false, Bool.false_eq_true, ↓reduceIte, Option.bind_some]
  | w :: r, k, gas, hk, hr, hg => by
    obtain ⟨g, rfl, hg'⟩ := gas_pos hg
    obtain ⟨k', rfl⟩ : ∃ k', k = k' + 1 := by
      refine ⟨k - 1, ?_⟩
      have := congrArg List.length hr
      simp at this; omega
    have hk'l : k' < bm.length := by omega
    rw [PrevOne_take_succ_reverse bm k' hk'l] at hr
    have hwe : w = bm[k'] := (List.cons.inj hr).1
    have hr' : r = (bm.take k').reverse := (List.cons.inj hr).2
    have hw : bm[k']? = some w := by rw [hwe]; exact List.getElem?_eq_getElem hk'l
    have hw64 : w < 2^64 := hws w (List.mem_of_getElem? hw)
    have ih := PrevOne_loop fuel bm i e kont hlen hws r k' g (by omega) hr'
      hg'
    have es : shrI32 (((64 * (k' + 1) : Nat) : Int) - 1) 6 = (k' : Int) := by
      rw [shrI32_6]; omega
    rw [Gen.Ssa2.bitmap_PrevOne_loop5, prevLoop]
    simp only [es, index_ofNat, hw, Option.bind_some]
    clear es
    by_cases h : 64 * (k' + 1) > i
    · have hge : (((64 * (k' + 1) : Nat) : Int) - 1) ≥ (i : Int) := by omega
      by_cases h0 : w = 0
      · have e1 : subI32 (((64 * (k' + 1) : Nat) : Int) - 1) 64 = ((64 * k' : Nat) : Int) - 1 := by
          exact (wrap32_id (by omega) (by omega)).trans (by omega)
        simp only [h, hge, h0, e1, ih, decide_true, ↓reduceIte, ne_eq, not_true_eq_false, decide_false,
          Bool.false_eq_true, Nat.add_sub_cancel]
      · have hlt : lz w 64 < 64 := lz_lt h0 hw64
        have e1 : subI32 (((64 * (k' + 1) : Nat) : Int) - 1) (toI32 (leadingZeros64 w))
            = ((64 * (k' + 1) - 1 - lz w 64 : Nat) : Int) := by
          rw [toI32_lz64]; exact (wrap32_id (by omega) (by omega)).trans (by omega)
        simp only [h, hge, h0, e1, decide_true, ↓reduceIte, ne_eq, not_false_eq_true, Option.bind_some]
    · have hge : ¬ ((((64 * (k' + 1) : Nat) : Int) - 1) ≥ (i : Int)) := by omega
      simp only [h, hge, decide_false, Bool.false_eq_true, ↓reduceIte, Option.bind_some]

/-- Domain: `bm` with fewer than `2^25` words (the project's `BmDom`: bit positions fit an `int32`, so neither
    `wordIdx<<6 + 63` nor `end - 64` wraps), every word a `uint64` (`< 2^64`: a non-zero word then has fewer than
    64 leading zeros, so `end - lz` is not below `64*(k-1)`; without it `lz w 64 = 64` is possible for a non-zero
    `w` and the model's truncated subtraction would differ from the code's `-1` on the lowest word),
    `end < 2^31` (`end` is a non-negative `int32`, as a `Nat`: excludes a wrap of `end - 1`; unlike `i` in
    `NextOne` an out-of-range `end` would NOT simply panic on both sides, because `int32(end-1)` could wrap back
    into range), `i` any natural number (only compared).
    Fuel: every `fuel ≥ len(bm)` (the loop starts below word `(end-1)/64 < len(bm)` and visits each lower word at
    most once, plus the final test).
    Where the Go function panics (`end = 0`: `bm[-1]`; `(end-1)/64 ≥ len(bm)`) both sides are `none`. -/
theorem Tie_bitmap_PrevOne (bm : List Nat) (i e fuel : Nat) (hlen : bm.length < 2^25)
    (hws : ∀ w ∈ bm, w < 2^64) (he : e < 2^31) (hfuel : bm.length ≤ fuel) :
    Gen.Ssa2.bitmap_PrevOne fuel bm (i : Int) (e : Int) = prevOne bm i e := by
  rw [Gen.Ssa2.bitmap_PrevOne, prevOne]
  by_cases he0 : e = 0
  · subst he0
    have e0 : subI32 ((0 : Nat) : Int) 1 = -1 := by decide
    have e1 : shrI32 (-1) 6 = -1 := by decide
    simp only [e0, e1, index_neg bm (by omega : (-1 : Int) < 0), Option.bind_none, ↓reduceIte]
  · have hj : (e - 1) % 64 < 64 := Nat.mod_lt _ (by omega)
    have e0 : subI32 (e : Int) 1 = ((e - 1 : Nat) : Int) := subI32_ofNat (b := 1) (by omega) (by omega)
    simp only [e0, he0, ↓reduceIte, shrI32_6_ofNat, andI32_63_ofNat, index_ofNat, tblMaskUpto_ofNat hj, andU64_eq]
    cases hw : bm[(e - 1) / 64]? with
    | none => rfl
    | some w0 =>
      have hil : (e - 1) / 64 < bm.length := (List.getElem?_eq_some_iff.mp hw).1
      simp only [Option.bind_some, Option.bind_eq_bind]
      have hword : w0 &&& maskUpto ((e - 1) % 64) < 2^64 := by
        have h1 : w0 &&& maskUpto ((e - 1) % 64) ≤ maskUpto ((e - 1) % 64) := Nat.and_le_right
        have h2 : (2 : Nat) ^ ((e - 1) % 64 + 1) ≤ 2 ^ 64 := Nat.pow_le_pow_right (by omega) (by omega)
        unfold maskUpto at h1 ⊢
        omega
      generalize w0 &&& maskUpto ((e - 1) % 64) = word at hword
      by_cases h0 : word = 0
      · have e2 : andI32 ((e - 1 : Nat) : Int) (-64) = ((64 * ((e - 1) / 64) : Nat) : Int) := by
          rw [andI32_neg64_ofNat (by omega), Nat.mul_comm]
        have e3 : subI32 ((64 * ((e - 1) / 64) : Nat) : Int) 1 = ((64 * ((e - 1) / 64) : Nat) : Int) - 1 := by
          exact wrap32_id (by omega) (by omega)
        simp only [h0, ne_eq, not_true_eq_false, decide_false, Bool.false_eq_true, ↓reduceIte, e2, e3]
        rw [PrevOne_loop fuel bm i e _ hlen hws _ ((e - 1) / 64) fuel (by omega) rfl
          (by simp only [List.length_reverse, List.length_take]; omega)]
        cases prevLoop i (List.take ((e - 1) / 64) bm).reverse ((e - 1) / 64) with
        | none => rfl
        | some r =>
          cases r with
          | none =>
            have : (-1 : Int) < (i : Int) := by omega
            simp [this]
          | some p =>
            simp only [Option.bind_some, Int.ofNat_lt, decide_eq_true_eq]
      · have hlt : lz word 64 < 64 := lz_lt h0 hword
        have e1 : shlI32 (((e - 1) / 64 : Nat) : Int) 6 = (((e - 1) / 64 * 64 : Nat) : Int) := shlI32_6_ofNat (by omega)
        have e2 : addI32 (((e - 1) / 64 * 64 : Nat) : Int) 63 = (((e - 1) / 64 * 64 + 63 : Nat) : Int) :=
          addI32_ofNat (b := 63) (by omega)
        have e3 : subI32 (((e - 1) / 64 * 64 + 63 : Nat) : Int) (toI32 (leadingZeros64 word))
            = (((e - 1) / 64 * 64 + 63 - lz word 64 : Nat) : Int) := by
          rw [toI32_lz64]; exact subI32_ofNat (by omega) (by omega)
        simp only [h0, ne_eq, not_false_eq_true, decide_true, ↓reduceIte, e1, e2, e3, Int.ofNat_lt, decide_eq_true_eq]

example : Gen.Ssa2.bitmap_PrevOne 3 [0x10, 0, 0] 3 192 = some 4 := by decide +kernel
example : prevOne [0x10, 0, 0] 3 192 = some 4 := by decide +kernel
example : Gen.Ssa2.bitmap_PrevOne 3 [0x10, 0, 0] 5 192 = some (-1) := by decide +kernel
/-- the fuel bound `len(bm)` is tight: with less the generated definition gives `none` (out of fuel) -/
example : Gen.Ssa2.bitmap_PrevOne 3 [0, 0, 0] 0 192 = some (-1) ∧ Gen.Ssa2.bitmap_PrevOne 2 [0, 0, 0] 0 192 = none := by decide +kernel
/-- `end = 0` reads `bm[-1]`: a panic on both sides -/
example : Gen.Ssa2.bitmap_PrevOne 3 [0x10, 0, 0] 0 0 = none ∧ prevOne [0x10, 0, 0] 0 0 = none := by decide +kernel

end Low
