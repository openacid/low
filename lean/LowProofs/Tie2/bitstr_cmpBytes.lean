import Generated.Ssa2.bitstr_cmpBytes
import LowProofs.Tie2.Lemmas
import LowModel.Bitstr
/-
  Tie: the definition regenerated from the SSA form of `bitstr.cmpBytes` (a function with a loop) equals the
  hand-written model `cmpBytes`.  The generated loop `bitstr_cmpBytes_loop5` walks an index `i` (`a[i]`, `b[i]`,
  `i++`, `i < len(a)`), the model's `cmpBytesShort` recurses over the two suffixes `a.drop i`, `b.drop i`;
  `cmpBytes_loop` relates the two by induction on the suffix of `a`.  The test `i < len(b)` after the loop is the
  model's case `[], _ :: _ => -1`; `b[i]` out of range inside the loop is the model's case `_ :: _, [] => none`.
-/
namespace Low
open Low.GoSem Low.TieL Low.Tie2L

/-- the loop at index `j` on the suffixes `ra = a.drop j`, `rb = b.drop j`; gas: one unit per byte of `ra` and one for the exit -/
theorem cmpBytes_loop (fuel : Nat) (a b : List Nat) (hla : a.length < 2^63) :
    ∀ (ra rb : List Nat) (j gas : Nat), ra = a.drop j → rb = b.drop j → ra.length + 1 ≤ gas →
      Gen.Ssa2.bitstr_cmpBytes_loop5 fuel a b (a.length : Int) (b.length : Int) gas (j : Int)
        = cmpBytesShort ra rb
  | [], rb, j, gas, hra, hrb, hg => by
    obtain ⟨g, rfl, hg'⟩ := gas_pos hg
    have hj : ¬ j < a.length := Nat.not_lt.mpr (drop_eq_nil_le hra)
    rw [Gen.Ssa2.bitstr_cmpBytes_loop5]
    simp only [Int.ofNat_lt, decide_eq_true_eq, hj, ↓reduceIte]
    cases rb with
    | nil =>
      have hjb : ¬ j < b.length := Nat.not_lt.mpr (drop_eq_nil_le hrb)
      simp only [hjb, ↓reduceIte, cmpBytesShort]
    | cons y s =>
      simp only [drop_eq_cons_lt hrb, ↓reduceIte, cmpBytesShort]
  | x :: r, rb, j, gas, hra, hrb, hg => by
    obtain ⟨g, rfl, hg'⟩ := gas_pos hg
    have hj : j < a.length := drop_eq_cons_lt hra
    have hx : a[j]? = some x := getElem?_of_drop_eq_cons hra
    rw [Gen.Ssa2.bitstr_cmpBytes_loop5]
    simp only [Int.ofNat_lt, decide_eq_true_eq, hj, ↓reduceIte, index_ofNat, hx, Option.bind_some]
    cases rb with
    | nil =>
      have hy : b[j]? = none := getElem?_of_drop_eq_nil hrb
      simp only [hy, Option.bind_none, cmpBytesShort]
    | cons y s =>
      have hy : b[j]? = some y := getElem?_of_drop_eq_cons hrb
      have e1 : addI64 (j : Int) 1 = ((j + 1 : Nat) : Int) := addI64_ofNat (b := 1) (by omega)
      have ih := cmpBytes_loop fuel a b hla r s (j + 1) g (drop_succ_of_drop_eq_cons hra)
        (drop_succ_of_drop_eq_cons hrb) hg'
      simp only [hy, Option.bind_some, cmpBytesShort, gt_iff_lt, e1, ih]

/-- Domain: all byte slices `a`, `b` (no hypothesis on the lengths: the loop only runs when `len(a) < 8`, so `i + 1`
    cannot wrap; no hypothesis on the bytes).
    Fuel: every `fuel ≥ min (len a) 8 + 1` (the loop runs only for `len(a) < 8`, one iteration per byte of `a` plus
    the final test), in particular every `fuel ≥ 9`.
    Where the Go function panics (`len(a) < 8` and `b[i]` out of range before a difference is found) both sides
    are `none`.  `GoSem2.bytesCompare` is `Low.bytesCompare` by definition. -/
theorem Tie_bitstr_cmpBytes (a b : List Nat) (fuel : Nat) (hfuel : min a.length 8 + 1 ≤ fuel) :
    Gen.Ssa2.bitstr_cmpBytes fuel a b = cmpBytes a b := by
  rw [Gen.Ssa2.bitstr_cmpBytes, cmpBytes]
  simp only [len_eq, GoSem2.bytesCompare]
  by_cases h : a.length < 8
  · have h' : (a.length : Int) < 8 := by omega
    simp only [h, h', decide_true, ↓reduceIte]
    exact cmpBytes_loop fuel a b (by omega) a b 0 fuel rfl rfl (by omega)
  · have h' : ¬ (a.length : Int) < 8 := by omega
    simp only [h, h', decide_false, Bool.false_eq_true, ↓reduceIte]

example : Gen.Ssa2.bitstr_cmpBytes 4 [1, 2, 3] [1, 2, 3, 4] = some (-1) := by decide +kernel
example : cmpBytes [1, 2, 3] [1, 2, 3, 4] = some (-1) := by decide +kernel
example : Gen.Ssa2.bitstr_cmpBytes 4 [1, 2, 3] [1, 2] = none := by decide +kernel
example : Gen.Ssa2.bitstr_cmpBytes 9 [1, 2, 3, 4, 5, 6, 7, 8, 9] [1, 2, 3, 4, 5, 6, 7, 8] = some 1 := by decide +kernel
/-- out of fuel: with too little fuel the generated definition gives `none` -/
example : Gen.Ssa2.bitstr_cmpBytes 3 [1, 2, 3] [1, 2, 3, 4] = none := by decide +kernel

end Low
