import Generated.Ssa2.bmtree_PathToIndexLoose
import LowProofs.Tie2.bmtree_PathToIndex
/-
  Tie: the definition regenerated from the SSA form of `bmtree.PathToIndexLoose` (release build: the `must.Be`
  contract closure is a no-op) equals the hand-written model `pathToIndexLoose`.  Loop-free itself; calls `Height`,
  `PathLen` and `shiftMulti` (with the operands in the other order than `PathToIndex`: the bits consumed by the loop
  are those of `bitmapSize`).  Helper lemmas: `Low.TieBm` (`LowProofs/Tie/Bmtree.lean`).
-/
namespace Low
open Low.GoSem Low.TieL Low.TieBm

/-- Domain:
    * `1 ≤ t`: for `bitmapSize = 0` `Height` is `-1` and the Go code panics on `bitmap.MaskUpto[-1]` (the generated
      definition is `none`), while the model — a total function — returns a pair;
    * `t < 2^31`: `bitmapSize` is a non-negative `int32` (otherwise `(t : Int)` is not the representation of an
      `int32`); with `1 ≤ t` the height is in `0..30`: `MaskUpto[h]`, `Bit[h]` in range, `uint64(bitmapSize)`,
      `uint64(h)` not sign-extended, `bitmapSize >> PathLen` an arithmetic shift of a non-negative number; it also
      bounds the loop of `shiftMulti`, which here consumes the bits of `bitmapSize`.
    NO hypothesis on `path` (not even `path < 2^64`): it is only shifted right by 32, xor-ed/popcounted over 64 bits
    and reduced mod `2^32`, identically on both sides.  No contract is assumed.
    The second component is `int32` on the Go side and `Nat` (0 or 1) in the model, hence the cast.
    Fuel: every `fuel ≥ 32` (`shiftMulti` runs on `b = bitmapSize < 2^31`: at most 31 iterations and the final test).
    On this domain the Go function neither panics nor diverges. -/
theorem Tie_bmtree_PathToIndexLoose (t path fuel : Nat) (ht : 1 ≤ t) (ht' : t < 2^31) (hfuel : 32 ≤ fuel) :
    Gen.Ssa2.bmtree_PathToIndexLoose fuel (t : Int) path
      = some ((pathToIndexLoose t path).1, ((pathToIndexLoose t path).2 : Int)) := by
  obtain ⟨h, hh, hh31⟩ := height_nat ht ht'
  have hpl : pathLen path ≤ 32 := popc_le _ _
  have e14 : andI32 (shrI32 (t : Int) (pathLen path)) 1 = (((t >>> pathLen path) % 2 : Nat) : Int) := by
    rw [shrI32_ofNat, andI32_1]; omega
  have h := indexCode_eq (fun x => (x, (((t >>> pathLen path) % 2 : Nat) : Int))) true t path ht ht'
    (Gen.Ssa2.bmtree_shiftMulti fuel (shrU64 path 32) t (toU64 (height t))) (by
      rw [shrU64_lt path (show 32 < 64 by omega), hh, Int.toNat_natCast,
        toU64_ofNat_lt (show h < 18446744073709551616 by omega),
        Tie_bmtree_shiftMulti_bits (path >>> 32) t h fuel 31 ht' (by omega) hfuel, if_pos rfl])
  rw [Gen.Ssa2.bmtree_PathToIndexLoose]
  simp only [Tie_bmtree_Height, Tie_bmtree_PathLen, toU64_ofNat_lt (show t < 18446744073709551616 by omega),
    toU64_ofNat_lt (show pathLen path < 18446744073709551616 by omega), e14]
  exact h

example : Gen.Ssa2.bmtree_PathToIndexLoose 32 11 0x5_00000007 = some (8, 1) := by decide +kernel
example : pathToIndexLoose 11 0x5_00000007 = (8, 1) := by decide +kernel
example : Gen.Ssa2.bmtree_PathToIndexLoose 32 11 0x4_00000006 = some (7, 0) := by decide +kernel
-- `bitmapSize = 0`: the Go code panics
example : Gen.Ssa2.bmtree_PathToIndexLoose 32 0 0x4_00000006 = none := by decide +kernel
-- out of fuel
example : Gen.Ssa2.bmtree_PathToIndexLoose 2 11 0x4_00000006 = none := by decide +kernel

end Low
