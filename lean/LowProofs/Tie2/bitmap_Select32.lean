import Generated.Ssa2.bitmap_Select32
import LowProofs.Tie2.bitmap_Select_L
import LowModel.Bitmap.Select
/-
  Tie: the definition regenerated from the SSA form of `bitmap.Select32` (two loops) equals the hand-written model
  `select32`.

  Structure of the generated definition: `…_loop4` is the outer `for { … }` that skips whole words
  (`ones <= findIth`: `findIth -= ones; wordI++; w = words[wordI]; continue`); its exit branch contains the rest of the
  function: the in-word search (a chain of join blocks = `Tie2Sel.selChain`, see `bitmap_Select_L.lean`),
  `a += wordI<<6`, the masking with `^MaskUpto[a&63]`, and the entry into `…_loop18`, the scan for the next non-zero
  word (= `Tie2Sel.scan_loop`).
-/
namespace Low
open Low.GoSem Low.TieL Low.Tie2L Low.Tie2Sel

/-- blocks 12, 14, 15 of the SSA listing (head of the `Generated/Ssa2` file): the code after the in-word search, as a function of its result `t66`
    (`t28 = w`, `t27 = wordI`, `t13 = int32(len(words))`) -/
def Select32_tail (fuel : Nat) (ws : List Nat) (sidx : List Int) (i t13 : Int) (t28 : Nat) (t27 : Int) :
    Int → Option (Int × Int) := fun t66 =>
  Option.bind (tblMaskUpto (andI32 (addI32 t66 (shlI32 t27 6)) 63)) fun t70 =>
    if decide (andU64 t28 (notU64 t70) ≠ (0 : Nat)) = true then
      some (addI32 t66 (shlI32 t27 6), addI32 (shlI32 t27 6) (toI32 (trailingZeros64 (andU64 t28 (notU64 t70)))))
    else Gen.Ssa2.bitmap_Select32_loop18 fuel ws sidx i t13 (addI32 t66 (shlI32 t27 6)) fuel
      (addI32 (shrI32 (addI32 t66 (shlI32 t27 6)) 6) 1)

theorem Select32_loop4_step (fuel : Nat) (ws : List Nat) (sidx : List Int) (i t13 : Int) (gas : Nat) (t26 t27 : Int)
    (t28 : Nat) :
    Gen.Ssa2.bitmap_Select32_loop4 fuel ws sidx i t13 (gas + 1) t26 t27 t28 =
      if decide (onesCount64 t28 ≤ t26) = true then
        Option.bind (index ws (addI32 t27 1)) fun t33 =>
          Gen.Ssa2.bitmap_Select32_loop4 fuel ws sidx i t13 gas (subI64 t26 (onesCount64 t28)) (addI32 t27 1) t33
      else selChain (Select32_tail fuel ws sidx i t13 t28 t27) t28 t26 := by
  rfl

/-- the model after the word-skipping loop, as a function of the loop's result `(w, wordI, findIth)` -/
def sel32After (ws : List Nat) (p : Nat × Nat × Nat) : Option (Nat × Nat) :=
  (selWord p.1 p.2.2).bind fun a0 =>
    some (if p.1 &&& not64 (maskUpto ((a0 + p.2.1 * 64) % 64)) ≠ 0
      then (a0 + p.2.1 * 64, p.2.1 * 64 + tz (p.1 &&& not64 (maskUpto ((a0 + p.2.1 * 64) % 64))) 64)
      else (a0 + p.2.1 * 64, nextNonZero ws.length (ws.drop ((a0 + p.2.1 * 64) / 64 + 1)) ((a0 + p.2.1 * 64) / 64 + 1)))

theorem select32_eq (ws sidx : List Nat) (i : Nat) :
    select32 ws sidx i =
      if i / 32 ≥ sidx.length then none else
        (sidx[i / 32]?).bind fun base => (ws[base / 64]?).bind fun w0 =>
          (sel32Skip (ws.drop (base / 64 + 1)) (w0 &&& not64 (mask (base % 64))) (base / 64) (i % 32)).bind
            (sel32After ws) := by
  unfold select32 sel32After
  split
  · rfl
  · simp only [Option.bind_eq_bind]
    refine Option.bind_congr fun base _ => Option.bind_congr fun w0 _ => Option.bind_congr fun p _ => ?_
    obtain ⟨w, wordI, f⟩ := p
    refine Option.bind_congr fun a0 _ => ?_
    by_cases h0 : w &&& not64 (maskUpto ((a0 + wordI * 64) % 64)) = 0 <;> simp only [h0, ne_eq, not_true_eq_false,
      not_false_eq_true, ↓reduceIte]

theorem Select32_tail_eq (fuel : Nat) (ws : List Nat) (sidx : List Int) (i : Int) (w wordI a0 : Nat)
    (hlen : ws.length < 2 ^ 25) (hfuel : ws.length + 1 ≤ fuel) (hwI : wordI < ws.length) (ha0 : a0 ≤ 64) :
    Select32_tail fuel ws sidx i (ws.length : Int) w (wordI : Int) (a0 : Int) =
      some (castPair (if w &&& not64 (maskUpto ((a0 + wordI * 64) % 64)) ≠ 0
        then (a0 + wordI * 64, wordI * 64 + tz (w &&& not64 (maskUpto ((a0 + wordI * 64) % 64))) 64)
        else (a0 + wordI * 64,
          nextNonZero ws.length (ws.drop ((a0 + wordI * 64) / 64 + 1)) ((a0 + wordI * 64) / 64 + 1)))) := by
  have e0 : shlI32 (wordI : Int) 6 = ((wordI * 64 : Nat) : Int) := shlI32_6_ofNat (by omega)
  have e1 : addI32 (a0 : Int) ((wordI * 64 : Nat) : Int) = ((a0 + wordI * 64 : Nat) : Int) := addI32_ofNat (by omega)
  have hm : (a0 + wordI * 64) % 64 < 64 := Nat.mod_lt _ (by omega)
  unfold Select32_tail
  simp only [e0, e1, andI32_63_ofNat, tblMaskUpto_ofNat hm, Option.bind_some, andU64_eq, notU64, shrI32_6_ofNat]
  generalize w &&& not64 (maskUpto ((a0 + wordI * 64) % 64)) = x
  have htz : tz x 64 ≤ 64 := tz_le _ _
  by_cases h0 : x = 0
  · have e2 : addI32 (((a0 + wordI * 64) / 64 : Nat) : Int) 1 = (((a0 + wordI * 64) / 64 + 1 : Nat) : Int) :=
      addI32_ofNat (b := 1) (by omega)
    simp only [h0, ne_eq, not_true_eq_false, decide_false, Bool.false_eq_true, ↓reduceIte, e2]
    rw [scan_loop ws _ (ws.length : Int) (Gen.Ssa2.bitmap_Select32_loop18 fuel ws sidx i (ws.length : Int) _)
      rfl hlen
      (fun gas t => by rw [Gen.Ssa2.bitmap_Select32_loop18])
      (ws.drop ((a0 + wordI * 64) / 64 + 1)) ((a0 + wordI * 64) / 64 + 1) fuel rfl
      (by simp only [List.length_drop]; omega)]
    rfl
  · have e2 : addI32 ((wordI * 64 : Nat) : Int) (toI32 (trailingZeros64 x)) = ((wordI * 64 + tz x 64 : Nat) : Int) := by
      rw [toI32_tz64]; exact addI32_ofNat (by omega)
    simp only [h0, ne_eq, not_false_eq_true, decide_true, ↓reduceIte, e2]
    rfl

/-- the exit branch of the word-skipping loop (in-word search, then `Select32_tail`) is the model's `sel32After` -/
theorem Select32_exit (fuel : Nat) (ws : List Nat) (sidx : List Int) (i : Int) (w wordI f : Nat)
    (hlen : ws.length < 2 ^ 25) (hfuel : ws.length + 1 ≤ fuel) (hwI : wordI < ws.length) (hf : f < 2 ^ 63) :
    selChain (Select32_tail fuel ws sidx i (ws.length : Int) w (wordI : Int)) w (f : Int)
      = (sel32After ws (w, wordI, f)).map castPair := by
  rw [selChain_eq _ _ _ hf, sel32After, Option.map_bind]
  refine Option.bind_congr fun a0 hs => ?_
  rw [Select32_tail_eq fuel ws sidx i w wordI a0 hlen hfuel hwI (selWord_le hs)]
  rfl

/-- the word-skipping loop at `wordI` with current word `w`, `rest = words[wordI+1:]`, `f` ones still to skip;
    fuel `len(rest) + 1` -/
theorem Select32_loop (fuel : Nat) (ws : List Nat) (sidx : List Int) (i : Int)
    (hlen : ws.length < 2 ^ 25) (hfuel : ws.length + 1 ≤ fuel) :
    ∀ (rest : List Nat) (w wordI f gas : Nat), rest = ws.drop (wordI + 1) → rest.length + 1 ≤ gas →
      wordI < ws.length → f < 2 ^ 63 →
      Gen.Ssa2.bitmap_Select32_loop4 fuel ws sidx i (ws.length : Int) gas (f : Int) (wordI : Int) w
        = ((sel32Skip rest w wordI f).bind (sel32After ws)).map castPair
  | [], w, wordI, f, gas, hrest, hg, hwI, hf => by
    obtain ⟨g, rfl, hg'⟩ := gas_pos hg
    have e1 : addI32 (wordI : Int) 1 = ((wordI + 1 : Nat) : Int) := addI32_ofNat (b := 1) (by omega)
    rw [Select32_loop4_step, sel32Skip, onesCount64]
    simp only [Int.ofNat_le, decide_eq_true_eq]
    by_cases h : popc w 64 ≤ f
    · simp only [h, ↓reduceIte, e1, index_ofNat, getElem?_of_drop_eq_nil hrest, Option.bind_none, Option.map_none]
    · simp only [h, ↓reduceIte, Option.bind_some]
      exact Select32_exit fuel ws sidx i w wordI f hlen hfuel hwI hf
  | w' :: r, w, wordI, f, gas, hrest, hg, hwI, hf => by
    obtain ⟨g, rfl, hg'⟩ := gas_pos hg
    have hlt : wordI + 1 < ws.length := drop_eq_cons_lt hrest
    have e1 : addI32 (wordI : Int) 1 = ((wordI + 1 : Nat) : Int) := addI32_ofNat (b := 1) (by omega)
    rw [Select32_loop4_step, sel32Skip, onesCount64]
    simp only [Int.ofNat_le, decide_eq_true_eq]
    by_cases h : popc w 64 ≤ f
    · have e2 : subI64 (f : Int) ((popc w 64 : Nat) : Int) = ((f - popc w 64 : Nat) : Int) :=
        subI64_ofNat h (by omega)
      have ih := Select32_loop fuel ws sidx i hlen hfuel r w' (wordI + 1) (f - popc w 64) g
        (drop_succ_of_drop_eq_cons hrest) hg' hlt
        (by omega)
      simp only [h, ↓reduceIte, e1, e2, index_ofNat, getElem?_of_drop_eq_cons hrest, Option.bind_some, ih]
    · simp only [h, ↓reduceIte, Option.bind_some]
      exact Select32_exit fuel ws sidx i w wordI f hlen hfuel hwI hf

/-- Domain.
    * `ws.length < 2^25` (the project's `BmDom`): `wordI<<6`, `a += wordI<<6`, `wordI<<6 + tz`, `l<<6` stay below
      `2^31` (no int32 wrap).
    * `sidx.length < 2^31`: `int32(len(selectIndex))` does not wrap in the range test.
    * `i` and the entries of `sidx` are non-negative `int32` values, given as `Nat`s (a negative `i` panics in Go).
      That they are `< 2^31` is NOT needed for the equation: they only go through `>>`, `& 31`, `& 63` and
      comparisons, which are exact on every non-negative integer, and an entry `≥ 2^31` makes `words[base>>6]` out
      of range on both sides.
    * no hypothesis on the words (`findIth < 32` keeps every subtraction non-negative).
    Fuel: every `fuel ≥ len(words) + 1`.
    Panics (`none` on both sides): the explicit `panic("i outof range")` when `i>>5 >= len(selectIndex)`;
    `words[base>>6]` and `words[wordI]` (skip loop running off the end) out of range; a `select8Lookup` index ≥ 2048. -/
theorem Tie_bitmap_Select32 (ws sidx : List Nat) (i fuel : Nat)
    (hlen : ws.length < 2 ^ 25) (hsl : sidx.length < 2 ^ 31)
    (hfuel : ws.length + 1 ≤ fuel) :
    Gen.Ssa2.bitmap_Select32 fuel ws (sidx.map Int.ofNat) (i : Int)
      = (select32 ws sidx i).map (fun p => ((p.1 : Int), (p.2 : Int))) := by
  have hl : toI32 (len ws) = (ws.length : Int) := by
    exact toI32_ofNat_lt (by omega)
  have hsl' : toI32 (len (sidx.map Int.ofNat)) = (sidx.length : Int) := by
    rw [len_eq, List.length_map]; exact toI32_ofNat_lt (by omega)
  have hi0 : ¬ ((i : Int) < 0) := by omega
  have h31 : toI64 (((i % 32 : Nat) : Nat) : Int) = ((i % 32 : Nat) : Int) := toI64_ofNat_lt (by omega)
  rw [Gen.Ssa2.bitmap_Select32, select32_eq]
  simp only [hi0, decide_false, Bool.false_eq_true, ↓reduceIte, hl, hsl', shrI32_5_ofNat, ge_iff_le, Int.ofNat_le,
    decide_eq_true_eq, andI32_31_ofNat, h31, index_ofNat, List.getElem?_map]
  by_cases hge : sidx.length ≤ i / 32
  · simp only [hge, ↓reduceIte, Option.map_none]
  · simp only [hge, ↓reduceIte]
    cases hsi : sidx[i / 32]? with
    | none => simp
    | some s =>
      simp only [Option.map_some, Option.bind_some, Int.ofNat_eq_natCast, shrI32_6_ofNat, index_ofNat]
      cases hw : ws[s / 64]? with
      | none => simp
      | some w0 =>
        have hwI : s / 64 < ws.length := (List.getElem?_eq_some_iff.mp hw).1
        have hm : s % 64 < 65 := by omega
        simp only [Option.bind_some, andI32_63_ofNat, tblMask_ofNat hm, notU64, andU64_eq]
        exact Select32_loop fuel ws _ _ hlen hfuel _ _ (s / 64) (i % 32) fuel rfl
          (by simp only [List.length_drop]; omega) hwI (by omega)

example : Gen.Ssa2.bitmap_Select32 4 [0x12, 0, 0x100] [1] 1 = some (4, 136) := by decide +kernel
example : select32 [0x12, 0, 0x100] [1] 1 = some (4, 136) := by decide +kernel
example : Gen.Ssa2.bitmap_Select32 4 [0x12, 0, 0x100] [1] 2 = some (136, 192) := by decide +kernel
example : Gen.Ssa2.bitmap_Select32 4 [0x12, 0, 0x100] [1] 3 = none ∧ select32 [0x12, 0, 0x100] [1] 3 = none := by decide +kernel

end Low
