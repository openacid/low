import Generated.Ssa2.bitstr_Cmp
import LowProofs.Tie2.Lemmas
import LowModel.Bitstr
/-
  Tie: the definition regenerated from the SSA form of `bitstr.Cmp` (loop-free: two `len`, two re-slicings
  `a[:la-1]`, `b[:lb-1]` and `bytes.Compare`) equals the hand-written model `bsCmp`.
-/
namespace Low
open Low.GoSem Low.Tie2L

private theorem Cmp_sub1_zero : subI64 ((0 : Nat) : Int) 1 = -1 := by decide

/-- Domain: `len(a)`, `len(b) < 2^63` (a Go length always fits an `int`; the hypotheses only exclude a wrap of
    `len - 1` that cannot happen).  No hypothesis on the bytes.  Where the Go function panics (lengths differ and
    one operand is empty: `x[:-1]`) both sides are `none`.  `GoSem2.bytesCompare` is `Low.bytesCompare` by
    definition (the trusted reading of `bytes.Compare`). -/
theorem Tie_bitstr_Cmp (a b : List Nat) (hla : a.length < 2^63) (hlb : b.length < 2^63) :
    Gen.Ssa2.bitstr_Cmp a b = bsCmp a b := by
  rw [Gen.Ssa2.bitstr_Cmp, bsCmp]
  simp only [len_eq, GoSem2.bytesCompare, Int.natCast_inj, decide_eq_true_eq]
  by_cases h : a.length = b.length
  · simp only [h, ↓reduceIte]
  · simp only [h, ↓reduceIte]
    by_cases ha : a.length = 0
    · rw [ha, Cmp_sub1_zero, slice_neg _ _ (by omega)]; simp
    · rw [subI64_one_of_pos (Nat.pos_of_ne_zero ha) (by omega), slice_zero_ofNat _ (by omega)]
      by_cases hb : b.length = 0
      · rw [hb, Cmp_sub1_zero, slice_neg _ _ (by omega)]; simp
      · rw [subI64_one_of_pos (Nat.pos_of_ne_zero hb) (by omega), slice_zero_ofNat _ (by omega)]
        simp [ha, hb]

example : Gen.Ssa2.bitstr_Cmp [1, 2, 0xf0] [1, 3, 7, 0xff] = some (-1) := by decide +kernel
example : bsCmp [1, 2, 0xf0] [1, 3, 7, 0xff] = some (-1) := by decide +kernel
example : Gen.Ssa2.bitstr_Cmp [] [1, 0xff] = none := by decide +kernel
example : Gen.Ssa2.bitstr_Cmp [9, 2, 0xf0] [1, 3, 0xff] = some 1 := by decide +kernel

end Low
