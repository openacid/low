import Generated.Ssa2.bitmap_Select32R64
import LowProofs.Tie2.bitmap_Select_L
import LowModel.Bitmap.Select
/-
  Tie: the definition regenerated from the SSA form of `bitmap.Select32R64` (two loops) equals the hand-written model
  `select32R64`.

  Structure of the generated definition: `…_loop3` is the skip loop `for ; rankIndex[wordI+1] <= i; wordI++ {}`; its
  exit branch contains ALL the code after it (go/ssa's `for.done` block is dominated by the loop header): the reads
  `words[wordI]`, `rankIndex[wordI]`, the in-word search (a chain of join blocks = `Tie2Sel.selChain`, see
  `bitmap_Select_L.lean`), the masking with `RMaskUpto`, and the entry into `…_loop15`, the scan for the next
  non-zero word (= `Tie2Sel.scan_loop`).
-/
namespace Low
open Low.GoSem Low.TieL Low.Tie2L Low.Tie2Sel

/-- blocks 9, 11, 12 of the SSA listing (head of the `Generated/Ssa2` file): the code after the in-word search, as a function of its result `t50`
    (`t8 = words[wordI]`, `t9 = wordI<<6`, `t17 = wordI`, `t1 = int32(len(words))`) -/
def Select32R64_tail (fuel : Nat) (ws : List Nat) (sidx ridx : List Int) (i t1 : Int) (t8 : Nat) (t9 t17 : Int) :
    Int → Option (Int × Int) := fun t50 =>
  Option.bind (tblRMaskUpto (andI32 (addI32 t50 t9) 63)) fun t53 =>
    if decide (andU64 t8 t53 ≠ (0 : Nat)) = true then
      some (addI32 t50 t9, addI32 t9 (toI32 (trailingZeros64 (andU64 t8 t53))))
    else Gen.Ssa2.bitmap_Select32R64_loop15 fuel ws sidx ridx i t1 (addI32 t50 t9) fuel (addI32 t17 1)

theorem Select32R64_loop3_step (fuel : Nat) (ws : List Nat) (sidx ridx : List Int) (i t1 : Int) (gas : Nat) (t17 : Int) :
    Gen.Ssa2.bitmap_Select32R64_loop3 fuel ws sidx ridx i t1 (gas + 1) t17 =
      Option.bind (index ridx (addI32 t17 1)) fun t20 =>
        if decide (t20 ≤ i) = true then
          Gen.Ssa2.bitmap_Select32R64_loop3 fuel ws sidx ridx i t1 gas (addI32 t17 1)
        else
          Option.bind (index ws t17) fun t8 =>
          Option.bind (index ridx t17) fun t11 =>
            selChain (Select32R64_tail fuel ws sidx ridx i t1 t8 (shlI32 t17 6) t17) t8 (toI64 (subI32 i t11)) := by
  rfl

def r64After (ws ridx : List Nat) (i wordI : Nat) : Option (Nat × Nat) := do
  let w ← ws[wordI]?
  let base := wordI * 64
  let r ← ridx[wordI]?
  if i < r then none else
  let a0 ← selWord w (i - r)
  let a := a0 + base
  let w := w &&& rmaskUpto (a % 64)
  if w ≠ 0 then some (a, base + tz w 64)
  else some (a, nextNonZero ws.length (ws.drop (wordI + 1)) (wordI + 1))

theorem select32R64_eq (ws sidx ridx : List Nat) (i : Nat) :
    select32R64 ws sidx ridx i =
      (sidx[i / 32]?).bind fun s => (r64Skip i (ridx.drop (s / 64 + 1)) (s / 64)).bind (r64After ws ridx i) := rfl

theorem Select32R64_tail_eq (fuel : Nat) (ws : List Nat) (sidx ridx : List Int) (i : Int) (w wordI a0 : Nat)
    (hlen : ws.length < 2 ^ 25) (hfuel : ws.length + 1 ≤ fuel) (hwI : wordI < ws.length) (ha0 : a0 ≤ 64) :
    Select32R64_tail fuel ws sidx ridx i (ws.length : Int) w ((wordI * 64 : Nat) : Int) (wordI : Int) (a0 : Int) =
      some (castPair (if w &&& rmaskUpto ((a0 + wordI * 64) % 64) ≠ 0
        then (a0 + wordI * 64, wordI * 64 + tz (w &&& rmaskUpto ((a0 + wordI * 64) % 64)) 64)
        else (a0 + wordI * 64, nextNonZero ws.length (ws.drop (wordI + 1)) (wordI + 1)))) := by
  have e1 : addI32 (a0 : Int) ((wordI * 64 : Nat) : Int) = ((a0 + wordI * 64 : Nat) : Int) := addI32_ofNat (by omega)
  have hm : (a0 + wordI * 64) % 64 < 64 := Nat.mod_lt _ (by omega)
  unfold Select32R64_tail
  simp only [e1, andI32_63_ofNat, tblRMaskUpto_ofNat hm, Option.bind_some, andU64_eq]
  generalize w &&& rmaskUpto ((a0 + wordI * 64) % 64) = x
  have htz : tz x 64 ≤ 64 := tz_le _ _
  by_cases h0 : x = 0
  · have e2 : addI32 (wordI : Int) 1 = ((wordI + 1 : Nat) : Int) := addI32_ofNat (b := 1) (by omega)
    simp only [h0, ne_eq, not_true_eq_false, decide_false, Bool.false_eq_true, ↓reduceIte, e2]
    rw [scan_loop ws _ (ws.length : Int) (Gen.Ssa2.bitmap_Select32R64_loop15 fuel ws sidx ridx i (ws.length : Int) _)
      rfl hlen
      (fun gas t => by rw [Gen.Ssa2.bitmap_Select32R64_loop15])
      (ws.drop (wordI + 1)) (wordI + 1) fuel rfl (by simp only [List.length_drop]; omega)]
    rfl
  · have e2 : addI32 ((wordI * 64 : Nat) : Int) (toI32 (trailingZeros64 x)) = ((wordI * 64 + tz x 64 : Nat) : Int) := by
      rw [toI32_tz64]; exact addI32_ofNat (by omega)
    simp only [h0, ne_eq, not_false_eq_true, decide_true, ↓reduceIte, e2]
    rfl

theorem Select32R64_exit (fuel : Nat) (ws ridx : List Nat) (sidx : List Int) (i wordI : Nat)
    (hlen : ws.length < 2 ^ 25) (hr : ∀ n ∈ ridx, n < 2 ^ 31) (hi : i < 2 ^ 31) (hfuel : ws.length + 1 ≤ fuel) :
    (Option.bind (index ws (wordI : Int)) fun t8 =>
      Option.bind (index (ridx.map Int.ofNat) (wordI : Int)) fun t11 =>
        selChain (Select32R64_tail fuel ws sidx (ridx.map Int.ofNat) (i : Int) (ws.length : Int) t8
          (shlI32 (wordI : Int) 6) (wordI : Int)) t8 (toI64 (subI32 (i : Int) t11)))
      = (r64After ws ridx i wordI).map castPair := by
  unfold r64After
  simp only [index_ofNat, List.getElem?_map, Option.bind_eq_bind]
  cases hw : ws[wordI]? with
  | none => simp
  | some w =>
    have hwI : wordI < ws.length := (List.getElem?_eq_some_iff.mp hw).1
    cases hrr : ridx[wordI]? with
    | none => simp
    | some r =>
      have hr31 : r < 2147483648 := hr r (List.mem_of_getElem? hrr)
      have e0 : shlI32 (wordI : Int) 6 = ((wordI * 64 : Nat) : Int) := shlI32_6_ofNat (by omega)
      simp only [Option.bind_some, Option.map_some, e0]
      by_cases hlt : i < r
      · have e1 : toI64 (subI32 (i : Int) (Int.ofNat r)) = (i : Int) - (r : Int) := by
          rw [subI32, Int.ofNat_eq_natCast, wrap32_id (by omega) (by omega)]; exact toI64_id (by omega) (by omega)
        rw [selChain_neg _ _ _ (by omega) (by omega)]
        simp only [hlt, ↓reduceIte, Option.map_none]
      · have e1 : toI64 (subI32 (i : Int) (Int.ofNat r)) = ((i - r : Nat) : Int) := by
          rw [Int.ofNat_eq_natCast, subI32_ofNat (by omega) (by omega)]; exact toI64_ofNat_lt (by omega)
        rw [e1, selChain_eq _ _ _ (by omega)]
        simp only [hlt, ↓reduceIte]
        cases hs : selWord w (i - r) with
        | none => simp
        | some a0 =>
          have ha0 := selWord_le hs
          rw [Option.bind_some, Option.bind_some]
          rw [Select32R64_tail_eq fuel ws sidx _ _ w wordI a0 hlen hfuel hwI ha0]
          generalize w &&& rmaskUpto ((a0 + wordI * 64) % 64) = x
          by_cases h0 : x = 0 <;> simp [h0]

theorem Select32R64_loop (fuel : Nat) (ws ridx : List Nat) (sidx : List Int) (i : Nat)
    (hlen : ws.length < 2 ^ 25) (hrl : ridx.length < 2 ^ 31) (hr : ∀ n ∈ ridx, n < 2 ^ 31) (hi : i < 2 ^ 31)
    (hfuel : ws.length + 1 ≤ fuel) :
    ∀ (rest : List Nat) (wordI gas : Nat), rest = ridx.drop (wordI + 1) → rest.length + 1 ≤ gas → wordI + 1 < 2 ^ 31 →
      Gen.Ssa2.bitmap_Select32R64_loop3 fuel ws sidx (ridx.map Int.ofNat) (i : Int) (ws.length : Int) gas (wordI : Int)
        = ((r64Skip i rest wordI).bind (r64After ws ridx i)).map castPair
  | [], wordI, gas, hrest, hg, hw31 => by
    obtain ⟨g, rfl, hg'⟩ := gas_pos hg
    have e1 : addI32 (wordI : Int) 1 = ((wordI + 1 : Nat) : Int) := addI32_ofNat (b := 1) (by omega)
    rw [Select32R64_loop3_step, r64Skip, e1, index_ofNat, List.getElem?_map, getElem?_of_drop_eq_nil hrest]
    rfl
  | r :: rest, wordI, gas, hrest, hg, hw31 => by
    obtain ⟨g, rfl, hg'⟩ := gas_pos hg
    have hlt : wordI + 1 < ridx.length := drop_eq_cons_lt hrest
    have e1 : addI32 (wordI : Int) 1 = ((wordI + 1 : Nat) : Int) := addI32_ofNat (b := 1) (by omega)
    have ih := Select32R64_loop fuel ws ridx sidx i hlen hrl hr hi hfuel
      rest (wordI + 1) g (drop_succ_of_drop_eq_cons hrest)
      hg' (by omega)
    rw [Select32R64_loop3_step, r64Skip, e1, index_ofNat, List.getElem?_map, getElem?_of_drop_eq_cons hrest]
    simp only [Option.map_some, Option.bind_some, Int.ofNat_eq_natCast, Int.ofNat_le, decide_eq_true_eq]
    by_cases hle : r ≤ i
    · simp only [hle, ↓reduceIte, ih]
    · simp only [hle, ↓reduceIte, Option.bind_some]
      exact Select32R64_exit fuel ws ridx sidx i wordI hlen hr hi hfuel

/-- Domain.
    * `ws.length < 2^25` (the project's `BmDom`): `wordI<<6`, `a += base`, `base + tz`, `l<<6` stay below `2^31`
      (no int32 wrap).
    * `sidx`, `ridx` entries `< 2^31` and `i < 2^31`: they are non-negative `int32` values (the lists are given as
      `Nat`s); `i - rankIndex[wordI]` then does not wrap.
    * `ridx.length < 2^31`: `wordI + 1` in the skip loop does not wrap (the loop runs while
      `rankIndex[wordI+1] <= i`, so `wordI` can reach `len(rankIndex) - 1`).
    * no hypothesis on the words: `uint32(ww)`, `uint16(ww)`, `uint8(ww)` truncate in both.
    Fuel: every `fuel ≥ max (len words) (len rankIndex) + 1`.
    Panics (`none` on both sides): `selectIndex[i>>5]`, `rankIndex[wordI+1]`, `words[wordI]`, `rankIndex[wordI]` out of
    range; `rankIndex[wordI] > i` (then `findIth` is negative and `select8Lookup[… | uint64(findIth)]` is out of
    range, `Tie2Sel.selChain_neg`); a `select8Lookup` index ≥ 2048 (`findIth-ones ≥ 8` with high byte bits). -/
theorem Tie_bitmap_Select32R64 (ws sidx ridx : List Nat) (i fuel : Nat)
    (hlen : ws.length < 2 ^ 25) (hs : ∀ n ∈ sidx, n < 2 ^ 31) (hrl : ridx.length < 2 ^ 31)
    (hr : ∀ n ∈ ridx, n < 2 ^ 31) (hi : i < 2 ^ 31) (hfuel : max ws.length ridx.length + 1 ≤ fuel) :
    Gen.Ssa2.bitmap_Select32R64 fuel ws (sidx.map Int.ofNat) (ridx.map Int.ofNat) (i : Int)
      = (select32R64 ws sidx ridx i).map (fun p => ((p.1 : Int), (p.2 : Int))) := by
  have hl : toI32 (len ws) = (ws.length : Int) := by
    exact toI32_ofNat_lt (by omega)
  rw [Gen.Ssa2.bitmap_Select32R64, select32R64_eq]
  simp only [hl, shrI32_5_ofNat, index_ofNat, List.getElem?_map]
  cases hsi : sidx[i / 32]? with
  | none => rfl
  | some s =>
    have hs31 : s < 2 ^ 31 := hs s (List.mem_of_getElem? hsi)
    simp only [Option.map_some, Option.bind_some, Int.ofNat_eq_natCast, shrI32_6_ofNat]
    exact Select32R64_loop fuel ws ridx _ i hlen hrl hr hi (by omega) _ (s / 64) fuel rfl
      (by simp only [List.length_drop]; omega) (by omega)

example : Gen.Ssa2.bitmap_Select32R64 4 [0x12, 0, 0x100] [1] [0, 2, 2, 3] 1 = some (4, 136) := by decide +kernel
example : select32R64 [0x12, 0, 0x100] [1] [0, 2, 2, 3] 1 = some (4, 136) := by decide +kernel
example : Gen.Ssa2.bitmap_Select32R64 4 [0x12, 0, 0x100] [1] [0, 2, 2, 3] 2 = some (136, 192) := by decide +kernel
example : Gen.Ssa2.bitmap_Select32R64 4 [0x12] [1] [1, 2] 0 = none ∧ select32R64 [0x12] [1] [1, 2] 0 = none := by decide +kernel

end Low
