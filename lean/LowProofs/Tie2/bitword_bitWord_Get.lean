import Generated.Ssa2.bitword_bitWord_Get
import LowProofs.Tie2.Lemmas
import LowModel.Bitword
/-
  Tie: the definition regenerated from the SSA form of `(*bitword.bitWord).Get` equals the hand-written model `bwGet`.
  The generated definition takes the receiver's fields `width`, `byteCap`, `wordMask` as arguments; the theorem
  instantiates them with the values that `newBW(n)` stores: `width = n`, `byteCap = 8/n`,
  `wordMask = byte(1<<n - 1) = bwWordMask n`.
-/
namespace Low
open Low.GoSem Low.TieL Low.Tie2L

theorem wrap64_mod8 (x : Int) : wrap64 x % 8 = x % 8 := by
  have h8 : (8 : Int) ∣ (M64 : Int) := by decide
  rw [← Int.emod_emod_of_dvd (wrap64 x) h8, wrap64_emod, Int.emod_emod_of_dvd x h8]

/-- `Get` with a negative word index reads `s[negative]`: a panic — provided `width * ith` does not wrap
    (`hlo`; for `1 ≤ width ≤ 8` this holds for every `ith ≥ -2^60`): the product stays negative, and so does `>> 3`. -/
theorem bitword_bitWord_Get_neg (n : Nat) (hn : n = 1 ∨ n = 2 ∨ n = 4 ∨ n = 8) (bc : Int) (mask : Nat) (s : List Nat)
    (ith : Int) (hneg : ith < 0) (hlo : -2^63 ≤ (n : Int) * ith) :
    Gen.Ssa2.bitword_bitWord_Get (n : Int) bc mask s ith = none := by
  rw [Gen.Ssa2.bitword_bitWord_Get]
  have hp : (n : Int) * ith < 0 := Int.mul_neg_of_pos_of_neg (by omega) hneg
  have e2 : mulI64 (n : Int) ith = (n : Int) * ith := by rw [mulI64]; exact wrap64_id (by omega) (by omega)
  have hlt : shrI64 ((n : Int) * ith) 3 < 0 := by rw [shrI64_3]; omega
  simp only [e2, index_neg s hlt, Option.bind_none]

/-- the tie for an arbitrary value `bc` of the field `byteCap` (which `Get` does not read) -/
theorem bitword_bitWord_Get_eq (n : Nat) (hn : n = 1 ∨ n = 2 ∨ n = 4 ∨ n = 8) (bc : Int) (s : List Nat) (ith : Nat)
    (hith : n * ith < 2^63) :
    Gen.Ssa2.bitword_bitWord_Get (n : Int) bc (bwWordMask n) s (ith : Int) = bwGet n s ith := by
  rw [Gen.Ssa2.bitword_bitWord_Get, bwGet]
  have hn1 : 1 ≤ n := by omega
  generalize hi : n * ith = i at hith
  have e2 : mulI64 (n : Int) (ith : Int) = (i : Int) := by
    rw [mulI64, ← Int.natCast_mul, hi]; exact wrap64_ofNat (by omega)
  have e8 : shrI64 (i : Int) 3 = ((i / 8 : Nat) : Int) := by rw [shrI64_3]; omega
  have he : (i + n - 1) % 8 < 8 := Nat.mod_lt _ (by omega)
  have e7 : andI64 (subI64 (addI64 (i : Int) (n : Int)) 1) 7 = (((i + n - 1) % 8 : Nat) : Int) := by
    rw [andI64_7, subI64, wrap64_mod8, addI64]
    have h := wrap64_mod8 ((i : Int) + (n : Int))
    generalize wrap64 ((i : Int) + (n : Int)) = y at h ⊢
    omega
  simp only [e2, e7, e8, index_ofNat]
  generalize (i + n - 1) % 8 = e at he
  have e10 : toU64 (subI64 7 (e : Int)) = 7 - e := by
    have : subI64 7 (e : Int) = ((7 - e : Nat) : Int) := subI64_ofNat (a := 7) (by omega) (by omega)
    rw [this]; exact toU64_ofNat_lt (by omega)
  cases hw : s[i / 8]? with
  | none => rfl
  | some word =>
    simp only [Option.bind_some, e10, shrU8, andU8, if_pos (show 7 - e < 8 by omega)]

/-- Domain: `n ∈ {1,2,4,8}` (the widths `newBW` accepts: `w.width = n`, and the masks/shift counts below stay in a
    byte), `s` any string (NO hypothesis on the bytes: the generated `>>`/`&` on `byte` do not truncate, neither does
    the model), `ith ≥ 0` (as `Nat`) with `n * ith < 2^63` (`hith`: the `int` product `w.width * ith` does not wrap;
    beyond it the Go code reads the byte at the WRAPPED offset while the model reads at the mathematical one — a genuine
    domain restriction, irrelevant for real strings: `n * ith ≥ 2^63` is far beyond `8 * len(s)`).
    The later sum `i + w.width - 1` may wrap; only its low three bits are used and wrapping preserves them.
    Where the Go function panics (`s[i>>3]` out of range) both sides are `none`.
    (For negative `ith` see `bitword_bitWord_Get_neg`: a panic.) -/
theorem Tie_bitword_bitWord_Get (n : Nat) (hn : n = 1 ∨ n = 2 ∨ n = 4 ∨ n = 8) (s : List Nat) (ith : Nat)
    (hith : n * ith < 2^63) :
    Gen.Ssa2.bitword_bitWord_Get (n : Int) ((8 / n : Nat) : Int) (bwWordMask n) s (ith : Int) = bwGet n s ith :=
  bitword_bitWord_Get_eq n hn _ s ith hith

example : Gen.Ssa2.bitword_bitWord_Get 2 4 3 [0x1b, 0xe4] 5 = some 2 := by decide +kernel
example : bwGet 2 [0x1b, 0xe4] 5 = some 2 := by decide +kernel
example : Gen.Ssa2.bitword_bitWord_Get 4 2 15 [0x1b, 0xe4] 4 = none := by decide +kernel
example : Gen.Ssa2.bitword_bitWord_Get 4 2 15 [0x1b, 0xe4] (-1) = none := by decide +kernel
-- outside `hith` (`8 * 2^61 = 2^64` wraps to offset 0): the code reads `s[0]`, the model is out of range
example : Gen.Ssa2.bitword_bitWord_Get 8 1 255 [7] 2305843009213693952 = some 7 := by decide +kernel
example : bwGet 8 [7] 2305843009213693952 = none := by decide +kernel

end Low
