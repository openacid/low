import LowModel.GoSem2
import LowProofs.Tie.Lemmas
/-
  Helper lemmas for the tie proofs of the functions with loops (`LowProofs/Tie2/*.lean`), on top of
  `LowProofs/Tie/Lemmas.lean` (`Low.TieL`): more `GoSem` arithmetic on in-range arguments, the `GoSem2` vocabulary,
  and the list facts that relate an index-based loop (`xs[j]`, `j := j + 1`) to a recursion over the suffix
  `xs.drop j` (the shape of the model's loops).
  Conventions of the loop lemmas in the tie files (of which only `gas_pos` is here): `fuel` is what every loop
  instance is started with, `gas` this loop's own counter; a lemma about a loop with `n` iterations left asks
  `n + 1 ≤ gas` (the exit test costs one) and takes one unit per iteration with `gas_pos`; it is stated for an
  arbitrary accumulator / buffer / continuation so that the induction hypothesis applies to the next state.
-/
namespace Low.Tie2L
open Low.GoSem Low.TieL

/-- a running count of the one bits of the first `i` of fewer than `2^25` words, plus those of word `i`, is an `int32` -/
theorem addI32_popc64 {n i L : Nat} (w : Nat) (hn : n ≤ 64 * i) (hi : i < L) (hL : L < 2^25) :
    addI32 (n : Int) (toI32 (onesCount64 w)) = ((n + popc w 64 : Nat) : Int) ∧ n + popc w 64 ≤ 64 * (i + 1) := by
  have hp : popc w 64 ≤ 64 := popc_le _ _
  rw [toI32_popc64]; exact ⟨addI32_ofNat (by omega), by omega⟩

theorem tblRMask_ofNat {k : Nat} (h : k < 65) : tblRMask (k : Int) = some (rmask k) := tbl_ofNat h
theorem tblMaskUpto_ofNat {k : Nat} (h : k < 64) : tblMaskUpto (k : Int) = some (maskUpto k) := tbl_ofNat h
theorem tblRMaskUpto_ofNat {k : Nat} (h : k < 64) : tblRMaskUpto (k : Int) = some (rmaskUpto k) := tbl_ofNat h

theorem tbl_neg {n : Nat} {f : Nat → Nat} {k : Int} (h : k < 0) : tbl n f k = none := by
  unfold tbl; simp; omega

theorem tbl_ge {n : Nat} {f : Nat → Nat} {k : Int} (h : (n : Int) ≤ k) : tbl n f k = none := by
  unfold tbl; simp; omega

theorem tblSelect8_ofNat (k : Nat) : GoSem2.tblSelect8 (k : Int) = sel8 k := by
  unfold GoSem2.tblSelect8 sel8
  have : ¬ ((k : Int) < 0) := by omega
  simp [this]

/-- rows 9..15 of the model's table are empty, like the rows the Go literal does not have -/
theorem tblIdxToPath_eq {i : Nat} (h : i < 16) (j : Int) :
    GoSem2.tblIdxToPath (i : Int) j = index (idxToPathRow i) j := by
  by_cases h9 : i < 9
  · unfold GoSem2.tblIdxToPath; simp; omega
  · have hrow : idxToPathRow i = [] := by
      have : i = 9 ∨ i = 10 ∨ i = 11 ∨ i = 12 ∨ i = 13 ∨ i = 14 ∨ i = 15 := by omega
      rcases this with h | h | h | h | h | h | h <;> subst h <;> rfl
    unfold GoSem2.tblIdxToPath index
    rw [hrow]
    simp
    omega

theorem andI32_neg64_ofNat {n : Nat} (h : n < 2147483648) : andI32 (n : Int) (-64) = ((n / 64 * 64 : Nat) : Int) := by
  have hm : u32 (-64) = 2 ^ 32 - 2 ^ 6 := by decide
  rw [andI32, u32_ofNat_lt (by omega), hm, and_negPow (by omega) (by omega)]
  exact wrap32_ofNat (by omega)

theorem shlI32_ofNat {n s : Nat} (h : n * 2 ^ s < 2147483648) : shlI32 (n : Int) s = ((n * 2 ^ s : Nat) : Int) := by
  rw [shlI32]
  have : (n : Int) * 2 ^ s = ((n * 2 ^ s : Nat) : Int) := by simp
  rw [this]; exact wrap32_ofNat h

theorem shlI32_6_ofNat {n : Nat} (h : n * 64 < 2147483648) : shlI32 (n : Int) 6 = ((n * 64 : Nat) : Int) :=
  shlI32_ofNat (s := 6) h

theorem shrI32_5_ofNat (n : Nat) : shrI32 (n : Int) 5 = ((n / 32 : Nat) : Int) := by
  rw [shrI32_ofNat, Nat.shiftRight_eq_div_pow]

theorem andI32_31_ofNat (n : Nat) : andI32 (n : Int) 31 = ((n % 32 : Nat) : Int) := by
  rw [andI32_31]; omega

theorem subI32_natCast {a b : Nat} (hb : b ≤ a) (h : a < 2147483648) :
    subI32 (a : Int) (b : Int) = ((a - b : Nat) : Int) := subI32_ofNat hb h

theorem addI64_ofNat {a b : Nat} (h : a + b < 9223372036854775808) : addI64 (a : Int) (b : Int) = ((a + b : Nat) : Int) := by
  exact (wrap64_id (by omega) (by omega)).trans (by omega)

theorem subI64_ofNat {a b : Nat} (hle : b ≤ a) (h : a < 9223372036854775808) :
    subI64 (a : Int) (b : Int) = ((a - b : Nat) : Int) := by
  exact (wrap64_id (by omega) (by omega)).trans (by omega)

theorem subI64_one_of_pos {a : Nat} (h0 : 0 < a) (h : a ≤ 9223372036854775807) :
    subI64 (a : Int) 1 = ((a - 1 : Nat) : Int) := subI64_ofNat (b := 1) h0 (by omega)

theorem toI64_ofNat_lt {n : Nat} (h : n < 9223372036854775808) : toI64 (n : Int) = n := by
  exact wrap64_ofNat h

theorem toI64_id {x : Int} (h1 : -9223372036854775808 ≤ x) (h2 : x < 9223372036854775808) : toI64 x = x := by
  exact wrap64_id h1 h2

theorem subI64_id {a b : Int} (h1 : -9223372036854775808 ≤ a - b) (h2 : a - b < 9223372036854775808) :
    subI64 a b = a - b := by
  exact wrap64_id h1 h2

theorem addI64_id {a b : Int} (h1 : -9223372036854775808 ≤ a + b) (h2 : a + b < 9223372036854775808) :
    addI64 a b = a + b := by
  exact wrap64_id h1 h2

/-- a counter that starts at `-1` (a `range` index, `ith` in `IndexSelect32`), incremented -/
theorem addI64_pred_one {c : Nat} (h : c < 9223372036854775808) : addI64 ((c : Int) - 1) 1 = (c : Int) := by
  exact (wrap64_id (by omega) (by omega)).trans (by omega)

theorem mulI64_ofNat {a b : Nat} (h : a * b < 9223372036854775808) :
    mulI64 (a : Int) (b : Int) = ((a * b : Nat) : Int) := by
  exact wrap64_ofNat h

theorem shlI64_6_ofNat {n : Nat} (h : n * 64 < 9223372036854775808) : shlI64 (n : Int) 6 = ((n * 64 : Nat) : Int) := by
  rw [shlI64]
  have : (n : Int) * 2 ^ 6 = ((n * 64 : Nat) : Int) := by simp
  rw [this]; exact wrap64_ofNat h

theorem shrI64_eq_div (x : Int) (s : Nat) : shrI64 x s = x / ((2 ^ s : Nat) : Int) := by
  exact Int.shiftRight_eq_div_pow x s

theorem shrI64_6 (x : Int) : shrI64 x 6 = x / 64 := by rw [shrI64_eq_div]; rfl
theorem shrI64_3 (x : Int) : shrI64 x 3 = x / 8 := by rw [shrI64_eq_div]; rfl

theorem shrI64_6_ofNat (n : Nat) : shrI64 (n : Int) 6 = ((n / 64 : Nat) : Int) := by
  rw [shrI64_6]; omega

theorem andI64_63_ofNat (n : Nat) : andI64 (n : Int) 63 = ((n % 64 : Nat) : Int) := by
  rw [andI64_63]; omega

theorem andI64_31_ofNat (n : Nat) : andI64 (n : Int) 31 = ((n % 32 : Nat) : Int) := by
  rw [andI64_31]; omega

theorem andI64_neg64_ofNat {n : Nat} (h : n < 9223372036854775808) :
    andI64 (n : Int) (-64) = ((n / 64 * 64 : Nat) : Int) := by
  have hm : u64 (-64) = 2 ^ 64 - 2 ^ 6 := by decide
  rw [andI64, u64_ofNat_lt (by omega), hm, and_negPow (by omega) (by omega)]
  exact wrap64_ofNat (by omega)

theorem len_eq {α : Type} (xs : List α) : len xs = (xs.length : Int) := rfl

theorem slice_ofNat {α : Type} (xs : List α) {lo hi : Nat} (h1 : lo ≤ hi) (h2 : hi ≤ xs.length) :
    GoSem2.slice xs (lo : Int) (hi : Int) = some ((xs.drop lo).take (hi - lo)) := by
  unfold GoSem2.slice
  have : (0 : Int) ≤ (lo : Int) ∧ (lo : Int) ≤ (hi : Int) ∧ (hi : Int) ≤ (xs.length : Int) := by omega
  rw [if_pos this, List.drop_take]; rfl

theorem slice_zero_ofNat {α : Type} (xs : List α) {k : Nat} (h : k ≤ xs.length) :
    GoSem2.slice xs 0 (k : Int) = some (xs.take k) := slice_ofNat xs (Nat.zero_le k) h

theorem slice_from_ofNat {α : Type} (xs : List α) {i : Nat} (h : i ≤ xs.length) :
    GoSem2.slice xs (i : Int) (xs.length : Int) = some (xs.drop i) := by
  rw [slice_ofNat xs h (Nat.le_refl _), List.take_of_length_le (by rw [List.length_drop]; exact Nat.le_refl _)]

theorem slice_none {α : Type} (xs : List α) {lo hi : Int} (h : hi < lo ∨ (xs.length : Int) < hi ∨ lo < 0) :
    GoSem2.slice xs lo hi = none := by
  unfold GoSem2.slice
  rw [if_neg (by omega)]

theorem slice_neg {α : Type} (xs : List α) (lo : Int) {hi : Int} (h : hi < 0) : GoSem2.slice xs lo hi = none := by
  unfold GoSem2.slice; simp; omega

theorem slice_gt {α : Type} (xs : List α) (lo : Int) {hi : Int} (h : (xs.length : Int) < hi) :
    GoSem2.slice xs lo hi = none := by
  unfold GoSem2.slice; simp; omega

/-- a loop that has `n + 1` units of fuel runs one iteration and keeps `n` -/
theorem gas_pos {n gas : Nat} (h : n + 1 ≤ gas) : ∃ g, gas = g + 1 ∧ n ≤ g := ⟨gas - 1, by omega, by omega⟩

theorem drop_eq_nil_le {α : Type} {xs : List α} {j : Nat} (h : [] = xs.drop j) : xs.length ≤ j := by
  have := congrArg List.length h; simp at this; omega

theorem getElem?_of_drop_eq_nil {α : Type} {xs : List α} {j : Nat} (h : [] = xs.drop j) : xs[j]? = none :=
  List.getElem?_eq_none (drop_eq_nil_le h)

theorem drop_eq_cons_lt {α : Type} {xs r : List α} {w : α} {j : Nat} (h : w :: r = xs.drop j) : j < xs.length := by
  have := congrArg List.length h; simp at this; omega

theorem getElem?_of_drop_eq_cons {α : Type} {xs r : List α} {w : α} {j : Nat} (h : w :: r = xs.drop j) :
    xs[j]? = some w := by
  have := congrArg (fun l => l[0]?) h
  simpa using this.symm

theorem drop_succ_of_drop_eq_cons {α : Type} {xs r : List α} {w : α} {j : Nat} (h : w :: r = xs.drop j) :
    r = xs.drop (j + 1) := by
  have := congrArg List.tail h
  simpa using this

theorem length_of_drop_eq {α : Type} {xs r : List α} {j : Nat} (h : r = xs.drop j) : r.length = xs.length - j := by
  rw [h]; simp

end Low.Tie2L
