import Generated.Ssa2.bmtree_PathToIndex
import LowProofs.Tie.bmtree_Height
import LowProofs.Tie.bmtree_PathLen
import LowProofs.Tie2.bmtree_shiftMulti
import LowModel.Bmtree.Index
/-
  Tie: the definition regenerated from the SSA form of `bmtree.PathToIndex` (release build: the `must.Be` contract
  closure is a no-op) equals the hand-written model `pathToIndex`.  The function itself is loop-free; it calls
  `Height`, `PathLen` (ties in `LowProofs/Tie`) and `shiftMulti` (a loop, tie in `Tie2/bmtree_shiftMulti`), whence the
  `fuel` argument.  Helper lemmas: `Low.TieBm` (`LowProofs/Tie/Bmtree.lean`).
-/
namespace Low
open Low.GoSem Low.TieL Low.TieBm

/-- Domain:
    * `1 ≤ t`: for `bitmapSize = 0` `Height` is `-1` and the Go code panics on `bitmap.MaskUpto[-1]` (the generated
      definition is `none`), while the model — a total function documented for `1 ≤ bitmapSize` — returns a number;
    * `t < 2^31`: `bitmapSize` is a non-negative `int32` (otherwise `(t : Int)` is not the representation of an
      `int32`); with `1 ≤ t` it puts the height into `0..30`, so `MaskUpto[h]`, `Bit[h]` (64 entries) are in range
      and `uint64(bitmapSize)`, `uint64(h)` are not sign-extended;
    * `path < 2^64`: a `uint64`; it makes `path >> 32 < 2^32`, the operand whose bits the loop of `shiftMulti`
      consumes (for larger numbers the model's loop would be cut off after 65 rounds).
    No contract (`bitmapSize` / `path` consistency) is assumed: the release build computes, and the tie holds, on
    every such input.  `Mask[PathLen(path)]` is always in range (`PathLen ≤ 32 < 65`).
    Fuel: every `fuel ≥ 33` (`shiftMulti` runs on `b = path >> 32 < 2^32`: at most 32 iterations and the final test).
    On this domain the Go function neither panics nor diverges. -/
theorem Tie_bmtree_PathToIndex (t path fuel : Nat) (ht : 1 ≤ t) (ht' : t < 2^31) (hp : path < 2^64)
    (hfuel : 33 ≤ fuel) :
    Gen.Ssa2.bmtree_PathToIndex fuel (t : Int) path = some (pathToIndex t path) := by
  obtain ⟨h, hh, hh31⟩ := height_nat ht ht'
  have hb : path >>> 32 < 2^32 := by
    omega
  rw [Gen.Ssa2.bmtree_PathToIndex]
  simp only [Tie_bmtree_Height, Tie_bmtree_PathLen, toU64_ofNat_lt (show t < 18446744073709551616 by omega)]
  have h := indexCode_eq (fun x => x) false t path ht ht'
    (Gen.Ssa2.bmtree_shiftMulti fuel t (shrU64 path 32) (toU64 (height t))) (by
      rw [shrU64_lt path (show 32 < 64 by omega), hh, Int.toNat_natCast,
        toU64_ofNat_lt (show h < 18446744073709551616 by omega),
        Tie_bmtree_shiftMulti_bits t (path >>> 32) h fuel 32 hb (by omega) hfuel, if_neg Bool.false_ne_true])
  exact h

example : Gen.Ssa2.bmtree_PathToIndex 33 11 0x5_00000007 = some 8 := by decide +kernel
example : pathToIndex 11 0x5_00000007 = 8 := by decide +kernel
example : Gen.Ssa2.bmtree_PathToIndex 33 15 0x4_00000006 = some 9 := by decide +kernel
example : Gen.Ssa2.bmtree_PathToIndex 33 8 0x5_00000007 = some 5 := by decide +kernel
-- `bitmapSize = 0`: the Go code panics, the (total) model does not say so
example : Gen.Ssa2.bmtree_PathToIndex 33 0 0x5_00000007 = none := by decide +kernel
-- the bound 33 is sharp on the stated domain (no contract assumed): 32 set bits in `path >> 32`
example : Gen.Ssa2.bmtree_PathToIndex 32 11 0xffffffff_00000007 = none := by decide +kernel

end Low
