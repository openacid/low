import Generated.Ssa2.bmtree_IndexToPath
import LowProofs.Tie2.Lemmas
import LowModel.Bmtree.Index
/-
  Tie: the definition regenerated from the SSA form of `bmtree.IndexToPath` (a function with a loop) equals the
  hand-written model `indexToPath`.

  Straight-line part (the common-prefix shortcut under `treeheight > 4`): every `tN` of the generated definition is
  matched with the corresponding `let` of the model (`e5 … e31` in the main proof); the only non-syntactic steps are
  `u32 (wrap32 x) = u32 x` (an int32 reinterpreted as uint32), `wrap32 (wrap32 a + b) = wrap32 (a + b)` (the model
  wraps `a - fixed + popcount` once, the code twice) and the in-range facts `0 ≤ 32 - lz ≤ 32`, `treeheight + 1` does not
  overflow.

  Loop: the generated `bmtree_IndexToPath_loop5` returns `none` when its fuel is used up, the model's `i2pLoop` is
  started with fuel 64 and returns the state it has reached.  `I2PL.loop` shows that both perform the same steps and
  both leave through the loop CONDITION whenever `mask` has a set bit at a position `j` below both fuels: the bit moves
  down one position per iteration (`mask >>= 1`) and the condition `mask & 15 == 0` fails at the latest when it reaches
  position 0.  The code after the loop (`blk4`: table read, `p2>>1 | v`) is `I2PL.tail` of the final state.
  Main theorem: at loop entry the bit `treeheight` of `0x100000001 << treeheight`, shifted down by `fixed ≤ treeheight`
  (`fixed ≤ treeheight` because `index - treeheight` and `index` differ, so `diffbits ≥ 1`), is such a bit, at a
  position `≤ min treeheight 31`.
-/
namespace Low
open Low.GoSem Low.TieL Low.Tie2L

namespace I2PL

/-- the code after the loop (`blk4`) as a function of the loop's final state `(p2, mask, index)`:
    the same expression as the end of the model's `indexToPath` -/
def tail (s : Nat × Nat × Int) : Option Nat :=
  if s.2.2 < 0 then none else
  match (idxToPathRow (s.2.1 &&& 15))[s.2.2.toNat]? with
  | none => none
  | some v => some ((s.1 >>> 1) ||| v)

theorem and15_lt (m : Nat) : m &&& 15 < 16 := by
  have : m &&& 15 ≤ 15 := Nat.and_le_right; omega

theorem blk4_eq (p2 msk : Nat) (idx : Int) :
    (Option.bind (GoSem2.tblIdxToPath ((andU64 msk 15 : Nat) : Int) idx) fun t45 => some (orU64 (shrU64 p2 1) t45))
      = tail (p2, msk, idx) := by
  rw [andU64_eq, tblIdxToPath_eq (and15_lt msk), tail]
  by_cases h : idx < 0
  · simp [index_neg _ h, h]
  · rw [index_toNat _ (by omega), if_neg h]
    cases (idxToPathRow (msk &&& 15))[idx.toNat]? <;> rfl

/-- The loop.  If `msk` has bit `j` set and both the generated loop's counter `gas` and the model's fuel `fm` exceed `j`,
    the generated loop followed by `blk4` is `tail` of the model's loop: both run the same iterations and stop because the
    loop condition fails (no hypothesis on `idx`, `p2`; the arithmetic of one iteration is matched syntactically). -/
theorem loop (fuel : Nat) (th index : Int) :
    ∀ (j gas fm : Nat) (idx : Int) (p2 msk : Nat), msk.testBit j = true → j < gas → j < fm →
      Gen.Ssa2.bmtree_IndexToPath_loop5 fuel th index gas idx p2 msk = tail (i2pLoop fm p2 msk idx) := by
  intro j
  induction j with
  | zero =>
    intro gas fm idx p2 msk hb hg hf
    obtain ⟨g, rfl, hg'⟩ := gas_pos hg
    obtain ⟨f, rfl, hf'⟩ := gas_pos hf
    have h15 : ¬ (msk &&& 15 = 0) := by
      intro h
      have h0 : (msk &&& 15).testBit 0 = true := by rw [Nat.testBit_and, hb]; rfl
      rw [h, Nat.zero_testBit] at h0
      exact Bool.false_ne_true h0
    rw [Gen.Ssa2.bmtree_IndexToPath_loop5, i2pLoop]
    simp only [blk4_eq]
    simp only [andU64_eq, h15, decide_false, Bool.false_eq_true, ↓reduceIte, false_and]
  | succ j ih =>
    intro gas fm idx p2 msk hb hg hf
    obtain ⟨g, rfl, hg'⟩ := gas_pos hg
    obtain ⟨f, rfl, hf'⟩ := gas_pos hf
    have hb' : (msk >>> 1).testBit j = true := by rw [Nat.testBit_shiftRight, Nat.add_comm]; exact hb
    rw [Gen.Ssa2.bmtree_IndexToPath_loop5, i2pLoop]
    simp only [blk4_eq]
    by_cases h1 : msk &&& 15 = 0
    · by_cases h2 : idx > 0
      · simp only [andU64_eq, h1, h2, decide_true, ↓reduceIte, and_self, orU64_eq, shlU64_eq, toU64, toI32, subI32,
          shrU64_lt _ (show 32 < 64 by omega), shrU64_lt _ (show 1 < 64 by omega), decide_eq_true_eq]
        split
        · exact ih g f _ _ _ hb' hg' hf'
        · exact ih g f _ _ _ hb' hg' hf'
      · simp only [andU64_eq, h1, h2, decide_true, decide_false, Bool.false_eq_true, ↓reduceIte, and_false]
    · simp only [andU64_eq, h1, decide_false, Bool.false_eq_true, ↓reduceIte, false_and]


theorem eq_of_xor_eq_zero {a b : Nat} (h : a ^^^ b = 0) : a = b := by
  have : a ^^^ (a ^^^ b) = b := by rw [← Nat.xor_assoc, Nat.xor_self, Nat.zero_xor]
  rw [h, Nat.xor_zero] at this; exact this

theorem xor_ne_zero {th : Nat} (index : Int) (h0 : 0 < th) (h1 : th < 4294967296) :
    u32 (wrap32 (index - th)) ^^^ u32 index ≠ 0 := by
  intro h
  have := eq_of_xor_eq_zero h
  rw [u32_wrap32] at this
  unfold u32 at this; simp only [M32] at this; omega

theorem msk0_bit_lo {th : Nat} (h : th < 64) : (shl64 4294967297 th).testBit th = true := by
  rw [shl64, if_pos h, show M64 = 2 ^ 64 from rfl, Nat.testBit_mod_two_pow]
  simp [h]

/-- the int32 arithmetic of `fixed := treeheight + 1 - (32 - lz)` for `th ≤ 63`, `lz ≤ 31`: nothing wraps; a positive
    `fixed` is at most `th` -/
theorem fixed_arith {th L : Nat} (hth : th ≤ 63) (hL : L < 32) :
    subI32 32 (toI32 (L : Int)) = 32 - (L : Int) ∧ addI32 (th : Int) 1 = (th : Int) + 1
      ∧ subI32 ((th : Int) + 1) (32 - (L : Int)) = (th : Int) + 1 - (32 - (L : Int))
      ∧ toU64 (32 - (L : Int)) = (32 - (L : Int)).toNat
      ∧ ∀ F : Int, (th : Int) + 1 - (32 - (L : Int)) = F → F > 0 → toU64 F = F.toNat ∧ F.toNat ≤ th := by
  refine ⟨?_, ?_, ?_, toU64_of_nonneg (by omega) (by omega), fun F hF h0 => ⟨toU64_of_nonneg (by omega) (by omega), by omega⟩⟩
  · rw [toI32_ofNat_lt (by omega)]; exact wrap32_id (by omega) (by omega)
  · exact wrap32_id (by omega) (by omega)
  · exact wrap32_id (by omega) (by omega)

end I2PL
open I2PL

/-- Domain: `treeheight` as a `Nat` with `th ≤ 63` (the library's contract is `th ≤ 30`, `bitmapSizeCheck`).  The bound is
    what the model needs: for `th ≤ 63` the mask `0x100000001 << th` still has its low bit `th`, which reaches the low
    four bits after at most `min th 31` iterations, within the model's own fuel 64.  It also excludes the int32
    overflow of `treeheight + 1` (at `th = 2^31-1`), which the model's `fixed` does not wrap.  For `th ≥ 64` the mask is
    0, the Go loop then counts `index` down to 0 one by one (up to 2^31 iterations) while the model's `i2pLoop 64` stops
    after 64 iterations: the two differ there, e.g. `th = 64, index = 286`: generated (any fuel ≥ 231)
    `some 616327806720`, model `none` (outside the contract).
    `index`: ANY integer, no hypothesis (every int32 operation wraps in the same way on both sides; negative `index`
    and `index` beyond the table row give `none` = index-out-of-range panic on both sides).
    Fuel: every `fuel ≥ min th 31 + 1` (so `fuel ≥ 32` always suffices). -/
theorem Tie_bmtree_IndexToPath (th : Nat) (index : Int) (fuel : Nat) (hth : th ≤ 63) (hfuel : min th 31 + 1 ≤ fuel) :
    Gen.Ssa2.bmtree_IndexToPath fuel (th : Int) index = indexToPath th index := by
  have e0 : toU64 (th : Int) = th := toU64_ofNat_lt (by omega)
  rw [Gen.Ssa2.bmtree_IndexToPath, indexToPath]
  simp only [e0, shlU64_eq]
  by_cases h4 : th > 4
  · have h4' : ((th : Int) > 4) := by omega
    have hX : u32 (wrap32 (index - th)) ^^^ u32 index < 4294967296 :=
      Nat.xor_lt_two_pow (n := 32) (u32_lt _) (u32_lt _)
    have e5 : toU32 (xorI32 (subI32 index th) index) = u32 (wrap32 (index - th)) ^^^ u32 index := by
      rw [toU32, xorI32, u32_wrap32, u32_ofNat]
      exact Nat.mod_eq_of_lt hX
    simp only [h4, h4', decide_true, ↓reduceIte, e5]
    have hL31 := lz_lt (n := 32) (xor_ne_zero index (by omega : 0 < th) (by omega)) hX
    generalize hL : lz (u32 (wrap32 (index - th)) ^^^ u32 index) 32 = L at hL31 ⊢
    obtain ⟨e8, e9, e10, e13, hF'⟩ := fixed_arith hth hL31
    rw [leadingZeros32, hL]
    simp only [e8, e9, e10]
    clear e5 e8 e9 e10 hX hL
    by_cases hfix : (th : Int) + 1 - (32 - (L : Int)) > 0
    · simp only [hfix, decide_true, ↓reduceIte]
      generalize hF : (th : Int) + 1 - (32 - (L : Int)) = F at hfix ⊢
      obtain ⟨e30, hFth⟩ := hF' F hF hfix
      simp only [e13, e30, subU64_eq, notU64_eq]
      clear e13 e30 hF'
      have e22 : ∀ n : Nat, andI32 index (toI32 (n : Int)) = wrap32 ((u32 index &&& n % M32 : Nat) : Int) := by
        intro n; rw [andI32, toI32, u32_wrap32, u32_ofNat]
      have e26 : ∀ n : Nat, toU32 (wrap32 ((u32 index &&& n % M32 : Nat) : Int)) = u32 index &&& n % M32 := by
        intro n; rw [toU32, u32_wrap32, u32_ofNat]
        exact Nat.mod_eq_of_lt (Nat.lt_of_le_of_lt Nat.and_le_left (u32_lt _))
      have e28 : ∀ x : Nat, toI32 (onesCount32 x) = ((popc x 32 : Nat) : Int) := by
        intro x; exact toI32_ofNat_lt (by have := popc_le x 32; omega)
      have e29 : ∀ a b c : Int, addI32 (subI32 a b) c = wrap32 (a - b + c) := by
        intro a b c; rw [addI32, subI32, wrap32_wrap32_add]
      have e31 : shrU64 (shl64 4294967297 th) F.toNat = shl64 4294967297 th >>> F.toNat := shrU64_lt _ (by omega)
      simp only [e22, e26, e28, e29, e31, andU64_eq, orU64_eq, toU64]
      have hbit : (shl64 4294967297 th >>> F.toNat).testBit (th - F.toNat) = true := by
        rw [Nat.testBit_shiftRight, show F.toNat + (th - F.toNat) = th by omega]
        exact msk0_bit_lo (by omega)
      exact loop fuel _ _ (th - F.toNat) fuel 64 _ _ _ hbit (by omega) (by omega)
    · simp only [hfix, decide_false, Bool.false_eq_true, ↓reduceIte]
      exact loop fuel _ _ th fuel 64 index 0 _ (msk0_bit_lo (by omega)) (by omega) (by omega)
  · have h4' : ¬ ((th : Int) > 4) := by omega
    simp only [h4, h4', decide_false, Bool.false_eq_true, ↓reduceIte]
    exact loop fuel _ _ th fuel 64 index 0 _ (msk0_bit_lo (by omega)) (by omega) (by omega)

example : Gen.Ssa2.bmtree_IndexToPath 7 (6 : Int) 37 = some 68719476799 := by decide +kernel
example : indexToPath 6 37 = some 68719476799 := by decide +kernel
example : Gen.Ssa2.bmtree_IndexToPath 32 (30 : Int) 1000000 = some 2147441772068862 := by decide +kernel
example : Gen.Ssa2.bmtree_IndexToPath 32 (30 : Int) 1000000 = indexToPath 30 1000000 := Tie_bmtree_IndexToPath 30 1000000 32 (by omega) (by omega)
-- table index out of range: both sides panic
example : Gen.Ssa2.bmtree_IndexToPath 4 (3 : Int) 15 = none ∧ indexToPath 3 15 = none := by decide +kernel
example : Gen.Ssa2.bmtree_IndexToPath 2 (6 : Int) 37 = none := by decide +kernel

end Low
