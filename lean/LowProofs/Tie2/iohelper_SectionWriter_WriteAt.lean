import Generated.Ssa2.iohelper_SectionWriter_WriteAt
import LowProofs.Tie2.Lemmas
import LowProofs.Tie.iohelper_SectionWriter_Seek
import LowModel.Iohelper
/-
  Tie: the definition regenerated from the SSA form of `(*iohelper.SectionWriter).WriteAt` equals the hand-written
  model `SectionWriter.writeAt`.  The generated definition takes the receiver's fields `base`, `off`, `limit` (the
  method stores to none of them), the buffer `p`, the offset and the answer `ans` of the underlying `io.WriterAt`
  (external call, `GoSem2.extWriteAt`), and returns `(n, err, what was handed to the underlying writer)`.
  The model works with `len p` only (`plen`), and records the underlying call as `UCall = (offset, length)`.
-/
namespace Low
open Low.GoSem Low.Tie2L

/-- past the two guards (`0 ≤ off < wrap64 (limit - base)`) the remaining room `wrap64 (limit - wrap64 (off + base))`
    is exactly `wrap64 (limit - base) - off`, hence positive, whatever wrapped on the way: `p[0:max]` cannot panic -/
theorem WriteAt_room (base limit off : Int) (h0 : 0 ≤ off) (h1 : off < wrap64 (limit - base)) :
    wrap64 (limit - wrap64 (off + base)) = wrap64 (limit - base) - off := by
  have hlt := wrap64_lt (limit - base)
  rw [wrap64_sub_wrap64, show limit - (off + base) = limit - base - off by omega, ← wrap64_wrap64_sub]
  exact wrap64_id (by omega) (by omega)

/-- Domain: EVERY receiver state and every `off` (no range hypotheses: all `int64` sums wrap on both sides, and past
    the guards the room `max` is positive even if `limit - base` or `off + base` wrapped, see `WriteAt_room`), every
    buffer of a length that fits an `int` (`hp`: `convert int64 <- int (len p)` is the identity; always true in Go),
    every answer of the underlying writer.  Total: no panic. -/
theorem Tie_iohelper_SectionWriter_WriteAt (s : SectionWriter) (p : List Nat) (off : Int) (ans : UAns)
    (hp : p.length < 2^63) :
    Gen.Ssa2.iohelper_SectionWriter_WriteAt s.base s.off s.limit p off ⟨ans.accept, ans.fail⟩
      = some ((s.writeAt p.length off ans).1.n, ioErrId (s.writeAt p.length off ans).1.err,
              (s.writeAt p.length off ans).2.map (fun u => (u.off, (u.len : Int)))) := by
  rw [Gen.Ssa2.iohelper_SectionWriter_WriteAt, SectionWriter.writeAt]
  by_cases h0 : off < 0
  · simp [h0, ioErrId]
  · by_cases h1 : off ≥ wrap64 (s.limit - s.base)
    · simp [h0, h1, subI64, ioErrId]
    · have hroom := WriteAt_room s.base s.limit off (by omega) (by omega)
      have hlen : toI64 (len p) = (p.length : Int) := by rw [len_eq]; exact toI64_ofNat_lt (by omega)
      simp only [h0, h1, subI64, addI64, hlen, UAns.apply, GoSem2.extWriteAt, decide_false, Bool.false_eq_true,
        ↓reduceIte, or_self]
      generalize wrap64 (off + s.base) = off' at *
      by_cases h2 : (p.length : Int) > wrap64 (s.limit - off')
      · obtain ⟨m, hm⟩ : ∃ m : Nat, wrap64 (s.limit - off') = (m : Int) :=
          ⟨(wrap64 (s.limit - off')).toNat, by omega⟩
        rw [hm] at h2
        have hml : m ≤ p.length := by omega
        have hmin : min m p.length = m := by omega
        simp only [hm, h2, decide_true, ↓reduceIte, slice_zero_ofNat p hml, Option.bind_some, List.length_take, hmin,
          Int.toNat_natCast, len_eq, Option.map_some]
        generalize (ans.fail || decide (ans.accept < m)) = failed
        cases failed <;> simp [GoSem2.extErr, ioErrId]
      · simp only [h2, decide_false, Bool.false_eq_true, ↓reduceIte, len_eq, Option.map_some]
        by_cases hf : ans.fail = true <;> by_cases ha : ans.accept < p.length <;>
        simp [hf, ha, GoSem2.extErr, ioErrId]

example : Gen.Ssa2.iohelper_SectionWriter_WriteAt 10 12 20 [1, 2, 3, 4, 5, 6, 7, 8, 9, 10] 4 ⟨100, false⟩ = some (6, some "io.ErrShortWrite", some (14, 6)) := by decide +kernel
example : Gen.Ssa2.iohelper_SectionWriter_WriteAt 10 12 20 [1, 2, 3] 4 ⟨2, false⟩ = some (2, some "(error of the underlying writer)", some (14, 3)) := by decide +kernel
example : Gen.Ssa2.iohelper_SectionWriter_WriteAt 10 12 20 [1, 2, 3] 10 ⟨2, false⟩ = some (0, some "io.ErrShortWrite", none) := by decide +kernel
example : SectionWriter.writeAt ⟨10, 12, 20⟩ 10 4 ⟨100, false⟩ = (⟨6, some .shortWrite⟩, some ⟨14, 6⟩) := by decide +kernel
-- wrapped `limit - base` (here `-2^63 - (2^63 - 1)` wraps to `1`): still no panic
example : Gen.Ssa2.iohelper_SectionWriter_WriteAt 9223372036854775807 0 (-9223372036854775808) [1, 2] 0 ⟨5, false⟩ = some (1, some "io.ErrShortWrite", some (9223372036854775807, 1)) := by decide +kernel

end Low
