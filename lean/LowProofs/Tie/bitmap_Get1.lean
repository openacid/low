import Generated.Ssa.bitmap_Get1
import LowProofs.Tie.Lemmas
import LowModel.Bitmap.Get
/-
  Tie: the definition regenerated from the SSA form of `bitmap.Get1` equals the hand-written model `get1`.
-/
namespace Low
open Low.GoSem Low.TieL

/-- Domain: `i` any non-negative `int32` (the equation needs no bound on `i`; only `i < 2^31` is a Go value).
    Outside `i < 64 * len(bm)` both sides are `none` (panic). -/
theorem Tie_bitmap_Get1 (bm : List Nat) (i : Nat) :
    Gen.Ssa.bitmap_Get1 bm (i : Int) = get1 bm i := by
  have hj : i % 64 < 64 := Nat.mod_lt _ (by omega)
  rw [Gen.Ssa.bitmap_Get1]
  simp only [shrI32_6_ofNat, andI32_63_ofNat, index_ofNat, toU64_ofNat_lt (Nat.lt_trans hj (by omega)),
    shrU64_lt _ hj, andU64_eq, and_1]
  rfl

/-- Outside the model's domain: a negative position makes the Go function panic. -/
theorem Tie_bitmap_Get1_neg (bm : List Nat) (i : Int) (hi : i < 0) :
    Gen.Ssa.bitmap_Get1 bm i = none := by
  have h : shrI32 i 6 < 0 := by rw [shrI32_6]; omega
  rw [Gen.Ssa.bitmap_Get1]
  simp only [index_neg bm h]
  rfl

example : Gen.Ssa.bitmap_Get1 [5, 0x8000000000000000] 127 = some 1 := by decide +kernel
example : get1 [5, 0x8000000000000000] 127 = some 1 := by decide +kernel

end Low
