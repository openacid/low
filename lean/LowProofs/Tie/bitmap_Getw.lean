import Generated.Ssa.bitmap_Getw
import LowProofs.Tie.Lemmas
import LowModel.Bitmap.Get
/-
  Tie: the definition regenerated from the SSA form of `bitmap.Getw` equals the hand-written model `getw`.
-/
namespace Low
open Low.GoSem Low.TieL

/-- Domain: `w ≤ 64` (the Go function indexes `Mask[w]`, a `[65]uint64`; its documentation asks for
    `w ∈ {1,2,4,…,64}`) and `i * w` an `int32` (the Go code computes `i *= w` in `int32`).
    Outside `i * w < 64 * len(bm)` both sides are `none` (panic). -/
theorem Tie_bitmap_Getw (bm : List Nat) (i w : Nat) (hw : w ≤ 64) (hiw : i * w < 2^31) :
    Gen.Ssa.bitmap_Getw bm (i : Int) (w : Int) = getw bm i w := by
  have hmul : mulI32 (i : Int) (w : Int) = ((i * w : Nat) : Int) := by
    exact wrap32_ofNat (by omega)
  have hj : i * w % 64 < 64 := Nat.mod_lt _ (by omega)
  rw [Gen.Ssa.bitmap_Getw]
  simp only [hmul, shrI32_6_ofNat, andI32_63_ofNat, index_ofNat, toU64_ofNat_lt (Nat.lt_trans hj (by omega)),
    shrU64_lt _ hj, tblMask_ofNat (Nat.lt_succ_of_le hw), andU64_eq]
  rfl

example : Gen.Ssa.bitmap_Getw [0x0123456789abcdef, 0xfedcba9876543210] 5 16 = some 0x7654 := by decide +kernel
example : getw [0x0123456789abcdef, 0xfedcba9876543210] 5 16 = some 0x7654 := by decide +kernel

end Low
