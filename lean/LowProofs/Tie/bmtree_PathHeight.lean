import Generated.Ssa.bmtree_PathHeight
import LowProofs.Tie.Bmtree
import LowModel.Bmtree.Path
/-
  Tie: the definition regenerated from the SSA form of `bmtree.PathHeight` equals the hand-written model
  `pathHeight`.
-/
namespace Low

/-- Domain: every `path` (the equation does not even need `path < 2^64`).  Total: no panic. -/
theorem Tie_bmtree_PathHeight (p : Nat) : Gen.Ssa.bmtree_PathHeight p = ((pathHeight p : Nat) : Int) :=
  TieBm.pathHeight_body p

example : Gen.Ssa.bmtree_PathHeight 0x5_0000000e = 4 := by decide +kernel
example : pathHeight 0x5_0000000e = 4 := by decide +kernel

end Low
