import LowProofs.Tie.Bmtree
import LowProofs.Props.C04
/-
  `bmtree.Decode` for both builds: the facts about the MODEL that the loop needs come from the property proofs C03 / C04
  (every `p ∈ allPaths t 0 (2^63)` is the path word of a stored node), and the function around the loop is proved with the result of
  the `AllPaths` call, the `PathToIndex` call and the loop as parameters (`decode_body`).
-/
namespace Low.TieBm
open Low.GoSem3 Low.Tie3L

/-- what the property proofs C03 / C04 say about the paths `Decode` walks over; the middle fact (`C04_decode_debug_safe`) is
    that no contract of the debug build fires on them -/
theorem paths_facts {t : Nat} (ht : 1 ≤ t) (ht' : t < 2^31) :
    (allPaths t 0 (2^63)).length = t ∧
    ∀ p ∈ allPaths t 0 (2^63), p < 2^64 ∧ pathToIndexDebug t p = some (pathToIndex t p) ∧
      ∃ idx : Nat, pathToIndex t p = (idx : Int) := by
  obtain ⟨h, hh, _, _, _⟩ := height_nat30 ht ht'
  constructor
  · rw [C04_allPaths_all t h (2^63) ht ht' hh (by decide) (by decide), storedPaths, List.length_map]
    exact C03_preorder_length t h ht ht' hh
  · intro p hp
    obtain ⟨⟨n, hn, hs, rfl⟩, _, hlt⟩ := (C04_allPaths_mem t h 0 (2^63) p ht ht' hh (by decide)).mp hp
    exact ⟨by omega, C04_decode_debug_safe t h _ ht ht' hh hp, preIdx t 0 n, C03_strict t h n ht ht' hh hn hs⟩

/-- `Decode` after its call `AP` of `AllPaths(bitmapSize, 0, 1<<63)`: the `range` loop `L paths` over the result, with the
    call `P` of `PathToIndex` inside.  `P` need only be right on path words on which no debug contract fires (the release
    tie does not use that hypothesis).  Fuel: the loop visits the `t` stored paths (`t + 1`). -/
theorem decode_body (t : Nat) (bm : List Nat) (fuel : Nat) (AP : Option (List Nat)) (P : Nat → Option Int)
    (L : List Nat → Nat → List Nat → Int → Option (List Nat)) (ht : 1 ≤ t) (ht' : t < 2^31) (hbm : bm.length < 2^31)
    (hfuel : t + 1 ≤ fuel) (hAP : AP = some (allPaths t 0 (2^63))) (hL : ∀ paths, DecodeStep bm paths P (L paths))
    (hP : ∀ p, p < 2^64 → pathToIndexDebug t p = some (pathToIndex t p) → P p = some (pathToIndex t p)) :
    (Option.bind AP fun t2 => L t2 fuel (newArray (0 : Nat) 0) (-1)) = some (decode t bm) := by
  obtain ⟨hlen, hp⟩ := paths_facts ht ht'
  have hdec : decode t bm = (allPaths t 0 (2^63)).filter (fun p => bitAt bm (pathToIndex t p).toNat) := by
    apply List.filter_congr
    intro p hpm
    obtain ⟨_, _, idx, hidx⟩ := hp p hpm
    rw [decode_pred' t bm p idx hidx, hidx, Int.toNat_natCast]
  have hloop := decode_loop t bm (allPaths t 0 (2^63)) P (L (allPaths t 0 (2^63))) (hL _) hbm (by omega)
    (fun p hpm => by
      obtain ⟨hp64, hdbg, hidx⟩ := hp p hpm
      exact ⟨hP p hp64 hdbg, hidx⟩)
    (allPaths t 0 (2^63)) 0 fuel [] (-1) rfl addI64_neg_one_one (by omega)
  rw [hAP, Option.bind_some, hdec, newArray_zero, hloop, List.nil_append]

end Low.TieBm
