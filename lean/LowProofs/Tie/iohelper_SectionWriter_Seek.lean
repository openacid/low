import Generated.Ssa.iohelper_SectionWriter_Seek
import LowProofs.Tie.Lemmas
import LowModel.Iohelper
/-
  Tie: the definition regenerated from the SSA form of `(*iohelper.SectionWriter).Seek` equals the hand-written
  model `SectionWriter.seek`.  The generated definition takes the receiver's fields `base`, `off`, `limit` and
  returns `(result, error, final value of off)`: `off` is the only field the method stores to, so `base` and `limit`
  are unchanged by construction of the translation (and in the model: second conjunct).
-/
namespace Low
open Low.GoSem

/-- the identity of the Go error value that the model's error enum stands for (`GoSem.Err`) -/
def ioErrId : Option IoErr → GoSem.Err
  | none => none
  | some .whence => some "iohelper.errWhence"
  | some .offset => some "iohelper.errOffset"
  | some .shortWrite => some "io.ErrShortWrite"
  | some .underlying => some "(error of the underlying writer)"

/-- Domain: every receiver state, every `offset : int64`, every `whence : int` (all `int64` sums wrap on both
    sides).  Total: no panic. -/
theorem Tie_iohelper_SectionWriter_Seek (s : SectionWriter) (offset whence : Int) :
    Gen.Ssa.iohelper_SectionWriter_Seek s.base s.off s.limit offset whence
      = ((s.seek offset whence).2.n, ioErrId (s.seek offset whence).2.err, (s.seek offset whence).1.off)
    ∧ (s.seek offset whence).1.base = s.base ∧ (s.seek offset whence).1.limit = s.limit := by
  rw [Gen.Ssa.iohelper_SectionWriter_Seek, SectionWriter.seek]
  simp only [addI64, subI64]
  by_cases h0 : whence = 0
  · by_cases hb : wrap64 (offset + s.base) < s.base <;> simp [h0, hb, ioErrId]
  · by_cases h1 : whence = 1
    · by_cases hb : wrap64 (offset + s.off) < s.base <;> simp [h1, hb, ioErrId]
    · by_cases h2 : whence = 2
      · by_cases hb : wrap64 (offset + s.limit) < s.base <;> simp [h2, hb, ioErrId]
      · simp [h0, h1, h2, ioErrId]

example : Gen.Ssa.iohelper_SectionWriter_Seek 10 12 110 5 1 = (7, none, 17) := by decide +kernel
example : Gen.Ssa.iohelper_SectionWriter_Seek 10 12 110 (-5) 0 = (0, some "iohelper.errOffset", 12) := by decide +kernel
example : Gen.Ssa.iohelper_SectionWriter_Seek 10 12 110 5 3 = (0, some "iohelper.errWhence", 12) := by decide +kernel

end Low
