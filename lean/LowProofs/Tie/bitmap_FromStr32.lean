import Generated.Ssa.bitmap_FromStr32
import LowProofs.Tie.Lemmas
import LowModel.Bitmap.FromStr32
/-
  Tie: the definition regenerated from the SSA form of `bitmap.FromStr32` equals the hand-written model
  `fromStr32`.
-/
namespace Low
open Low.GoSem Low.TieL

/-- The unrolled five-byte gather of `FromStr32` with the byte limit `l` and the continuation `k` left abstract:
    the nested `if`s read byte `i + j` only while `i + j < l`, so they compute the model's guarded `|||`. -/
theorem gather5 {α : Type} (s : List Nat) (hbytes : ∀ b ∈ s, b < 256) (i l : Nat) (hl : l ≤ s.length)
    (k : Nat → Option α) :
    (if (i : Int) < l then
      (index s i).bind fun b0 =>
        if ((i + 1 : Nat) : Int) < l then
          (index s (i + 1 : Nat)).bind fun b1 =>
            if ((i + 2 : Nat) : Int) < l then
              (index s (i + 2 : Nat)).bind fun b2 =>
                if ((i + 3 : Nat) : Int) < l then
                  (index s (i + 3 : Nat)).bind fun b3 =>
                    if ((i + 4 : Nat) : Int) < l then
                      (index s (i + 4 : Nat)).bind fun b4 =>
                        k (orU64 (orU64 (orU64 (orU64 (orU64 0 (shlU64 (toU64 b0) 32)) (shlU64 (toU64 b1) 24))
                          (shlU64 (toU64 b2) 16)) (shlU64 (toU64 b3) 8)) (toU64 b4))
                    else k (orU64 (orU64 (orU64 (orU64 0 (shlU64 (toU64 b0) 32)) (shlU64 (toU64 b1) 24))
                          (shlU64 (toU64 b2) 16)) (shlU64 (toU64 b3) 8))
                else k (orU64 (orU64 (orU64 0 (shlU64 (toU64 b0) 32)) (shlU64 (toU64 b1) 24)) (shlU64 (toU64 b2) 16))
            else k (orU64 (orU64 0 (shlU64 (toU64 b0) 32)) (shlU64 (toU64 b1) 24))
        else k (orU64 0 (shlU64 (toU64 b0) 32))
    else k 0)
    = k ((if i < l then s.getD i 0 <<< 32 else 0) ||| (if i + 1 < l then s.getD (i + 1) 0 <<< 24 else 0)
        ||| (if i + 2 < l then s.getD (i + 2) 0 <<< 16 else 0) ||| (if i + 3 < l then s.getD (i + 3) 0 <<< 8 else 0)
        ||| (if i + 4 < l then s.getD (i + 4) 0 <<< 0 else 0)) := by
  have hget : ∀ k, toU64 ((s.getD k 0 : Nat) : Int) = s.getD k 0 := fun k =>
    toU64_ofNat_lt (Nat.lt_trans (getD_lt hbytes k) (by decide))
  have hshl : ∀ k sh, sh ≤ 32 → shlU64 (s.getD k 0) sh = s.getD k 0 <<< sh := fun k sh h => by
    exact shl64_byte (getD_lt hbytes k) h
  have hcases : l ≤ i ∨ l = i + 1 ∨ l = i + 2 ∨ l = i + 3 ∨ l = i + 4 ∨ i + 5 ≤ l := by omega
  rcases hcases with h | h | h | h | h | h <;>
    simp (disch := omega) only [↓if_pos, ↓if_neg, index_getD, Option.bind_some, hget, hshl, orU64_eq,
      Nat.zero_or, Nat.or_zero, Nat.shiftLeft_zero]

/-- the result pair: `A` = the available length (an `int32`, possibly negative), `n` = the requested width, `w` = the
    gathered word; code and model branch on the same two conditions -/
theorem blen_select (A : Int) (n w : Nat) :
    (if A > (n : Int) then (if (n : Int) ≤ 0 then some ((0 : Int), (0 : Nat)) else some ((n : Int), w))
      else if A ≤ 0 then some ((0 : Int), (0 : Nat)) else some (A, w))
    = (let blen : Int := if A > (n : Int) then (n : Int) else A
       let r : Nat × Nat := if blen ≤ 0 then (0, 0) else (blen.toNat, w)
       some ((r.1 : Int), r.2)) := by
  by_cases c1 : A > (n : Int)
  · simp only [if_pos c1]
    by_cases c2 : (n : Int) ≤ 0
    · simp only [if_pos c2]; rfl
    · simp only [if_neg c2, Int.toNat_natCast]
  · simp only [if_neg c1]
    by_cases c2 : A ≤ 0
    · simp only [if_pos c2]; rfl
    · simp only [if_neg c2, Int.toNat_of_nonneg (Int.le_of_lt (Int.not_le.1 c2))]

/-- Domain: `0 ≤ frombit ≤ tobit` (the model's domain), `tobit - frombit ≤ 32` (the documented contract of
    `FromStr32`; it also keeps `Mask[size]` in range and `40 - spanSize` positive), `tobit + 7` an `int32`,
    `len(s) < 2^28` so that `int32(len(s) << 3)` does not overflow (the project's bound for FromStr32 strings),
    and `s` a string, i.e. every element a byte.  `= some …`: no panic on the domain (every `s[i]` read is
    guarded by `i < l ≤ len(s)`). -/
theorem Tie_bitmap_FromStr32 (s : List Nat) (f t : Nat)
    (hft : f ≤ t) (hsize : t - f ≤ 32) (ht : t + 7 < 2^31) (hlen : s.length < 2^28) (hbytes : ∀ b ∈ s, b < 256) :
    Gen.Ssa.bitmap_FromStr32 s (f : Int) (t : Int)
      = some (((fromStr32 s f t).1 : Int), (fromStr32 s f t).2) := by
  -- arithmetic side conditions first (small context for `omega`)
  have a1 : t < 2147483648 := by omega
  have a2 : f < 2147483648 := by omega
  have a3 : f / 8 * 8 ≤ t := by omega
  have a4 : t - f / 8 * 8 ≤ 40 := by omega
  have a5 : t + 7 < 2147483648 := by omega
  have a6 : f / 8 + 1 < 2147483648 := by omega
  have a7 : f / 8 + 1 + 1 < 2147483648 := by omega
  have a8 : f / 8 + 2 + 1 < 2147483648 := by omega
  have a9 : f / 8 + 3 + 1 < 2147483648 := by omega
  have a10 : t - f < 65 := by omega
  have a11 : 40 - (t - f / 8 * 8) < 18446744073709551616 := by omega
  have a12 : s.length < 2147483648 := by omega
  have h4 : shlI64 (len s) 3 = (s.length : Int) * 8 := by
    rw [len]; exact wrap64_id (by omega) (by omega)
  have h5 : toI32 ((s.length : Int) * 8) = (s.length : Int) * 8 := by
    exact wrap32_id (by omega) (by omega)
  have h6 : subI32 ((s.length : Int) * 8) (f : Int) = (s.length : Int) * 8 - (f : Int) := by
    exact wrap32_id (by omega) (by omega)
  have h11 : toI32 (len s) = (s.length : Int) := by rw [len]; exact toI32_ofNat_lt a12
  have h12 : addI32 (t : Int) 7 = ((t + 7 : Nat) : Int) := addI32_ofNat (a := t) (b := 7) a5
  have h25 : subI32 40 ((t - f / 8 * 8 : Nat) : Int) = ((40 - (t - f / 8 * 8) : Nat) : Int) :=
    subI32_ofNat (a := 40) a4 (by decide)
  have ha1 : addI32 ((f / 8 : Nat) : Int) 1 = ((f / 8 + 1 : Nat) : Int) := addI32_ofNat (b := 1) a6
  have ha2 : addI32 ((f / 8 + 1 : Nat) : Int) 1 = ((f / 8 + 2 : Nat) : Int) := addI32_ofNat (b := 1) a7
  have ha3 : addI32 ((f / 8 + 2 : Nat) : Int) 1 = ((f / 8 + 3 : Nat) : Int) := addI32_ofNat (b := 1) a8
  have ha4 : addI32 ((f / 8 + 3 : Nat) : Int) 1 = ((f / 8 + 4 : Nat) : Int) := addI32_ofNat (b := 1) a9
  rw [Gen.Ssa.bitmap_FromStr32]
  simp only [subI32_ofNat hft a1, andI32_neg8_ofNat a2, subI32_ofNat a3 a1, h4, h5, h6, h11, h12, shrI32_3_ofNat, h25,
    toU64_ofNat_lt a11, tblMask_ofNat a10, Option.bind_some, shrU64_eq, andU64_eq,
    ha1, ha2, ha3, ha4, decide_eq_true_eq]
  -- the `Int` equations must be gone before the next `omega` (PROOF_NOTES.md, kernel deep recursion)
  clear h4 h5 h6 h11 h12 h25 ha1 ha2 ha3 ha4
  -- both sides branch on the same three conditions; below them the code is `gather5`
  have g := fun (l : Nat) (hl : l ≤ s.length) (b : Int) => gather5 s hbytes (f / 8) l hl
    (fun w => some (b, shr64 w (40 - (t - f / 8 * 8)) &&& mask (t - f)))
  have g1 := g ((t + 7) / 8)
  have g2 := g s.length (Nat.le_refl _)
  simp only [fromStr32]
  by_cases c3 : s.length > (t + 7) / 8
  · have c3' : (s.length : Int) > (((t + 7) / 8 : Nat) : Int) := by omega
    simp only [if_pos c3, if_pos c3', g1 (by omega)]
    exact blen_select _ _ _
  · have c3' : ¬ (s.length : Int) > (((t + 7) / 8 : Nat) : Int) := by omega
    simp only [if_neg c3, if_neg c3', g2]
    exact blen_select _ _ _

example : Gen.Ssa.bitmap_FromStr32 [0x61, 0x62, 0x63] 5 12 = some (7, 0x16) := by decide
example : fromStr32 [0x61, 0x62, 0x63] 5 12 = (7, 0x16) := by decide
example : Gen.Ssa.bitmap_FromStr32 [0x61, 0x62, 0x63] 20 40 = some (4, 0x30000) := by decide

end Low
