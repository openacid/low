import Generated.Ssa.iohelper_SectionWriter_Size
import LowProofs.Tie.Lemmas
import LowModel.Iohelper
/-
  Tie: the definition regenerated from the SSA form of `(*iohelper.SectionWriter).Size` equals the hand-written
  model `SectionWriter.size`.  The generated definition takes the receiver's fields `base`, `off`, `limit`.
-/
namespace Low
open Low.GoSem

/-- Domain: every receiver state (the `int64` subtraction wraps on both sides).  Total: no panic; the method
    stores to no field (the generated definition returns only the result). -/
theorem Tie_iohelper_SectionWriter_Size (s : SectionWriter) :
    Gen.Ssa.iohelper_SectionWriter_Size s.base s.off s.limit = s.size := by
  rw [Gen.Ssa.iohelper_SectionWriter_Size, SectionWriter.size, subI64]

example : Gen.Ssa.iohelper_SectionWriter_Size 10 12 110 = 100 := by decide +kernel

end Low
