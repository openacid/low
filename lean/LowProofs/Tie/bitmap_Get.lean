import Generated.Ssa.bitmap_Get
import LowProofs.Tie.Lemmas
import LowModel.Bitmap.Get
/-
  Tie: the definition regenerated from the SSA form of `bitmap.Get` equals the hand-written model `get`.
-/
namespace Low
open Low.GoSem Low.TieL

/-- Domain: `i` any non-negative `int32` (the equation needs no bound on `i`; only `i < 2^31` is a Go value).
    No hypothesis on `bm`: outside `i < 64 * len(bm)` both sides are `none` (the Go function panics, index out
    of range). -/
theorem Tie_bitmap_Get (bm : List Nat) (i : Nat) :
    Gen.Ssa.bitmap_Get bm (i : Int) = get bm i := by
  have hj : i % 64 < 64 := Nat.mod_lt _ (by omega)
  rw [Gen.Ssa.bitmap_Get]
  simp only [shrI32_6_ofNat, andI32_63_ofNat, index_ofNat, tblBit_ofNat hj, andU64_eq]
  rfl

/-- Outside the model's domain: a negative position makes the Go function panic. -/
theorem Tie_bitmap_Get_neg (bm : List Nat) (i : Int) (hi : i < 0) :
    Gen.Ssa.bitmap_Get bm i = none := by
  have h : shrI32 i 6 < 0 := by rw [shrI32_6]; omega
  rw [Gen.Ssa.bitmap_Get]
  simp only [index_neg bm h]
  rfl

example : Gen.Ssa.bitmap_Get [5, 0x8000000000000000] 127 = some 0x8000000000000000 := by decide +kernel
example : get [5, 0x8000000000000000] 127 = some 0x8000000000000000 := by decide +kernel

end Low
