import Generated.Ssa.bitmap_Rank64
import LowProofs.Tie.Lemmas
import LowModel.Bitmap.Rank
/-
  Tie: the definition regenerated from the SSA form of `bitmap.Rank64` equals the hand-written model `rank64`.
-/
namespace Low
open Low.GoSem Low.TieL

/-- Domain: `i` any non-negative `int32`; every index entry `n` satisfies `n + 64 ≤ 2^31`, so that the `int32`
    sum `n + OnesCount64(…)` cannot overflow (true for every index built by `IndexRank64` over fewer than `2^25`
    words, the project's `BmDom`: entries are at most `64 * len(words) ≤ 2^31 - 64`).
    No hypothesis on `ws`, on the lengths or on `i < 64 * len(ws)`: where the Go function panics (index out of
    range in `rindex` or `words`) both sides are `none`.  The equation does not need `w < 2^64` for the words. -/
theorem Tie_bitmap_Rank64 (ws idx : List Nat) (i : Nat) (hidx : ∀ n ∈ idx, n + 64 ≤ 2^31) :
    Gen.Ssa.bitmap_Rank64 ws (idx.map Int.ofNat) (i : Int)
      = (rank64 ws idx i).map (fun p => ((p.1 : Int), (p.2 : Int))) := by
  have hj : i % 64 < 64 := Nat.mod_lt _ (by omega)
  rw [Gen.Ssa.bitmap_Rank64, rank64]
  simp only [shrI32_6_ofNat, andI32_63_ofNat, index_ofNat, toU32_ofNat_lt (Nat.lt_trans hj (by omega)),
    toU64_ofNat_lt (Nat.lt_trans hj (by omega)), tblMask_ofNat (Nat.lt_trans hj (by omega)), shrU64_lt _ hj,
    andU64_eq, List.getElem?_map]
  cases hn : idx[i / 64]? with
  | none => rfl
  | some n =>
    cases hw : ws[i / 64]? with
    | none => rfl
    | some w =>
      have hn' : n + 64 ≤ 2^31 := hidx n (List.mem_of_getElem? hn)
      have hp := popc_and_mask_le w (i % 64)
      have hs : addI32 (Int.ofNat n) ((popc (w &&& mask (i % 64)) 64 : Nat) : Int)
          = ((n + popc (w &&& mask (i % 64)) 64 : Nat) : Int) := by
        exact wrap32_ofNat (by omega)
      simp only [Option.map_some, Option.bind_some, toI32_popc64, hs, andI32_toI32_one]
      rfl

example : Gen.Ssa.bitmap_Rank64 [0xff, 0x5] ([0, 8].map Int.ofNat) 66 = some (9, 1) := by decide +kernel
example : rank64 [0xff, 0x5] [0, 8] 66 = some (9, 1) := by decide +kernel

end Low
