import LowModel.GoSem
import LowProofs.Lemmas.Wrap
import LowProofs.Lemmas.Count
/-
  Helper lemmas for the tie proofs (imported by Tie2/Lemmas.lean and, directly, by files of Tie, Tie7, Tie8): what the
  `GoSem` operations compute on in-range arguments, in terms of plain `Nat` / `Int` arithmetic; the guarded word
  read of `SafeGet`/`SafeGet1` (`safe_word`).
-/
namespace Low.TieL
open Low.GoSem

theorem wrap32_ofNat_mod_two (n : Nat) : wrap32 (n : Int) % 2 = ((n % 2 : Nat) : Int) := by
  unfold wrap32; simp only [M32]; omega

/-! Unfolding lemmas for the unsigned operations, as theorems and not `rfl` steps (PROOF_NOTES.md, kernel deep
  recursion). -/
theorem andU64_eq (x y : Nat) : andU64 x y = x &&& y := by rw [andU64]
theorem orU64_eq (x y : Nat) : orU64 x y = x ||| y := by rw [orU64]
theorem xorU64_eq (x y : Nat) : xorU64 x y = x ^^^ y := by rw [xorU64]
theorem subU64_eq (x y : Nat) : subU64 x y = sub64 x y := by rw [subU64]
theorem notU64_eq (x : Nat) : notU64 x = not64 x := by rw [notU64]
theorem shlU64_eq (x s : Nat) : shlU64 x s = shl64 x s := by rw [shlU64]
theorem shrU64_eq (x s : Nat) : shrU64 x s = shr64 x s := by rw [shrU64]
theorem shrU64_lt (x : Nat) {s : Nat} (h : s < 64) : shrU64 x s = x >>> s := by rw [shrU64, shr64, if_pos h]
theorem toU64_ofNat_lt {n : Nat} (h : n < 18446744073709551616) : toU64 (n : Int) = n := by
  exact u64_ofNat_lt h
theorem toU64_of_nonneg {x : Int} (h0 : 0 ≤ x) (h : x < 18446744073709551616) : toU64 x = x.toNat :=
  u64_of_nonneg h0 h
theorem toU8_ofNat (n : Nat) : toU8 (n : Int) = n % 256 := by
  unfold toU8; simp only [M8]; omega
theorem toU32_ofNat_lt {n : Nat} (h : n < 4294967296) : toU32 (n : Int) = n := by
  exact u32_ofNat_lt h
theorem toI32_ofNat_lt {n : Nat} (h : n < 2147483648) : toI32 (n : Int) = n := by
  exact wrap32_ofNat h

theorem lz_le (w n : Nat) : lz w n ≤ n := by unfold lz; omega

theorem lz_lt {w n : Nat} (h0 : w ≠ 0) (h : w < 2 ^ n) : lz w n < n := by
  have h1 := (bitLen_range h0 n h).1
  have h2 := bitLen_le w n
  unfold lz; omega

theorem index_ofNat {α : Type} (xs : List α) (k : Nat) : index xs (k : Int) = xs[k]? := by
  unfold index; simp; omega

theorem index_neg {α : Type} (xs : List α) {k : Int} (h : k < 0) : index xs k = none := by
  unfold index; simp [h]

theorem index_toNat {α : Type} (xs : List α) {k : Int} (h : 0 ≤ k) : index xs k = xs[k.toNat]? := by
  unfold index; simp; omega

theorem tbl_ofNat {n : Nat} {f : Nat → Nat} {k : Nat} (h : k < n) : tbl n f (k : Int) = some (f k) := by
  unfold tbl; simp; omega

theorem tblMask_ofNat {k : Nat} (h : k < 65) : tblMask (k : Int) = some (mask k) := tbl_ofNat h
theorem tblBit_ofNat {k : Nat} (h : k < 64) : tblBit (k : Int) = some (bit k) := tbl_ofNat h

theorem shrI32_ofNat (n s : Nat) : shrI32 (n : Int) s = ((n >>> s : Nat) : Int) := by
  rfl

theorem shrI32_eq_div (x : Int) (s : Nat) : shrI32 x s = x / ((2 ^ s : Nat) : Int) := by
  exact Int.shiftRight_eq_div_pow x s

theorem shrI32_6 (x : Int) : shrI32 x 6 = x / 64 := by rw [shrI32_eq_div]; rfl
theorem shrI32_7 (x : Int) : shrI32 x 7 = x / 128 := by rw [shrI32_eq_div]; rfl
theorem shrI32_3 (x : Int) : shrI32 x 3 = x / 8 := by rw [shrI32_eq_div]; rfl
theorem shrI32_6_ofNat (n : Nat) : shrI32 (n : Int) 6 = ((n / 64 : Nat) : Int) := by rw [shrI32_ofNat, Nat.shiftRight_eq_div_pow]
theorem shrI32_7_ofNat (n : Nat) : shrI32 (n : Int) 7 = ((n / 128 : Nat) : Int) := by rw [shrI32_ofNat, Nat.shiftRight_eq_div_pow]
theorem shrI32_3_ofNat (n : Nat) : shrI32 (n : Int) 3 = ((n / 8 : Nat) : Int) := by rw [shrI32_ofNat, Nat.shiftRight_eq_div_pow]

theorem andI32_ofNat {a b : Nat} (ha : a < 2147483648) (hb : b < 2147483648) :
    andI32 (a : Int) (b : Int) = ((a &&& b : Nat) : Int) := by
  unfold andI32
  rw [u32_ofNat_lt (by omega), u32_ofNat_lt (by omega)]
  apply wrap32_ofNat
  have : a &&& b ≤ a := Nat.and_le_left
  omega

theorem toI32_tz64 (w : Nat) : toI32 (trailingZeros64 w) = ((tz w 64 : Nat) : Int) := by
  exact toI32_ofNat_lt (by have := tz_le 64 w; omega)

theorem toI32_lz64 (w : Nat) : toI32 (leadingZeros64 w) = ((lz w 64 : Nat) : Int) := by
  exact toI32_ofNat_lt (by have := lz_le w 64; omega)

theorem toI32_popc64 (w : Nat) : toI32 (onesCount64 w) = ((popc w 64 : Nat) : Int) := by
  exact toI32_ofNat_lt (by have := popc_le w 64; omega)

/-- the ones of a word below bit `j`: at most `j` of them (`Rank64`, `Rank128`) -/
theorem popc_and_mask_le (w j : Nat) : popc (w &&& mask j) 64 ≤ j := by
  rw [popc_and_mask]; exact Nat.le_trans (popc_le _ _) (Nat.min_le_right _ _)

/-- `SafeGet` / `SafeGet1`: a word index `i >> 6` outside `0 … len(bm)-1` gives 0 without reading; inside, the word
    is read and the rest of the code (`F`, which computes `G` of the word) runs -/
theorem safe_word (bm : List Nat) (i : Int) (hlen : bm.length < 2^31) (F : Nat → Option Nat) (G : Nat → Nat)
    (hF : ∀ w, F w = some (G w)) :
    (if decide (shrI32 i 6 < 0) = true then some 0
      else if decide (shrI32 i 6 ≥ toI32 (len bm)) = true then some 0 else (index bm (shrI32 i 6)).bind F)
      = some (if i / 64 < 0 ∨ i / 64 ≥ bm.length then 0 else G (bm.getD (i / 64).toNat 0)) := by
  have hl : toI32 (len bm) = (bm.length : Int) := by rw [len]; exact toI32_ofNat_lt (by omega)
  rw [shrI32_6, hl]
  by_cases h1 : i / 64 < 0
  · simp only [h1, decide_true, if_true, true_or]
  · by_cases h2 : i / 64 ≥ (bm.length : Int)
    · simp only [h1, h2, decide_true, decide_false, if_true, or_true]; rfl
    · have hw : index bm (i / 64) = some (bm.getD (i / 64).toNat 0) := by
        rw [index_toNat bm (by omega), List.getD_eq_getElem?_getD, List.getElem?_eq_getElem (by omega)]; rfl
      simp only [h1, h2, decide_false, hw, Option.bind_some, hF, or_self, if_false]
      rfl

theorem mulI32_natCast (a b : Nat) : mulI32 (a : Int) (b : Int) = wrap32 ((a * b : Nat) : Int) := by
  rw [mulI32, Int.natCast_mul]

theorem and_1 (n : Nat) : n &&& 1 = n % 2 := Nat.and_two_pow_sub_one_eq_mod n 1

theorem and_low_toNat (x : Int) {k w : Nat} (hk : k ≤ w) :
    (x % ((2 ^ w : Nat) : Int)).toNat &&& (2 ^ k - 1) = (x % ((2 ^ k : Nat) : Int)).toNat := by
  have hw : (0 : Int) < ((2 ^ w : Nat) : Int) := Int.natCast_pos.2 (Nat.two_pow_pos w)
  have h0 : 0 ≤ x % ((2 ^ w : Nat) : Int) := Int.emod_nonneg _ (Int.ne_of_gt hw)
  have hd : ((2 ^ k : Nat) : Int) ∣ ((2 ^ w : Nat) : Int) := Int.natCast_dvd_natCast.2 (Nat.pow_dvd_pow 2 hk)
  rw [Nat.and_two_pow_sub_one_eq_mod, ← Int.emod_emod_of_dvd x hd]
  generalize x % ((2 ^ w : Nat) : Int) = y at h0
  obtain ⟨n, rfl⟩ := Int.eq_ofNat_of_zero_le h0
  rw [Int.toNat_natCast, ← Int.natCast_emod, Int.toNat_natCast]

theorem andI32_low (x : Int) (k : Nat) (hk : k ≤ 31) :
    andI32 x ((2 ^ k - 1 : Nat) : Int) = x % ((2 ^ k : Nat) : Int) := by
  have hk2 : (2 : Nat) ^ k ≤ 2 ^ 31 := Nat.pow_le_pow_right (by omega) hk
  have hp : 0 < (2 : Nat) ^ k := Nat.two_pow_pos k
  have hm : u32 ((2 ^ k - 1 : Nat) : Int) = 2 ^ k - 1 := u32_ofNat_lt (by omega)
  have h0 : 0 ≤ x % ((2 ^ k : Nat) : Int) := Int.emod_nonneg _ (by omega)
  rw [andI32, hm, u32, show (M32 : Int) = ((2 ^ 32 : Nat) : Int) from rfl, and_low_toNat x (by omega : k ≤ 32),
    Int.toNat_of_nonneg h0]
  exact wrap32_id (by omega) (by omega)

theorem andI64_low (x : Int) (k : Nat) (hk : k ≤ 63) :
    andI64 x ((2 ^ k - 1 : Nat) : Int) = x % ((2 ^ k : Nat) : Int) := by
  have hk2 : (2 : Nat) ^ k ≤ 2 ^ 63 := Nat.pow_le_pow_right (by omega) hk
  have hp : 0 < (2 : Nat) ^ k := Nat.two_pow_pos k
  have hm : u64 ((2 ^ k - 1 : Nat) : Int) = 2 ^ k - 1 := u64_ofNat_lt (by omega)
  have h0 : 0 ≤ x % ((2 ^ k : Nat) : Int) := Int.emod_nonneg _ (by omega)
  rw [andI64, hm, u64, show (M64 : Int) = ((2 ^ 64 : Nat) : Int) from rfl, and_low_toNat x (by omega : k ≤ 64),
    Int.toNat_of_nonneg h0]
  exact wrap64_id (by omega) (by omega)

theorem andI32_63 (x : Int) : andI32 x 63 = x % 64 := andI32_low x 6 (by decide)
theorem andI32_31 (x : Int) : andI32 x 31 = x % 32 := andI32_low x 5 (by decide)
theorem andI32_7 (x : Int) : andI32 x 7 = x % 8 := andI32_low x 3 (by decide)
theorem andI32_1 (x : Int) : andI32 x 1 = x % 2 := andI32_low x 1 (by decide)
theorem andI64_63 (x : Int) : andI64 x 63 = x % 64 := andI64_low x 6 (by decide)
theorem andI64_31 (x : Int) : andI64 x 31 = x % 32 := andI64_low x 5 (by decide)
theorem andI64_7 (x : Int) : andI64 x 7 = x % 8 := andI64_low x 3 (by decide)
theorem andI64_1 (x : Int) : andI64 x 1 = x % 2 := andI64_low x 1 (by decide)

theorem andI32_toI32_one (x : Nat) : andI32 (toI32 (x : Int)) 1 = ((x % 2 : Nat) : Int) := by
  rw [andI32_1, toI32, wrap32_ofNat_mod_two]

theorem andI32_63_ofNat (n : Nat) : andI32 (n : Int) 63 = ((n % 64 : Nat) : Int) := by
  rw [andI32_63]; omega

theorem and_negPow {n w k : Nat} (h : n < 2 ^ w) (hk : k ≤ w) : n &&& (2 ^ w - 2 ^ k) = n / 2 ^ k * 2 ^ k := by
  have e : 2 ^ w - 2 ^ k = (2 ^ (w - k) - 1) <<< k := by
    rw [Nat.shiftLeft_eq, Nat.sub_mul, ← Nat.pow_add, Nat.sub_add_cancel hk, Nat.one_mul]
  have e2 : n / 2 ^ k * 2 ^ k = (n >>> k) <<< k := by rw [Nat.shiftLeft_eq, Nat.shiftRight_eq_div_pow]
  apply Nat.eq_of_testBit_eq; intro b
  rw [e, e2, Nat.testBit_and, Nat.testBit_shiftLeft, Nat.testBit_shiftLeft, Nat.testBit_two_pow_sub_one,
    Nat.testBit_shiftRight]
  by_cases hb : k ≤ b
  · have e3 : k + (b - k) = b := by omega
    rw [e3]
    by_cases hb2 : b < w
    · have : b - k < w - k := by omega
      simp [hb, this]
    · have hw : (2 : Nat) ^ w ≤ 2 ^ b := Nat.pow_le_pow_right (by omega) (by omega)
      have : n.testBit b = false := Nat.testBit_lt_two_pow (Nat.lt_of_lt_of_le h hw)
      simp [this]
  · simp [hb]

theorem andI32_neg8_ofNat {n : Nat} (h : n < 2147483648) : andI32 (n : Int) (-8) = ((n / 8 * 8 : Nat) : Int) := by
  have hm : u32 (-8) = 4294967288 := by decide
  rw [andI32, u32_ofNat_lt (by omega), hm, show (4294967288 : Nat) = 2 ^ 32 - 2 ^ 3 from rfl,
    and_negPow (by omega) (by omega)]
  exact wrap32_ofNat (by omega)

theorem addI32_ofNat {a b : Nat} (h : a + b < 2147483648) : addI32 (a : Int) (b : Int) = ((a + b : Nat) : Int) := by
  exact (wrap32_id (by omega) (by omega)).trans (by omega)

theorem subI32_ofNat {a b : Nat} (hle : b ≤ a) (h : a < 2147483648) :
    subI32 (a : Int) (b : Int) = ((a - b : Nat) : Int) := by
  exact (wrap32_id (by omega) (by omega)).trans (by omega)

theorem shlU64_one {j : Nat} (h : j < 64) : shlU64 1 j = 2 ^ j := by
  have h2 : (2 : Nat) ^ j < 2 ^ 64 := Nat.pow_lt_pow_right (by omega) h
  rw [shlU64, shl64, if_pos h, Nat.one_shiftLeft]
  exact Nat.mod_eq_of_lt h2

theorem and_two_pow_eq_zero (w j : Nat) : w &&& 2 ^ j = 0 ↔ w.testBit j = false := by
  constructor
  · intro h
    have := congrArg (fun x => x.testBit j) h
    simpa [Nat.testBit_two_pow_self] using this
  · intro h
    apply Nat.eq_of_testBit_eq; intro k
    by_cases hk : j = k
    · subst hk; simp [h]
    · simp [hk]

theorem decide_and_shl64_ne_zero (w : Nat) {j : Nat} (hj : j < 64) :
    decide (andU64 w (shlU64 1 j) ≠ 0) = w.testBit j := by
  rw [andU64_eq, shlU64_one hj]
  cases hb : w.testBit j with
  | false => simp [(and_two_pow_eq_zero w j).2 hb]
  | true =>
    have : ¬ (w &&& 2 ^ j = 0) := by
      intro h; rw [and_two_pow_eq_zero] at h; rw [hb] at h; exact absurd h (by simp)
    simp [this]

theorem index_getD (s : List Nat) {k : Nat} (h : k < s.length) : index s (k : Int) = some (s.getD k 0) := by
  rw [index_ofNat, List.getD_eq_getElem?_getD, List.getElem?_eq_getElem h]; rfl

theorem getD_lt {s : List Nat} (hs : ∀ b ∈ s, b < 256) (k : Nat) : s.getD k 0 < 256 := by
  rw [List.getD_eq_getElem?_getD]
  cases h : s[k]? with
  | none => simp
  | some b => exact hs b (List.mem_of_getElem? h)

theorem shl64_byte {x sh : Nat} (hx : x < 256) (hs : sh ≤ 32) : shl64 x sh = x <<< sh := by
  have h1 : (2 : Nat) ^ sh ≤ 2 ^ 32 := Nat.pow_le_pow_right (by omega) hs
  have h2 : x * 2 ^ sh ≤ 255 * 2 ^ 32 := Nat.mul_le_mul (by omega) h1
  rw [shl64, if_pos (by omega)]
  apply Nat.mod_eq_of_lt
  simp only [M64]
  omega

end Low.TieL
