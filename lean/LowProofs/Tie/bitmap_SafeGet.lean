import Generated.Ssa.bitmap_SafeGet
import LowProofs.Tie.Lemmas
import LowModel.Bitmap.Get
/-
  Tie: the definition regenerated from the SSA form of `bitmap.SafeGet` equals the hand-written model `safeGet`.
-/
namespace Low
open Low.GoSem Low.TieL

/-- Domain: `i` any `int32` (negative ones included; the equation needs no bound on `i`), `len(bm) < 2^31`
    (the Go code converts `len(bm)` to `int32`).  `= some …`: the Go function never panics. -/
theorem Tie_bitmap_SafeGet (bm : List Nat) (i : Int) (hlen : bm.length < 2^31) :
    Gen.Ssa.bitmap_SafeGet bm i = some (safeGet bm i) := by
  have hb : tblBit (i % 64) = some (bit (i % 64).toNat) := by
    have := tblBit_ofNat (k := (i % 64).toNat) (by omega)
    rwa [Int.toNat_of_nonneg (by omega)] at this
  exact safe_word bm i hlen _ (· &&& bit (i % 64).toNat) fun w => by rw [andI32_63, hb]; rfl

example : Gen.Ssa.bitmap_SafeGet [5, 0x8000000000000000] 127 = some 0x8000000000000000 := by decide +kernel
example : Gen.Ssa.bitmap_SafeGet [5, 0x8000000000000000] (-1) = some 0 := by decide +kernel
example : Gen.Ssa.bitmap_SafeGet [5, 0x8000000000000000] 128 = some 0 := by decide +kernel

end Low
