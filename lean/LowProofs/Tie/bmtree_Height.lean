import Generated.Ssa.bmtree_Height
import LowProofs.Tie.Bmtree
import LowModel.Bmtree.Path
/-
  Tie: the definition regenerated from the SSA form of `bmtree.Height` equals the hand-written model `height`.
-/
namespace Low

/-- Domain: `bitmapSize` any non-negative `int32` (the model takes a `Nat`; the equation needs no bound).
    Total: the Go function cannot panic. -/
theorem Tie_bmtree_Height (t : Nat) : Gen.Ssa.bmtree_Height (t : Int) = height t :=
  TieBm.height_body t

example : Gen.Ssa.bmtree_Height 16 = 4 := by decide +kernel
example : height 16 = 4 := by decide +kernel

end Low
