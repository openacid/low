import Generated.Ssa.bmtree_PathOf
import LowProofs.Tie.bitmap_FromStr32
import LowProofs.Tie.bmtree_NewPath
import LowModel.Bmtree.Path
/-
  Tie: the definition regenerated from the SSA form of `bmtree.PathOf` equals the hand-written model `pathOf`.
  The generated definition calls the generated `bitmap_FromStr32` and `bmtree_NewPath`; the proof composes their ties.
-/
namespace Low
open Low.GoSem Low.TieL

theorem fromStr32_fst_le (s : List Nat) (f t : Nat) : (fromStr32 s f t).1 ≤ t - f := by
  simp only [fromStr32]
  by_cases c1 : (s.length : Int) * 8 - (f : Int) > ((t - f : Nat) : Int)
  · by_cases c2 : ((t - f : Nat) : Int) ≤ 0
    · simp only [c1, c2, ↓reduceIte]; exact Nat.zero_le _
    · simp only [c1, c2, ↓reduceIte]; omega
  · by_cases c2 : (s.length : Int) * 8 - (f : Int) ≤ 0
    · simp only [c1, c2, ↓reduceIte]; exact Nat.zero_le _
    · simp only [c1, c2, ↓reduceIte]; omega

/-- Domain: `frombit ≥ 0`, `height ≤ 32` (contract of `FromStr32`), `frombit + height + 7` an `int32`,
    `len(s) < 2^28`, every element of `s` a byte.  `= some …`: no panic on the domain. -/
theorem Tie_bmtree_PathOf (s : List Nat) (f h : Nat)
    (hh : h ≤ 32) (hf : f + h + 7 < 2^31) (hlen : s.length < 2^28) (hbytes : ∀ b ∈ s, b < 256) :
    Gen.Ssa.bmtree_PathOf s (f : Int) (h : Int) = some (pathOf s f h) := by
  have h0 : addI32 (f : Int) (h : Int) = ((f + h : Nat) : Int) := addI32_ofNat (by omega)
  have hle := fromStr32_fst_le s f (f + h)
  rw [Gen.Ssa.bmtree_PathOf, pathOf]
  simp only [h0, Tie_bitmap_FromStr32 s f (f + h) (by omega) (by omega) (by omega) hlen hbytes, Option.bind_some,
    Tie_bmtree_NewPath (fromStr32 s f (f + h)).2 (fromStr32 s f (f + h)).1 h (by omega) (by omega) (by omega)]

example : Gen.Ssa.bmtree_PathOf [0x61, 0x62, 0x63] 5 7 = some 0x16_0000007f := by decide +kernel

end Low
