import Generated.Ssa.bmtree_PathMask
import LowProofs.Tie.Lemmas
import LowModel.Bmtree.Path
/-
  Tie: the definition regenerated from the SSA form of `bmtree.PathMask` equals the hand-written model `pathMask`.
-/
namespace Low
open Low.TieL

/-- Domain: every `path`.  Total: no panic. -/
theorem Tie_bmtree_PathMask (p : Nat) : Gen.Ssa.bmtree_PathMask p = pathMask p := by
  rw [Gen.Ssa.bmtree_PathMask, pathMask]
  simp only [andU64_eq]

example : Gen.Ssa.bmtree_PathMask 0x5_0000000e = 0xe := by decide +kernel

end Low
