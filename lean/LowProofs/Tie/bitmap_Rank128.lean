import Generated.Ssa.bitmap_Rank128
import LowProofs.Tie.Lemmas
import LowModel.Bitmap.Rank
/-
  Tie: the definition regenerated from the SSA form of `bitmap.Rank128` equals the hand-written model `rank128`.
-/
namespace Low
open Low.GoSem Low.TieL

/-- Domain: `i ≥ 0` with `i + 64` still an `int32` (the Go code computes `(i+64)>>7` in `int32`; true for every
    position of a bitmap of fewer than `2^25` words, the project's `BmDom`); every index entry `n` satisfies
    `n + 64 ≤ 2^31`, so that `n - atRight*cnt1 + OnesCount64(…)` cannot overflow (true for every index built by
    `IndexRank128` in `BmDom`).  No hypothesis on `ws` or on the lengths: where the Go function panics (index out
    of range) both sides are `none`.  The equation does not need `w < 2^64` for the words. -/
theorem Tie_bitmap_Rank128 (ws idx : List Nat) (i : Nat) (hi : i + 64 < 2^31)
    (hidx : ∀ n ∈ idx, n + 64 ≤ 2^31) :
    Gen.Ssa.bitmap_Rank128 ws (idx.map Int.ofNat) (i : Int)
      = (rank128 ws idx i).map (fun p => (p.1, (p.2 : Int))) := by
  have hj : i % 64 < 64 := Nat.mod_lt _ (by omega)
  have h64 : addI32 (i : Int) 64 = ((i + 64 : Nat) : Int) := by
    exact wrap32_id (by omega) (by omega)
  have hr : andI32 ((i / 64 : Nat) : Int) 1 = ((i / 64 % 2 : Nat) : Int) := by
    rw [andI32_1]; omega
  rw [Gen.Ssa.bitmap_Rank128, rank128]
  simp only [shrI32_6_ofNat, andI32_63_ofNat, h64, shrI32_7_ofNat, hr, index_ofNat,
    toU32_ofNat_lt (Nat.lt_trans hj (by omega)), toU64_ofNat_lt (Nat.lt_trans hj (by omega)),
    tblMask_ofNat (Nat.lt_trans hj (by omega)), shrU64_lt _ hj, andU64_eq, List.getElem?_map]
  cases hn : idx[(i + 64) / 128]? with
  | none => rfl
  | some n =>
    cases hw : ws[i / 64]? with
    | none => rfl
    | some w =>
      have hn' : n + 64 ≤ 2^31 := hidx n (List.mem_of_getElem? hn)
      have hp := popc_and_mask_le w (i % 64)
      have hq : popc w 64 ≤ 64 := popc_le _ _
      have ha : i / 64 % 2 * popc w 64 ≤ 64 := by
        rcases Nat.mod_two_eq_zero_or_one (i / 64) with h | h <;> rw [h] <;> omega
      have hcnt : addI32 (subI32 (Int.ofNat n) (mulI32 ((i / 64 % 2 : Nat) : Int) ((popc w 64 : Nat) : Int)))
            ((popc (w &&& mask (i % 64)) 64 : Nat) : Int)
          = (n : Int) - ((i / 64 % 2 : Nat) : Int) * ((popc w 64 : Nat) : Int)
              + ((popc (w &&& mask (i % 64)) 64 : Nat) : Int) := by
        rw [mulI32_natCast, ← Int.natCast_mul]
        generalize i / 64 % 2 * popc w 64 = a at ha
        generalize i % 64 = j at hj hp
        rw [wrap32_ofNat (by omega), subI32, Int.ofNat_eq_natCast,
          wrap32_id (by omega) (by omega), addI32, wrap32_id (by omega) (by omega)]
      simp only [Option.map_some, Option.bind_some, toI32_popc64, hcnt, andI32_toI32_one]
      rfl

example : Gen.Ssa.bitmap_Rank128 [0xff, 0x5, 0x1] ([0, 10, 11].map Int.ofNat) 66 = some (9, 1) := by decide +kernel
example : rank128 [0xff, 0x5, 0x1] [0, 10, 11] 66 = some (9, 1) := by decide +kernel

end Low
