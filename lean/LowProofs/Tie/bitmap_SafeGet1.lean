import Generated.Ssa.bitmap_SafeGet1
import LowProofs.Tie.Lemmas
import LowModel.Bitmap.Get
/-
  Tie: the definition regenerated from the SSA form of `bitmap.SafeGet1` equals the hand-written model `safeGet1`.
-/
namespace Low
open Low.GoSem Low.TieL

/-- Domain: `i` any `int32` (negative ones included; the equation needs no bound on `i`), `len(bm) < 2^31`
    (the Go code converts `len(bm)` to `int32`).  `= some …`: the Go function never panics. -/
theorem Tie_bitmap_SafeGet1 (bm : List Nat) (i : Int) (hlen : bm.length < 2^31) :
    Gen.Ssa.bitmap_SafeGet1 bm i = some (safeGet1 bm i) := by
  rw [Gen.Ssa.bitmap_SafeGet1, safeGet1]
  have hj : (i % 64).toNat < 64 := by omega
  have hu : toU64 (i % 64) = (i % 64).toNat := toU64_of_nonneg (by omega) (by omega)
  exact safe_word bm i hlen _ (fun w => (w >>> (i % 64).toNat) % 2) fun w => by
    simp only [andI32_63, hu, shrU64_lt _ hj, andU64_eq, and_1]

example : Gen.Ssa.bitmap_SafeGet1 [5, 0x8000000000000000] 127 = some 1 := by decide +kernel
example : Gen.Ssa.bitmap_SafeGet1 [5, 0x8000000000000000] (-1) = some 0 := by decide +kernel
example : Gen.Ssa.bitmap_SafeGet1 [5, 0x8000000000000000] 128 = some 0 := by decide +kernel

end Low
