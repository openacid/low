import LowProofs.Tie3.Lemmas
import LowProofs.Lemmas.C04Main
import LowModel.Bmtree.Index
/-
  What the ties of package bmtree share between the release build (`Tie`, `Tie2`, `Tie3`) and the `-tags debug` build
  (`Tie8`).  A function without contract checks has the same SSA form in both builds, so the two regenerated
  definitions differ only in their names; nothing here mentions a regenerated definition:
    * a function without calls and loops (`Height`, `PathLen`, `PathHeight`) is proved about its body, written in the
      vocabulary `GoSem` (`height_body`, …): the tie of either build is that lemma, because the regenerated definition
      unfolds to the body;
    * a loop is proved for ANY function `L` that satisfies the one-step equation of the regenerated loop
      (`shiftMulti_loop`, `allPaths_inner`, `allPaths_outer`, `decode_loop`), and the function around it for any such
      loops (`shiftMulti_body`, `allPaths_body`): the tie of either build instantiates `L` with its own loop, whose step
      equation holds by unfolding; a call inside a loop is a parameter (`P` in `decode_loop`).
    * a function with calls is proved about its code with the results of the calls as parameters (`indexCode` for
      `PathToIndex` / `PathToIndexLoose`); the tie rewrites the calls by their ties and applies the lemma.
  The function `Decode` around its loop is in `LowProofs/Tie/BmtreeDecode.lean` (it needs `Props/C04`).
-/
namespace Low.TieBm
open Low.GoSem Low.GoSem3 Low.TieL Low.Tie2L Low.Tie3L

theorem height_body (t : Nat) : toI32 (subI64 31 (leadingZeros32 (toU32 (t : Int)))) = height t := by
  have hl : lz (t % M32) 32 ≤ 32 := lz_le _ _
  rw [height]
  simp only [toU32, u32_ofNat, leadingZeros32]
  rw [subI64, wrap64_id (by omega) (by omega), toI32, wrap32_id (by omega) (by omega)]

theorem pathLen_body (p : Nat) : toI32 (onesCount32 (toU32 (p : Int))) = ((pathLen p : Nat) : Int) := by
  have hl : popc (p % M32) 32 ≤ 32 := popc_le _ _
  simp only [toU32, u32_ofNat, onesCount32]
  exact toI32_ofNat_lt (by omega)

theorem pathHeight_body (p : Nat) :
    toI32 (subI64 32 (leadingZeros32 (toU32 (p : Int)))) = ((pathHeight p : Nat) : Int) := by
  have hl : lz (p % M32) 32 ≤ 32 := lz_le _ _
  rw [pathHeight]
  simp only [toU32, u32_ofNat, leadingZeros32]
  rw [subI64, wrap64_id (by omega) (by omega), toI32, wrap32_id (by omega) (by omega)]
  omega

theorem height_nat30 {t : Nat} (ht : 1 ≤ t) (ht' : t < 2^31) :
    ∃ h : Nat, height t = (h : Int) ∧ h ≤ 30 ∧ 2^h ≤ t ∧ t < 2^(h+1) := by
  have hlt : t < 2^32 := by omega
  have hm : t % M32 = t := Nat.mod_eq_of_lt (by simp only [M32]; omega)
  have ⟨a, _, _⟩ := Low.bitLen_range (w := t) (by omega) 32 hlt
  have hle := Low.bitLen_le t 32
  have hh : height t = ((bitLen t 32 - 1 : Nat) : Int) := by simp only [height, lz, hm]; omega
  have ⟨x, y, z⟩ := C03L.height_spec ht ht' hh
  exact ⟨_, hh, z, x, y⟩

theorem height_nat {t : Nat} (ht : 1 ≤ t) (ht' : t < 2^31) : ∃ h : Nat, height t = (h : Int) ∧ h ≤ 31 := by
  obtain ⟨h, hh, h30, _⟩ := height_nat30 ht ht'
  exact ⟨h, hh, by omega⟩

theorem toU64_popc64 (w : Nat) : toU64 (onesCount64 w) = popc w 64 := by
  exact toU64_ofNat_lt (by have := popc_le w 64; omega)


/-- What `PathToIndex` and `PathToIndexLoose` compute once `Height`, `uint64(bitmapSize)`, the call of `shiftMulti`
    (`sm`; the two functions pass its arguments in different orders) and `PathLen` are given; `ret` is what the
    function does with the index. -/
def indexCode {α : Type} (ret : Int → α) (h : Int) (sz path : Nat) (sm : Option Nat) (pl : Int) : Option α :=
  Option.bind (tblMaskUpto h) fun t9 =>
  if decide (sz = t9) = true then
    some (ret (subI32 (addI32 (shlI32 (toI32 ((shrU64 path 32 : Nat) : Int)) 1)
      (toI32 (onesCount64 (xorU64 path 18446744069414584320)))) 32))
  else
    Option.bind (tblBit h) fun t22 =>
    if decide (sz = t22) = true then some (ret (toI32 ((shrU64 path 32 : Nat) : Int)))
    else
      Option.bind sm fun t31 => Option.bind (tblMask pl) fun t34 =>
      some (ret (toI32 ((addU64 t31 (toU64 (onesCount64 (andU64 sz t34))) : Nat) : Int)))

theorem indexCode_eq {α : Type} (ret : Int → α) (swap : Bool) (t path : Nat) (ht : 1 ≤ t) (ht' : t < 2^31)
    (sm : Option Nat)
    (hsm : sm = some (if swap then shiftMulti (path >>> 32) t (height t).toNat
      else shiftMulti t (path >>> 32) (height t).toNat)) :
    indexCode ret (height t) t path sm (pathLen path : Int) = some (ret (pathToIndexCore swap t path)) := by
  obtain ⟨h, hh, hh31⟩ := height_nat ht ht'
  have hpl : pathLen path ≤ 32 := popc_le _ _
  rw [indexCode, pathToIndexCore, hsm]
  simp only [hh, Int.toNat_natCast, tblMaskUpto_ofNat (show h < 64 by omega), tblBit_ofNat (show h < 64 by omega),
    tblMask_ofNat (show pathLen path < 65 by omega), Option.bind_some, decide_eq_true_eq,
    shrU64_lt path (show 32 < 64 by omega), toU64_popc64, toI32_popc64, andU64_eq]
  by_cases h1 : t = maskUpto h
  · rw [if_pos h1, if_pos h1]
    simp only [xorU64_eq, subI32, addI32, shlI32, toI32, wrap32_wrap32_sub, Int.pow_one]
  · rw [if_neg h1, if_neg h1]
    by_cases h2 : t = bit h
    · rw [if_pos h2, if_pos h2, toI32]
    · rw [if_neg h2, if_neg h2, toI32, addU64]

theorem toU64_tz64 (w : Nat) : toU64 (trailingZeros64 w) = tz w 64 := by
  exact toU64_ofNat_lt (by have := tz_le 64 w; omega)

theorem sub64_one {b : Nat} (h0 : b ≠ 0) (hb : b < 2^64) : sub64 b 1 = b - 1 := by
  rw [sub64]; simp only [M64]; omega

/-- one step of the loop on an odd `b < 2^64`: `b >> tz(b-1)` is at most `b/2`, and again zero or odd -/
theorem step_facts {b : Nat} (hodd : b % 2 = 1) (hb : b < 2^64) :
    shr64 b (tz (b - 1) 64) ≤ b / 2 ∧
      (shr64 b (tz (b - 1) 64) = 0 ∨ shr64 b (tz (b - 1) 64) % 2 = 1) := by
  by_cases hone : b = 1
  · subst hone
    have : shr64 1 64 = 0 := by simp [shr64]
    rw [Low.tz_zero, this]
    exact ⟨Nat.zero_le _, Or.inl rfl⟩
  · have hne : b - 1 ≠ 0 := by omega
    have h64 : b - 1 < 2^64 := Nat.lt_of_le_of_lt (Nat.sub_le _ _) hb
    have ⟨hn64, hnb, _⟩ := Low.tz_spec (Low.exists_bit_lt hne h64)
    generalize tz (b - 1) 64 = n at hn64 hnb
    have hn1 : 1 ≤ n := by
      rcases Nat.eq_zero_or_pos n with h | h
      · subst h; simp at hnb; omega
      · exact h
    have hshr : shr64 b n = b >>> n := by simp [shr64, hn64]
    have hshift : (b - 1) >>> n = b >>> n := by
      have e : n = 1 + (n - 1) := by omega
      rw [e, Nat.shiftRight_add, Nat.shiftRight_add]
      congr 1
      rw [Nat.shiftRight_eq_div_pow]; omega
    rw [hshr]
    constructor
    · rw [Nat.shiftRight_eq_div_pow]
      have h2 : 2 ^ 1 ≤ 2 ^ n := Nat.pow_le_pow_right (by omega) hn1
      exact Nat.div_le_div_left (by omega) (by omega)
    · right
      rw [← hshift, shiftRight_mod_two, hnb]; rfl

/-- the one-step equation of the regenerated loop of `shiftMulti`, on the state `(b, shift, rst)` -/
def ShiftStep (a : Nat) (L : Nat → Nat → Nat → Nat → Option Nat) : Prop :=
  ∀ g b sh rst, L (g + 1) b sh rst =
    if decide (b ≠ 0) = true then
      L g (shrU64 b (toU64 (trailingZeros64 (subU64 b 1)))) (subU64 sh (toU64 (trailingZeros64 (subU64 b 1))))
        (addU64 rst (shrU64 a sh))
    else some rst

/-- The loop of `shiftMulti` on a state with `b` zero or odd and `b < 2^m` (`m ≤ 64`), with at least `m + 1` units of
    fuel on the generated side and at least `m` on the model's side.  The model's `shiftMultiLoop` stops (returning
    `rst`) when its fuel is used up, the generated loop returns `none`, so the lemma also shows that the loop ends:
    for an odd `b` the step `b >>= tz(b-1)` shifts by at least one and leaves an odd number or zero. -/
theorem shiftMulti_loop (a : Nat) (L : Nat → Nat → Nat → Nat → Option Nat) (hL : ShiftStep a L) :
    ∀ (m gas fuelM b sh rst : Nat), b < 2^m → m ≤ 64 → (b = 0 ∨ b % 2 = 1) → m + 1 ≤ gas → m ≤ fuelM →
      L gas b sh rst = some (shiftMultiLoop fuelM a b sh rst)
  | m, gas, fuelM, 0, sh, rst, _, _, _, hg, _ => by
    obtain ⟨g, rfl, -⟩ := gas_pos hg
    rw [hL]
    cases fuelM with
    | zero => simp [shiftMultiLoop]
    | succ f => simp [shiftMultiLoop]
  | 0, gas, fuelM, b+1, sh, rst, hb, _, _, _, _ => by simp at hb
  | m+1, gas, fuelM, b+1, sh, rst, hb, hm, hodd, hg, hf => by
    obtain ⟨g, rfl, -⟩ := gas_pos hg
    obtain ⟨f, rfl⟩ : ∃ f, fuelM = f + 1 := ⟨fuelM - 1, by omega⟩
    have hodd1 : (b + 1) % 2 = 1 := by omega
    have h64 : b + 1 < 2^64 := Nat.lt_of_lt_of_le hb (Nat.pow_le_pow_right (by omega) hm)
    have ⟨hle, hodd'⟩ := step_facts hodd1 h64
    have hlt : shr64 (b + 1) (tz (b + 1 - 1) 64) < 2^m := by
      omega
    have ih := shiftMulti_loop a L hL m g f (shr64 (b + 1) (tz (b + 1 - 1) 64))
      (sub64 sh (tz (b + 1 - 1) 64)) (add64 rst (shr64 a sh)) hlt (by omega) hodd' (by omega) (by omega)
    rw [hL, shiftMultiLoop]
    simp only [toU64_tz64, shrU64_eq, addU64, subU64, sub64_one (Nat.succ_ne_zero b) h64, ne_eq,
      Nat.succ_ne_zero, not_false_eq_true, decide_true, ↓reduceIte, ih]

/-- the whole function: after the initial `b >>= tz(b)` the operand is zero or odd.  `b < 2^m` with `m ≤ 64` needs
    `fuel ≥ m + 1` (at most `m` iterations — `b` at least halves in each one — plus the final test). -/
theorem shiftMulti_body (a b shift fuel m : Nat) (L : Nat → Nat → Nat → Nat → Option Nat) (hL : ShiftStep a L)
    (hb : b < 2^m) (hm : m ≤ 64) (hfuel : m + 1 ≤ fuel) :
    L fuel (shrU64 b (toU64 (trailingZeros64 b))) (subU64 shift (toU64 (trailingZeros64 b))) 0
      = some (shiftMulti a b shift) := by
  have hb64 : b < 2^64 := Nat.lt_of_lt_of_le hb (Nat.pow_le_pow_right (by omega) hm)
  simp only [toU64_tz64, shrU64_eq, subU64]
  have hle : shr64 b (tz b 64) ≤ b := by
    unfold shr64; split
    · rw [Nat.shiftRight_eq_div_pow]; exact Nat.div_le_self _ _
    · omega
  have hodd : shr64 b (tz b 64) = 0 ∨ shr64 b (tz b 64) % 2 = 1 := by
    by_cases h0 : b = 0
    · subst h0; left; simp [shr64, Low.tz_zero]
    · have ⟨hn64, hnb, _⟩ := Low.tz_spec (Low.exists_bit_lt h0 hb64)
      right
      rw [shr64, if_pos hn64, shiftRight_mod_two, hnb]; rfl
  -- `65` is the fuel the model's `shiftMulti` gives its own loop
  exact shiftMulti_loop a L hL m fuel 65 _ _ _ (by omega) hm hodd hfuel (by omega)

theorem andI32_bit {t j : Nat} (ht' : t < 2^31) (hj : j ≤ 30) :
    (andI32 (t : Int) (toI32 ((bit j : Nat) : Int)) = 0) ↔ t.testBit j = false := by
  have hb : bit j < 2147483648 := by
    have : (2 : Nat) ^ j ≤ 2 ^ 30 := Nat.pow_le_pow_right (by omega) hj
    simp only [bit]; omega
  rw [toI32_ofNat_lt hb, andI32_ofNat (by omega) hb, ← and_two_pow_eq_zero]
  simp only [bit]; omega

/-- one round of the inner loop in the model: the local `step` of `allPathsInner` (`none` = return now) -/
def apStep (t h frm to i k : Nat) (acc : List Nat) : Option (List Nat) :=
  if t.testBit (h - k) then
    let p := (shl64 i 32) ||| (mask h ^^^ mask k)
    if p < frm then some acc else if p ≥ to then none else some (p :: acc)
  else some acc

theorem allPathsInner_eq (t h frm to i k : Nat) (acc : List Nat) :
    allPathsInner t h frm to i k acc =
      match apStep t h frm to i k acc with
      | none => (acc, true)
      | some acc' =>
        match k with
        | 0 => (acc', false)
        | k'+1 => allPathsInner t h frm to i k' acc' := by
  rw [allPathsInner]; rfl

/-- The inner loop of `AllPaths` (counter `tz`, an `int32` running from `min(tz(i), height)` down to `-1`) for a fixed
    `i`, as a function of the outer loop's continuation `blk5`, the fuel, the list built so far and `tz`. -/
abbrev Inner := (List Nat → Nat → Option (List Nat)) → Nat → List Nat → Int → Option (List Nat)

/-- the one-step equation of the regenerated inner loop, with `t0 = h`, `t6 = mask h`, `t16 = i` -/
def InnerStep (t : Int) (frm to h i : Nat) (L9 : Inner) : Prop :=
  ∀ (blk5 : List Nat → Nat → Option (List Nat)) (g : Nat) (L : List Nat) (tz : Int),
    L9 blk5 (g + 1) L tz =
      if decide (tz ≥ 0) = true then
        Option.bind (tblBit (subI32 (h : Int) tz)) fun t19 =>
        if decide (andI32 t (toI32 (t19 : Int)) = 0) = true then L9 blk5 g L (subI32 tz 1)
        else
          Option.bind (tblMask tz) fun t30 =>
          if decide (orU64 (shlU64 i 32) (xorU64 (mask h) t30) < frm) = true then L9 blk5 g L (subI32 tz 1)
          else if decide (orU64 (shlU64 i 32) (xorU64 (mask h) t30) ≥ to) = true then some L
          else
            Option.bind (setIdx (newArray (0 : Nat) 1) (0 : Int) (orU64 (shlU64 i 32) (xorU64 (mask h) t30))) fun t37 =>
            L9 blk5 g (L ++ t37) (subI32 tz 1)
      else blk5 L (addU64 i 1)

/-- one round of the inner loop with `tz = k ≥ 0`; the code appends, the model conses: `L = acc.reverse` -/
theorem inner_step {t frm to h i : Nat} {L9 : Inner} (hL : InnerStep (t : Int) frm to h i L9)
    (blk5 : List Nat → Nat → Option (List Nat)) (g k : Nat) (acc : List Nat) (hk : k ≤ h) (hh : h ≤ 30)
    (ht' : t < 2^31) :
    L9 blk5 (g + 1) acc.reverse (k : Int) =
      match apStep t h frm to i k acc with
      | none => some acc.reverse
      | some acc' => L9 blk5 g acc'.reverse ((k : Int) - 1) := by
  have e0 : ((k : Int) ≥ 0) := by omega
  have e1 : subI32 (h : Int) (k : Int) = ((h - k : Nat) : Int) := subI32_ofNat hk (by omega)
  have e2 : subI32 (k : Int) 1 = (k : Int) - 1 := by rw [subI32]; exact wrap32_id (by omega) (by omega)
  have e3 := andI32_bit (t := t) (j := h - k) ht' (by omega)
  rw [hL, apStep]
  simp only [e0, decide_true, ↓reduceIte, e1, e2, tblBit_ofNat (show h - k < 64 by omega),
    tblMask_ofNat (show k < 65 by omega)]
  -- `rw`, not `simp only` (PROOF_NOTES.md, kernel deep recursion)
  rw [Option.bind_some]
  simp only [decide_eq_true_eq, e3]
  cases hb : t.testBit (h - k) with
  | false => simp only [↓reduceIte, Bool.false_eq_true]
  | true =>
    simp only [Bool.true_eq_false, ↓reduceIte]
    rw [Option.bind_some]
    simp only [shlU64_eq, orU64_eq, xorU64_eq, setIdx_newArray_one, Option.bind_some]
    by_cases h1 : (shl64 i 32 ||| mask h ^^^ mask k) < frm
    · simp only [h1, ↓reduceIte]
    · by_cases h2 : (shl64 i 32 ||| mask h ^^^ mask k) ≥ to
      · simp only [h1, h2, ↓reduceIte]
      · simp only [h1, h2, ↓reduceIte, List.reverse_cons]

theorem inner_exit {t : Int} {frm to h i : Nat} {L9 : Inner} (hL : InnerStep t frm to h i L9)
    (blk5 : List Nat → Nat → Option (List Nat)) (g : Nat) (L : List Nat) :
    L9 blk5 (g + 1) L (-1) = blk5 L (addU64 i 1) := by
  rw [hL]
  simp

/-- The inner loop, started with `tz = k ≤ height` and at least `k + 2` units of fuel (`k + 1` rounds and the final
    test), for an arbitrary continuation `blk5`: either the early `return paths` (the model's `stop = true`) or the
    continuation with `i + 1`. -/
theorem allPaths_inner {t frm to h i : Nat} {L9 : Inner} (hL : InnerStep (t : Int) frm to h i L9)
    (blk5 : List Nat → Nat → Option (List Nat)) (hh : h ≤ 30) (ht' : t < 2^31) (hi : i + 1 < 2^64) :
    ∀ (k gas : Nat) (acc : List Nat), k ≤ h → k + 2 ≤ gas →
      L9 blk5 gas acc.reverse (k : Int) =
        if (allPathsInner t h frm to i k acc).2 = true then some (allPathsInner t h frm to i k acc).1.reverse
        else blk5 (allPathsInner t h frm to i k acc).1.reverse (i + 1)
  | 0, gas, acc, hk, hg => by
    obtain ⟨g, rfl⟩ : ∃ g, gas = g + 2 := ⟨gas - 2, by omega⟩
    have ea : addU64 i 1 = i + 1 := by exact Nat.mod_eq_of_lt (by simp only [M64]; omega)
    rw [inner_step hL blk5 (g + 1) 0 acc hk hh ht', allPathsInner_eq]
    cases apStep t h frm to i 0 acc with
    | none => simp
    | some acc' =>
      have : ((0 : Nat) : Int) - 1 = -1 := by omega
      simp only [this, inner_exit hL, ea]
      simp
  | k+1, gas, acc, hk, hg => by
    obtain ⟨g, rfl, -⟩ := gas_pos hg
    rw [inner_step hL blk5 g (k + 1) acc hk hh ht', allPathsInner_eq]
    cases apStep t h frm to i (k + 1) acc with
    | none => simp
    | some acc' =>
      have : ((k + 1 : Nat) : Int) - 1 = (k : Int) := by omega
      simp only [this]
      exact allPaths_inner hL blk5 hh ht' hi k g acc' (by omega) (by omega)

/-- The outer loop of `AllPaths` (`i` from `from >> 32` up to `tt`; every instance of the inner loop is started with
    the full `fuel` and the continuation "go on with `i + 1`"), with `cnt = tt - i` values of `i` to go: `cnt + 1` units
    of fuel for the outer loop, and `fuel ≥ height + 2` for every instance of the inner loop.  `L9 i` is the inner
    loop for that `i`, `L5` any function with the one-step equation of the regenerated outer loop. -/
theorem allPaths_outer (fuel t frm to h tt : Nat) (L9 : Nat → Inner) (L5 : Nat → List Nat → Nat → Option (List Nat))
    (hL9 : ∀ i, InnerStep (t : Int) frm to h i (L9 i))
    (hL5 : ∀ g L i, L5 (g + 1) L i =
      if decide (i < tt) = true then
        if decide (toI32 (trailingZeros64 i) > (h : Int)) = true then L9 i (L5 g) fuel L (h : Int)
        else L9 i (L5 g) fuel L (toI32 (trailingZeros64 i))
      else some L)
    (hh : h ≤ 30) (ht' : t < 2^31) (htt : tt ≤ 2^h) (hfuel : h + 2 ≤ fuel) :
    ∀ (cnt i gas : Nat) (acc : List Nat), cnt = tt - i → cnt + 1 ≤ gas →
      L5 gas acc.reverse i = some (allPathsOuter t h frm to cnt i acc).reverse
  | 0, i, gas, acc, hc, hg => by
    obtain ⟨g, rfl, -⟩ := gas_pos hg
    have hlt : ¬ i < tt := by omega
    rw [hL5, allPathsOuter]
    simp [hlt]
  | cnt+1, i, gas, acc, hc, hg => by
    obtain ⟨g, rfl, -⟩ := gas_pos hg
    have hlt : i < tt := by omega
    have h30 : (2 : Nat) ^ h ≤ 2 ^ 30 := Nat.pow_le_pow_right (by omega) hh
    have hi : i + 1 < 2^64 := by omega
    have htz : tz i 64 ≤ 64 := tz_le _ _
    have ih := fun acc' => allPaths_outer fuel t frm to h tt L9 L5 hL9 hL5 hh ht' htt hfuel cnt (i + 1) g acc' (by omega)
      (by omega)
    have hin := allPaths_inner (hL9 i) (L5 g) hh ht' hi (min (tz i 64) h) fuel acc (Nat.min_le_right _ _)
      (by have := Nat.min_le_right (tz i 64) h; omega)
    rw [hL5, allPathsOuter]
    simp only [hlt, decide_true, ↓reduceIte, toI32_tz64, gt_iff_lt, Int.ofNat_lt, decide_eq_true_eq]
    have hsel : (if h < tz i 64 then L9 i (L5 g) fuel acc.reverse (h : Int)
        else L9 i (L5 g) fuel acc.reverse ((tz i 64 : Nat) : Int)) =
        L9 i (L5 g) fuel acc.reverse ((min (tz i 64) h : Nat) : Int) := by
      by_cases hc : h < tz i 64
      · rw [if_pos hc, Nat.min_eq_right (by omega)]
      · rw [if_neg hc, Nat.min_eq_left (by omega)]
    rw [hsel, hin]
    generalize allPathsInner t h frm to i (min (tz i 64) h) acc = r
    obtain ⟨acc', stop⟩ := r
    cases stop with
    | true => simp
    | false => simp [ih]

/-- The whole function, after the call of `Height`: `L9 t0 t6 i` / `L5 t0 t6 t10` are the two loops with the loop-invariant
    values `t0 = Height(bitmapSize)`, `t6 = Mask[t0]`, `t10 = min(to>>32 + 1, Bit[t0])`.  Fuel: with `cnt` the number of values of `i`
    the outer loop visits, `cnt + 1` for it and `height + 2 ≤ 32` for every instance of the inner loop. -/
theorem allPaths_body (fuel t frm to : Nat) (L9 : Int → Nat → Nat → Inner)
    (L5 : Int → Nat → Nat → Nat → List Nat → Nat → Option (List Nat))
    (hL9 : ∀ h i, InnerStep (t : Int) frm to h i (L9 (h : Int) (mask h) i))
    (hL5 : ∀ (h tt g : Nat) L i, L5 (h : Int) (mask h) tt (g + 1) L i =
      if decide (i < tt) = true then
        if decide (toI32 (trailingZeros64 i) > (h : Int)) = true then
          L9 (h : Int) (mask h) i (L5 (h : Int) (mask h) tt g) fuel L (h : Int)
        else L9 (h : Int) (mask h) i (L5 (h : Int) (mask h) tt g) fuel L (toI32 (trailingZeros64 i))
      else some L)
    (ht : 1 ≤ t) (ht' : t < 2^31)
    (hfuel : (min (add64 (to >>> 32) 1) (2 ^ (height t).toNat) - frm >>> 32) + 32 ≤ fuel) :
    (Option.bind (tblBit (height t)) fun t3 => Option.bind (tblMask (height t)) fun t5 =>
      if decide (addU64 (shrU64 to 32) 1 > t3) = true then L5 (height t) t5 t3 fuel (newArray (0 : Nat) 0) (shrU64 frm 32)
      else L5 (height t) t5 (addU64 (shrU64 to 32) 1) fuel (newArray (0 : Nat) 0) (shrU64 frm 32))
      = some (allPaths t frm to) := by
  obtain ⟨h, hh, hh30, _, _⟩ := height_nat30 ht ht'
  rw [hh, Int.toNat_natCast] at hfuel
  rw [allPaths]
  simp only [hh, Int.toNat_natCast, newArray_zero, tblBit_ofNat (show h < 64 by omega),
    tblMask_ofNat (show h < 65 by omega), Option.bind_some, shrU64_lt _ (show 32 < 64 by omega), addU64,
    decide_eq_true_eq, gt_iff_lt]
  have hnil : ([] : List Nat) = ([] : List Nat).reverse := rfl
  by_cases hc : bit h < add64 (to >>> 32) 1
  · rw [if_pos hc, if_pos hc]
    have hm : min (add64 (to >>> 32) 1) (2 ^ h) = bit h := by simp only [bit] at hc ⊢; omega
    rw [hm] at hfuel
    exact allPaths_outer fuel t frm to h (bit h) _ _ (hL9 h) (hL5 h _) hh30 ht' (Nat.le_refl _)
      (by omega) _ _ fuel [] rfl (by omega)
  · rw [if_neg hc, if_neg hc]
    have hm : min (add64 (to >>> 32) 1) (2 ^ h) = add64 (to >>> 32) 1 := by simp only [bit] at hc ⊢; omega
    rw [hm] at hfuel
    exact allPaths_outer fuel t frm to h _ _ _ (hL9 h) (hL5 h _) hh30 ht'
      (by simp only [bit] at hc; omega) (by omega) _ _ fuel [] rfl (by omega)

/-- the model's test `int32(len(bm)) > wordI && wordI ≥ 0 && bm[wordI]&(1<<uint(idx&63)) != 0`, for an index `≥ 0` -/
theorem decode_pred' (t : Nat) (bm : List Nat) (p idx : Nat) (hidx : pathToIndex t p = (idx : Int)) :
    (decide ((bm.length : Int) > pathToIndex t p / 64) && decide (pathToIndex t p / 64 ≥ 0) &&
      (bm.getD (pathToIndex t p / 64).toNat 0).testBit (pathToIndex t p % 64).toNat) = bitAt bm idx := by
  rw [hidx]; exact C04L.decode_pred bm idx

/-- the one-step equation of the regenerated `range` loop of `Decode` over `paths`; `P` is the call of `PathToIndex` -/
def DecodeStep (bm paths : List Nat) (P : Nat → Option Int) (L : Nat → List Nat → Int → Option (List Nat)) : Prop :=
  ∀ g acc t5, L (g + 1) acc t5 =
    if decide (addI64 t5 1 < (paths.length : Int)) = true then
      Option.bind (index paths (addI64 t5 1)) fun t8 =>
      Option.bind (P t8) fun t10 =>
      if decide (toI32 (len bm) > shrI32 t10 6) = true then
        Option.bind (index bm (shrI32 t10 6)) fun t19 =>
        if decide (andU64 t19 (shlU64 1 (toU64 (andI32 t10 63))) ≠ 0) = true then
          Option.bind (setIdx (newArray (0 : Nat) 1) (0 : Int) t8) fun t15 => L g (acc ++ t15) (addI64 t5 1)
        else L g acc (addI64 t5 1)
      else L g acc (addI64 t5 1)
    else some acc

/-- The `range` loop of `Decode` at position `j` (the SSA range index is `j - 1`, `-1` at the start), for an arbitrary
    result accumulator `acc`; `rest.length + 1` units of fuel.  `P` is the call of `PathToIndex` (of either build): on
    every path the loop visits it returns the model's index, which is not negative. -/
theorem decode_loop (t : Nat) (bm paths : List Nat) (P : Nat → Option Int) (L : Nat → List Nat → Int → Option (List Nat))
    (hL : DecodeStep bm paths P L)
    (hbm : bm.length < 2^31) (hlen : paths.length < 2^62)
    (hp : ∀ p ∈ paths, P p = some (pathToIndex t p) ∧ ∃ idx : Nat, pathToIndex t p = (idx : Int)) :
    ∀ (rest : List Nat) (j gas : Nat) (acc : List Nat) (t5 : Int), rest = paths.drop j → addI64 t5 1 = (j : Int) →
      rest.length + 1 ≤ gas →
      L gas acc t5 = some (acc ++ rest.filter (fun p => bitAt bm (pathToIndex t p).toNat))
  | [], j, gas, acc, t5, hr, h5, hg => by
    obtain ⟨g, rfl, -⟩ := gas_pos hg
    have hjl : ¬ j < paths.length := by have := drop_eq_nil_le hr; omega
    rw [hL]
    simp only [h5, Int.ofNat_lt, hjl, decide_false, Bool.false_eq_true, ↓reduceIte, List.filter_nil, List.append_nil]
  | w :: r, j, gas, acc, t5, hr, h5, hg => by
    obtain ⟨g, rfl, -⟩ := gas_pos hg
    have hjl : j < paths.length := drop_eq_cons_lt hr
    have hw : paths[j]? = some w := getElem?_of_drop_eq_cons hr
    obtain ⟨hP, idx, hidx⟩ := hp w (List.mem_of_getElem? hw)
    have ih := fun acc' => decode_loop t bm paths P L hL hbm hlen hp r (j + 1) g acc' (j : Int)
      (drop_succ_of_drop_eq_cons hr) (addI64_one_ofNat (by omega)) (by simp only [List.length_cons] at hg; omega)
    have hs : idx % 64 < 64 := Nat.mod_lt _ (by omega)
    have e1 : toI32 ((bm.length : Nat) : Int) = ((bm.length : Nat) : Int) := toI32_ofNat_lt (by omega)
    have e2 : toU64 ((idx % 64 : Nat) : Int) = idx % 64 := toU64_ofNat_lt (by omega)
    rw [hL]
    simp only [h5, Int.ofNat_lt, hjl, decide_true, ↓reduceIte, index_ofNat, hw, Option.bind_some, hP, hidx,
      shrI32_6_ofNat, len_eq, e1, gt_iff_lt, andI32_63_ofNat, e2, shlU64_one hs, andU64_eq, setIdx_newArray_one, ih,
      List.filter_cons, Int.toNat_natCast, decide_eq_true_eq]
    by_cases hl : idx / 64 < bm.length
    · have hi := index_getD bm hl
      rw [index_ofNat] at hi
      have hba : (bm.getD (idx / 64) 0).testBit (idx % 64) = bitAt bm idx := rfl
      simp only [hl, ↓reduceIte, hi, Option.bind_some, ne_eq, and_two_pow_eq_zero, Bool.not_eq_false, hba]
      cases bitAt bm idx with
      | true => simp
      | false => simp
    · have hz : bitAt bm idx = false := by
        unfold bitAt
        have : bm.getD (idx / 64) 0 = 0 := by
          rw [List.getD_eq_getElem?_getD, List.getElem?_eq_none (Nat.le_of_not_lt hl)]; rfl
        rw [this]; exact Nat.zero_testBit _
      simp only [hl, ↓reduceIte, hz, Bool.false_eq_true]

end Low.TieBm
