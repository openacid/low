import Generated.Ssa.bitstr_Len
import LowProofs.Tie.Lemmas
import LowModel.Bitstr
/-
  Tie: the definition regenerated from the SSA form of `bitstr.Len` equals the hand-written model `bsLen`.
-/
namespace Low
open Low.GoSem Low.TieL

/-- Domain: `len(bs) < 2^28`, so that `int32(len(bs)) << 3` does not overflow (the project's bound for
    bitstr/sigbits strings).  For the empty slice both sides are `none` (the Go function panics on `bs[-1]`).
    The equation does not need the bytes to be `< 256`. -/
theorem Tie_bitstr_Len (bs : List Nat) (hlen : bs.length < 2^28) :
    Gen.Ssa.bitstr_Len bs = bsLen bs := by
  rw [Gen.Ssa.bitstr_Len, bsLen, List.getLast?_eq_getElem?]
  have h1 : toI32 (len bs) = (bs.length : Int) := by rw [len]; exact toI32_ofNat_lt (by omega)
  have h2 : shlI32 (bs.length : Int) 3 = (bs.length : Int) * 8 := by
    exact wrap32_id (by omega) (by omega)
  have h3 : subI32 ((bs.length : Int) * 8) 16 = (bs.length : Int) * 8 - 16 := by
    exact wrap32_id (by omega) (by omega)
  have h4 : subI64 (len bs) 1 = (bs.length : Int) - 1 := by
    rw [len]; exact wrap64_id (by omega) (by omega)
  simp only [h1, h2, h3, h4]
  by_cases h0 : bs.length = 0
  · have : bs = [] := List.eq_nil_of_length_eq_zero h0
    subst this
    rfl
  · have hi : index bs ((bs.length : Int) - 1) = bs[bs.length - 1]? := by
      have ht : ((bs.length : Int) - 1).toNat = bs.length - 1 := by omega
      rw [index_toNat bs (by omega), ht]
    rw [hi]
    cases bs[bs.length - 1]? with
    | none => rfl
    | some m =>
      have hp : popc m 8 ≤ 8 := popc_le _ _
      have h5 : toI32 (onesCount8 m) = ((popc m 8 : Nat) : Int) := by
        exact toI32_ofNat_lt (by omega)
      have h6 : addI32 ((bs.length : Int) * 8 - 16) ((popc m 8 : Nat) : Int)
          = (bs.length : Int) * 8 - 16 + ((popc m 8 : Nat) : Int) := by
        exact wrap32_id (by omega) (by omega)
      simp only [Option.bind_some, h5, h6]

example : Gen.Ssa.bitstr_Len [0x61, 0x60, 0xf0] = some 12 := by decide +kernel
example : bsLen [0x61, 0x60, 0xf0] = some 12 := by decide +kernel
example : Gen.Ssa.bitstr_Len [] = none := by decide +kernel

end Low
