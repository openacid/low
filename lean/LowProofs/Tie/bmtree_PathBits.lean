import Generated.Ssa.bmtree_PathBits
import LowProofs.Tie.Lemmas
import LowModel.Bmtree.Path
/-
  Tie: the definition regenerated from the SSA form of `bmtree.PathBits` equals the hand-written model `pathBits`.
-/
namespace Low
open Low.TieL

/-- Domain: every `path`.  Total: no panic. -/
theorem Tie_bmtree_PathBits (p : Nat) : Gen.Ssa.bmtree_PathBits p = pathBits p := by
  rw [Gen.Ssa.bmtree_PathBits, pathBits]
  simp only [shrU64_lt p (by omega : 32 < 64)]

example : Gen.Ssa.bmtree_PathBits 0x5_0000000e = 5 := by decide +kernel

end Low
