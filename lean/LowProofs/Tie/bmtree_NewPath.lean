import Generated.Ssa.bmtree_NewPath
import LowProofs.Tie.Lemmas
import LowModel.Bmtree.Path
/-
  Tie: the definition regenerated from the SSA form of `bmtree.NewPath` equals the hand-written model `newPath`.
-/
namespace Low
open Low.GoSem Low.TieL

/-- Domain: `length ≤ height` (the model's domain; otherwise the Go shift count `uint(height-length)` is huge),
    `length ≤ 64` (the Go function indexes `bitmap.Mask[length]`, a `[65]uint64`, and panics beyond),
    `height` an `int32`.  `= some …`: no panic on the domain.  No bound on `searchingBits` is needed. -/
theorem Tie_bmtree_NewPath (bits length h : Nat) (hlh : length ≤ h) (hl : length ≤ 64) (hh : h < 2^31) :
    Gen.Ssa.bmtree_NewPath bits (length : Int) (h : Int) = some (newPath bits length h) := by
  have hs : subI32 (h : Int) (length : Int) = ((h - length : Nat) : Int) := subI32_ofNat hlh (by omega)
  rw [Gen.Ssa.bmtree_NewPath]
  simp only [tblMask_ofNat (Nat.lt_succ_of_le hl), hs, toU64_ofNat_lt (by omega : h - length < 18446744073709551616),
    shlU64_eq, orU64_eq]
  rfl

example : Gen.Ssa.bmtree_NewPath 5 3 4 = some 0x5_0000000e := by decide +kernel
example : newPath 5 3 4 = 0x5_0000000e := by decide +kernel

end Low
