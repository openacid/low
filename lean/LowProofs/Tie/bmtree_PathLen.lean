import Generated.Ssa.bmtree_PathLen
import LowProofs.Tie.Bmtree
import LowModel.Bmtree.Path
/-
  Tie: the definition regenerated from the SSA form of `bmtree.PathLen` equals the hand-written model `pathLen`.
-/
namespace Low

/-- Domain: every `p` (the equation does not even need `p < 2^64`).  Total: no panic. -/
theorem Tie_bmtree_PathLen (p : Nat) : Gen.Ssa.bmtree_PathLen p = ((pathLen p : Nat) : Int) :=
  TieBm.pathLen_body p

example : Gen.Ssa.bmtree_PathLen 0x5_0000000e = 3 := by decide +kernel
example : pathLen 0x5_0000000e = 3 := by decide +kernel

end Low
