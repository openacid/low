import Generated.Ssa7.mathext_util_MaxU
import LowProofs.Tie7.mathext_util_L
/- Tie of `mathext/util.MaxU` (regenerated definition = specification); see `mathext_util_L.lean`. -/
namespace Low

/-- `MaxU(a, b)` (`uint`) is the larger of its arguments, for ALL values (the generated definition
    only compares its arguments; a comparison of in-range representatives is the Go comparison of the type). -/
theorem Tie_mathext_util_MaxU (a b : Nat) : Gen.Ssa7.mathext_util_MaxU a b = max a b :=
  Util.maxU_ite a b

/-- arguments that are `uint` values give a `uint` value -/
theorem Tie_mathext_util_MaxU_range (a b : Nat) (ha : Util.InU 64 a) (hb : Util.InU 64 b) :
    Util.InU 64 (Gen.Ssa7.mathext_util_MaxU a b) := by
  rw [Tie_mathext_util_MaxU]; exact Util.InU_max ha hb

example : Gen.Ssa7.mathext_util_MaxU 3 2 = 3 := by decide +kernel

end Low
