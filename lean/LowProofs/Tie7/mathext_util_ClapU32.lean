import Generated.Ssa7.mathext_util_ClapU32
import LowProofs.Tie7.mathext_util_L
/- Tie of `mathext/util.ClapU32` (regenerated definition = specification); see `mathext_util_L.lean`. -/
namespace Low

/-- `ClapU32(n, min, max)` (`uint32`) is the clamp of `n` into `[min, max]`, for ALL values (the generated definition only
    compares its arguments).  When `min > max` the result is `max` (`Util.clampU_gt`; the source documents nothing). -/
theorem Tie_mathext_util_ClapU32 (n lo hi : Nat) : Gen.Ssa7.mathext_util_ClapU32 n lo hi = Util.clampU n lo hi :=
  Util.clampU_ite n lo hi

/-- arguments that are `uint32` values give a `uint32` value -/
theorem Tie_mathext_util_ClapU32_range (n lo hi : Nat) (hn : Util.InU 32 n) (hl : Util.InU 32 lo) (hh : Util.InU 32 hi) :
    Util.InU 32 (Gen.Ssa7.mathext_util_ClapU32 n lo hi) := by
  rw [Tie_mathext_util_ClapU32]; exact Util.InU_clamp hn hl hh

example : Gen.Ssa7.mathext_util_ClapU32 9 1 5 = 5 := by decide +kernel
-- bounds the wrong way round: the upper bound wins
example : Gen.Ssa7.mathext_util_ClapU32 0 5 1 = 1 := by decide +kernel

end Low
