import Generated.Ssa7.mathext_util_MaxU16
import LowProofs.Tie7.mathext_util_L
/- Tie of `mathext/util.MaxU16` (regenerated definition = specification); see `mathext_util_L.lean`. -/
namespace Low

/-- `MaxU16(a, b)` (`uint16`) is the larger of its arguments, for ALL values (the generated definition
    only compares its arguments; a comparison of in-range representatives is the Go comparison of the type). -/
theorem Tie_mathext_util_MaxU16 (a b : Nat) : Gen.Ssa7.mathext_util_MaxU16 a b = max a b :=
  Util.maxU_ite a b

/-- arguments that are `uint16` values give a `uint16` value -/
theorem Tie_mathext_util_MaxU16_range (a b : Nat) (ha : Util.InU 16 a) (hb : Util.InU 16 b) :
    Util.InU 16 (Gen.Ssa7.mathext_util_MaxU16 a b) := by
  rw [Tie_mathext_util_MaxU16]; exact Util.InU_max ha hb

example : Gen.Ssa7.mathext_util_MaxU16 3 2 = 3 := by decide +kernel

end Low
