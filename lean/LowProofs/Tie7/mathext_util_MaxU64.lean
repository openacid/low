import Generated.Ssa7.mathext_util_MaxU64
import LowProofs.Tie7.mathext_util_L
/- Tie of `mathext/util.MaxU64` (regenerated definition = specification); see `mathext_util_L.lean`. -/
namespace Low

/-- `MaxU64(a, b)` (`uint64`) is the larger of its arguments, for ALL values (the generated definition
    only compares its arguments; a comparison of in-range representatives is the Go comparison of the type). -/
theorem Tie_mathext_util_MaxU64 (a b : Nat) : Gen.Ssa7.mathext_util_MaxU64 a b = max a b :=
  Util.maxU_ite a b

/-- arguments that are `uint64` values give a `uint64` value -/
theorem Tie_mathext_util_MaxU64_range (a b : Nat) (ha : Util.InU 64 a) (hb : Util.InU 64 b) :
    Util.InU 64 (Gen.Ssa7.mathext_util_MaxU64 a b) := by
  rw [Tie_mathext_util_MaxU64]; exact Util.InU_max ha hb

example : Gen.Ssa7.mathext_util_MaxU64 3 2 = 3 := by decide +kernel

end Low
