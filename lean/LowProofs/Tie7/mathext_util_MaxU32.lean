import Generated.Ssa7.mathext_util_MaxU32
import LowProofs.Tie7.mathext_util_L
/- Tie of `mathext/util.MaxU32` (regenerated definition = specification); see `mathext_util_L.lean`. -/
namespace Low

/-- `MaxU32(a, b)` (`uint32`) is the larger of its arguments, for ALL values (the generated definition
    only compares its arguments; a comparison of in-range representatives is the Go comparison of the type). -/
theorem Tie_mathext_util_MaxU32 (a b : Nat) : Gen.Ssa7.mathext_util_MaxU32 a b = max a b :=
  Util.maxU_ite a b

/-- arguments that are `uint32` values give a `uint32` value -/
theorem Tie_mathext_util_MaxU32_range (a b : Nat) (ha : Util.InU 32 a) (hb : Util.InU 32 b) :
    Util.InU 32 (Gen.Ssa7.mathext_util_MaxU32 a b) := by
  rw [Tie_mathext_util_MaxU32]; exact Util.InU_max ha hb

example : Gen.Ssa7.mathext_util_MaxU32 3 2 = 3 := by decide +kernel

end Low
