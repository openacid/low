import LowProofs.Tie2.bitmap_Select_L
import LowModel.GoSem
/-
  Byte-lane ("SWAR") arithmetic for the ties of `bitmap.indexSelectU64` and `bitmap.selectU64Indexed`:
  a uint64 seen as the little-endian list of its 8 bytes (`pack`), and how `>> s & mask`, `&`, `|`, `+`, `-`
  act lane by lane when no lane overflows.
-/
namespace Low.Tie7Swar

/-- the number whose little-endian base-256 digits are the list -/
def pack : List Nat → Nat
  | [] => 0
  | b :: r => b + 256 * pack r

def Bytes (as : List Nat) : Prop := ∀ a ∈ as, a < 256

theorem Bytes.head {a : Nat} {r : List Nat} (h : Bytes (a :: r)) : a < 256 := h a (List.mem_cons_self ..)
theorem Bytes.tail {a : Nat} {r : List Nat} (h : Bytes (a :: r)) : Bytes r :=
  fun x hx => h x (List.mem_cons_of_mem _ hx)

theorem Bytes.of_map {qs : List Nat} {f : Nat → Nat} (h : ∀ q ∈ qs, f q < 256) : Bytes (qs.map f) := by
  intro x hx
  obtain ⟨q, hq, rfl⟩ := List.mem_map.mp hx
  exact h q hq

theorem Bytes.map {bs : List Nat} {f : Nat → Nat} (hf : ∀ a, a < 256 → f a < 256) (hb : Bytes bs) :
    Bytes (bs.map f) :=
  Bytes.of_map fun a ha => hf a (hb a ha)

theorem pack_lt : ∀ (as : List Nat), Bytes as → pack as < 256 ^ as.length
  | [], _ => by simp [pack]
  | a :: r, h => by
    have h1 := h.head
    have h2 := pack_lt r h.tail
    simp only [pack, List.length_cons, Nat.pow_succ]
    omega

theorem pack_byte : ∀ (as : List Nat) (k : Nat), Bytes as → (pack as >>> (8 * k)) % 256 = as.getD k 0
  | [], k, _ => by simp [pack]
  | a :: r, 0, h => by
    have := h.head
    simp only [pack, Nat.mul_zero, Nat.shiftRight_zero, List.getD_cons_zero]
    omega
  | a :: r, k+1, h => by
    have ha := h.head
    have e : (a + 256 * pack r) >>> (8 * (k + 1)) = pack r >>> (8 * k) := by
      rw [Nat.mul_succ, Nat.add_comm (8 * k) 8, Nat.shiftRight_add]
      congr 1
      omega
    simp only [pack, List.getD_cons_succ]
    rw [e, pack_byte r k h.tail]

theorem lane_testBit (a x j : Nat) (ha : a < 256) :
    (a + 256 * x).testBit j = if j < 8 then a.testBit j else x.testBit (j - 8) := by
  have := Nat.testBit_two_pow_mul_add x (i := 8) (b := a) ha j
  rw [← this]
  congr 1
  omega

theorem lane_and (a b x y : Nat) (ha : a < 256) (hb : b < 256) :
    (a + 256 * x) &&& (b + 256 * y) = (a &&& b) + 256 * (x &&& y) := by
  have hab : a &&& b < 256 := Nat.lt_of_le_of_lt Nat.and_le_left ha
  apply Nat.eq_of_testBit_eq
  intro j
  rw [Nat.testBit_and, lane_testBit _ _ _ ha, lane_testBit _ _ _ hb, lane_testBit _ _ _ hab]
  by_cases hj : j < 8 <;> simp [hj]

theorem lane_or (a b x y : Nat) (ha : a < 256) (hb : b < 256) :
    (a + 256 * x) ||| (b + 256 * y) = (a ||| b) + 256 * (x ||| y) := by
  have hab : a ||| b < 256 := Nat.or_lt_two_pow (n := 8) ha hb
  apply Nat.eq_of_testBit_eq
  intro j
  rw [Nat.testBit_or, lane_testBit _ _ _ ha, lane_testBit _ _ _ hb, lane_testBit _ _ _ hab]
  by_cases hj : j < 8 <;> simp [hj]

/-- `(x >> s) & mask` on one lane: the bits that cross the lane boundary are masked out (`m < 2^(8-s)`) -/
theorem lane_shr_and (s a m x y : Nat) (hs : s ≤ 8) (ha : a < 256) (hm : m < 2 ^ (8 - s)) :
    ((a + 256 * x) >>> s) &&& (m + 256 * y) = ((a >>> s) &&& m) + 256 * ((x >>> s) &&& y) := by
  have hm8 : m < 256 := Nat.lt_of_lt_of_le hm (Nat.pow_le_pow_right (by decide) (by omega) : 2 ^ (8 - s) ≤ 2 ^ 8)
  have hab : (a >>> s) &&& m < 256 := Nat.lt_of_le_of_lt Nat.and_le_right hm8
  apply Nat.eq_of_testBit_eq
  intro j
  rw [Nat.testBit_and, Nat.testBit_shiftRight, lane_testBit _ _ _ ha, lane_testBit _ _ _ hm8,
    lane_testBit _ _ _ hab, Nat.testBit_and, Nat.testBit_and, Nat.testBit_shiftRight, Nat.testBit_shiftRight]
  by_cases hj : j < 8
  · by_cases hj2 : s + j < 8
    · simp [hj, hj2]
    · have : m.testBit j = false :=
        Nat.testBit_lt_two_pow (Nat.lt_of_lt_of_le hm (Nat.pow_le_pow_right (by decide) (by omega)))
      simp [hj, hj2, this]
  · have hj2 : ¬ (s + j < 8) := by omega
    have e : s + j - 8 = s + (j - 8) := by omega
    simp [hj, hj2, e]

theorem pack_replicate_succ (n m : Nat) : pack (List.replicate (n + 1) m) = m + 256 * pack (List.replicate n m) := rfl

theorem pack_shr_and (s m : Nat) (hs : s ≤ 8) (hm : m < 2 ^ (8 - s)) :
    ∀ (as : List Nat), Bytes as →
      (pack as >>> s) &&& pack (List.replicate as.length m) = pack (as.map fun a => (a >>> s) &&& m)
  | [], _ => by simp [pack]
  | a :: r, h => by
    rw [List.length_cons, pack_replicate_succ, List.map_cons]
    simp only [pack]
    rw [lane_shr_and s a m _ _ hs h.head hm, pack_shr_and s m hs hm r h.tail]

theorem pack_and (m : Nat) (hm : m < 256) :
    ∀ (as : List Nat), Bytes as →
      pack as &&& pack (List.replicate as.length m) = pack (as.map fun a => a &&& m)
  | [], _ => by simp [pack]
  | a :: r, h => by
    rw [List.length_cons, pack_replicate_succ, List.map_cons]
    simp only [pack]
    rw [lane_and a m _ _ h.head hm, pack_and m hm r h.tail]

theorem pack_or (m : Nat) (hm : m < 256) :
    ∀ (as : List Nat), Bytes as →
      pack as ||| pack (List.replicate as.length m) = pack (as.map fun a => a ||| m)
  | [], _ => by simp [pack]
  | a :: r, h => by
    rw [List.length_cons, pack_replicate_succ, List.map_cons]
    simp only [pack]
    rw [lane_or a m _ _ h.head hm, pack_or m hm r h.tail]

theorem pack_add (f g : Nat → Nat) :
    ∀ (bs : List Nat), pack (bs.map f) + pack (bs.map g) = pack (bs.map fun a => f a + g a)
  | [] => rfl
  | b :: r => by
    have ih := pack_add f g r
    simp only [List.map_cons, pack]
    omega

theorem pack_sub (f g : Nat → Nat) :
    ∀ (bs : List Nat), (∀ b ∈ bs, g b ≤ f b) →
      pack (bs.map g) ≤ pack (bs.map f) ∧ pack (bs.map f) - pack (bs.map g) = pack (bs.map fun a => f a - g a)
  | [], _ => ⟨Nat.le_refl _, rfl⟩
  | b :: r, h => by
    have h1 := h b (List.mem_cons_self ..)
    have ih := pack_sub f g r (fun x hx => h x (List.mem_cons_of_mem _ hx))
    simp only [List.map_cons, pack]
    omega

theorem pack_map_congr {f g : Nat → Nat} {bs : List Nat} (hb : Bytes bs) (h : ∀ a, a < 256 → f a = g a) :
    pack (bs.map f) = pack (bs.map g) := by
  congr 1
  exact List.map_congr_left fun a ha => h a (hb a ha)

def byteOf (w k : Nat) : Nat := (w >>> (8 * k)) % 256

def bytes8 (w : Nat) : List Nat :=
  [byteOf w 0, byteOf w 1, byteOf w 2, byteOf w 3, byteOf w 4, byteOf w 5, byteOf w 6, byteOf w 7]

theorem byteOf_lt (w k : Nat) : byteOf w k < 256 := Nat.mod_lt _ (by decide)

theorem bytes8_bytes (w : Nat) : Bytes (bytes8 w) := by
  intro a ha
  obtain ⟨k, _, rfl⟩ := List.mem_map.mp (show a ∈ (List.range' 0 8).map (byteOf w) from ha)
  exact byteOf_lt w k

theorem pack_range' (w : Nat) : ∀ n k, pack ((List.range' k n).map (byteOf w)) = (w >>> (8 * k)) % 256 ^ n
  | 0, k => by simp [pack, Nat.mod_one]
  | n+1, k => by
    have e : w >>> (8 * (k + 1)) = (w >>> (8 * k)) / 256 := by
      rw [Nat.mul_succ, Nat.shiftRight_add, Nat.shiftRight_eq_div_pow _ 8]
    rw [List.range'_succ, List.map_cons, pack, pack_range' w n (k + 1), Nat.pow_succ', Nat.mod_mul, byteOf, e]

theorem pack_bytes8 (w : Nat) (hw : w < 2 ^ 64) : pack (bytes8 w) = w := by
  have h := pack_range' w 8 0
  rw [Nat.shiftRight_zero, Nat.mod_eq_of_lt (by omega)] at h
  exact h

theorem popc_byteOf (w k : Nat) : popc (byteOf w k) 8 = popc (w >>> (8 * k)) 8 := by
  apply popc_congr
  intro j hj
  have e2 : (256 : Nat) = 2 ^ 8 := by decide
  rw [byteOf, e2, Nat.testBit_mod_two_pow]
  simp [hj]

theorem popc_succ_byte (w k : Nat) : popc w (8 * (k + 1)) = popc w (8 * k) + popc (byteOf w k) 8 := by
  rw [popc_byteOf, ← popc_add]
  rfl

theorem sub64_of_le {x y : Nat} (hle : y ≤ x) (hx : x < M64) : sub64 x y = x - y := by
  unfold sub64
  simp only [M64] at hx ⊢
  omega

theorem add64_of_lt {x y : Nat} (h : x + y < M64) : add64 x y = x + y := by
  unfold add64
  exact Nat.mod_eq_of_lt h

/-- the lookup `select8Lookup[(w & 0xff) << 3 + k]` both `select32single` and `selectU64Indexed` end with: the position
    of the `k`-th 1-bit of the low byte of `w` -/
theorem select8_byte (w k : Nat) (hk : k < popc w 8) :
    ∃ r, GoSem2.tblSelect8 ((GoSem.addU64 (GoSem.shlU64 (GoSem.andU64 w 255) 3) k : Nat) : Int) = some r ∧
      C02L.IsSel w k r ∧ r < 8 := by
  have hk' : k < popc (w % 256) 8 := by
    rw [popc_congr (fun j hj => C02L.testBit_mod_256 w j hj)]; exact hk
  have hk8 : k < 8 := Nat.lt_of_lt_of_le hk (popc_le _ 8)
  have hm : w % 256 < 256 := Nat.mod_lt _ (by decide)
  obtain ⟨r, hr, hs, hr8⟩ := C02L.table_spec hm hk'
  refine ⟨r, ?_, C02L.isSel_congr (fun j hj => C02L.testBit_mod_256 _ j hj) hr8 hs, hr8⟩
  have e1 : GoSem.shlU64 (GoSem.andU64 w 255) 3 = (w % 256) * 8 := by
    rw [Tie2Sel.shl3_255, show (0xff : Nat) = 2 ^ 8 - 1 from rfl, Nat.and_two_pow_sub_one_eq_mod, Nat.shiftLeft_eq]
  rw [e1, GoSem.addU64, add64_of_lt (by simp only [M64]; omega), Tie2L.tblSelect8_ofNat, hr]

end Low.Tie7Swar
