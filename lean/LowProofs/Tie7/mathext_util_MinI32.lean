import Generated.Ssa7.mathext_util_MinI32
import LowProofs.Tie7.mathext_util_L
/- Tie of `mathext/util.MinI32` (regenerated definition = specification); see `mathext_util_L.lean`. -/
namespace Low

/-- `MinI32(a, b)` (`int32`) is the smaller of its arguments, for ALL values (the generated definition
    only compares its arguments; a comparison of in-range representatives is the Go comparison of the type). -/
theorem Tie_mathext_util_MinI32 (a b : Int) : Gen.Ssa7.mathext_util_MinI32 a b = min a b :=
  Util.minI_ite a b

/-- arguments that are `int32` values give a `int32` value -/
theorem Tie_mathext_util_MinI32_range (a b : Int) (ha : Util.InS 32 a) (hb : Util.InS 32 b) :
    Util.InS 32 (Gen.Ssa7.mathext_util_MinI32 a b) := by
  rw [Tie_mathext_util_MinI32]; exact Util.InS_min ha hb

example : Gen.Ssa7.mathext_util_MinI32 (-3) 2 = (-3) := by decide +kernel

end Low
