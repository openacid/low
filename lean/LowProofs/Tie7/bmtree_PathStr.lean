import Generated.Ssa7.bmtree_PathStr
import LowProofs.Tie.bmtree_PathHeight
import LowProofs.Tie.bmtree_PathLen
import LowModel.Bmtree.Path
/-
  Tie: the definition regenerated from the SSA form of `bmtree.PathStr` equals the model's `pathStr` (the bytes of the
  string).  The one call `fmt.Sprintf("%0[1]*[2]b", l, path>>uint(32+treeHeight-l))` is EXTERNAL: its contract for exactly
  this format is the vocabulary function `GoSem7.sprintfBinPad` (binary digits, zero-padded on the left to the width;
  validated against the real `fmt` by the differential test of tools/ssa2lean7); the model's `fmtBin` is the same
  function on the range of widths that occurs (`0 ≤ l ≤ 32`).
-/
namespace Low
open Low.GoSem Low.TieL

/-- For EVERY path word `p` (no hypothesis): the Go function does not panic and returns the bytes of `pathStr p`. -/
theorem Tie_bmtree_PathStr (p : Nat) :
    Gen.Ssa7.bmtree_PathStr p = some ((pathStr p).toList.map Char.toNat) := by
  have hl : pathLen p ≤ 32 := popc_le _ _
  have hh : pathHeight p ≤ 32 := by unfold pathHeight; omega
  rw [Gen.Ssa7.bmtree_PathStr, Tie_bmtree_PathHeight, Tie_bmtree_PathLen]
  by_cases h0 : pathLen p = 0
  · simp [h0, pathStr]
  · have hne : ¬ ((pathLen p : Int) = 0) := by omega
    have e3 : addI32 (32 : Int) (pathHeight p : Int) = ((32 + pathHeight p : Nat) : Int) :=
      addI32_ofNat (a := 32) (b := pathHeight p) (by omega)
    have e4 : subI32 ((32 + pathHeight p : Nat) : Int) (pathLen p : Int) = ((32 + pathHeight p - pathLen p : Nat) : Int) :=
      subI32_ofNat (by omega) (by omega)
    have e5 : toU64 ((32 + pathHeight p - pathLen p : Nat) : Int) = 32 + pathHeight p - pathLen p :=
      toU64_ofNat_lt (by omega)
    simp only [hne, decide_false, Bool.false_eq_true, ↓reduceIte, e3, e4, e5, shrU64_eq]
    simp only [pathStr, h0, ↓reduceIte, fmtBin, binDigits, GoSem7.sprintfBinPad]
    have h1 : ¬ ((pathLen p : Int) < -1000000 ∨ 1000000 < (pathLen p : Int)) := by omega
    have h2 : ¬ ((pathLen p : Int) < 0) := by omega
    simp only [h1, h2, ↓reduceIte, String.toList_ofList, List.map_append, List.map_replicate, List.length_map,
      Int.toNat_natCast]
    rfl

example : Gen.Ssa7.bmtree_PathStr 0x0000000500000007 = some [49, 48, 49] := by decide +kernel   -- "101"
example : Gen.Ssa7.bmtree_PathStr 0 = some [] := by decide +kernel

end Low
