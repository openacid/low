import LowProofs.Tie7.bitmap_select32single_L
/-
  Tie: the definition regenerated from the SSA form of `bitmap.select32single` (unexported, used only by the tests),
  with the select index built by `IndexSelect32` (the model's `indexSelect32`), returns
    * `-1` for a negative `i`,
    * the position of the `i`-th 1-bit for `0 ≤ i < number of 1-bits`,
    * `64 * len(words)` for every `i ≥ number of 1-bits`
  — the last two together: entry `i` of the specification list `ones ws` with default `64 * ws.length`.
-/
namespace Low
open Low.GoSem Low.TieL Low.Tie2L Low.C02L Low.Tie7Sel

namespace Tie7Sel

theorem ones_length_le (ws : List Nat) : (ones ws).length ≤ 64 * ws.length := by
  exact Nat.le_trans (List.length_filter_le _ _) (by rw [List.length_range]; exact Nat.le_refl _)

theorem sidx_length (ws : List Nat) : (indexSelect32 ws).length = ((ones ws).length + 31) / 32 := by
  rw [indexSelect32_eq, List.length_map, List.length_range]

/-- the non-negative case, after the select-index lookup: `i = 32*k + f` with `0 < f < 32`, `p0` the position of
    the `32*k`-th 1-bit -/
theorem after_lookup (ws : List Nat) (hok : WordsOK ws) (n p0 w0 fuel : Nat) (sidx : List Int) (i : Int)
    (hlen : ws.length < 2 ^ 25) (hfuel : ws.length + 1 ≤ fuel)
    (hp0lt : p0 < 64 * ws.length) (hp0r : rank ws p0 = 32 * (n / 32)) (hw0 : ws[p0 / 64]? = some w0) :
    Gen.Ssa7.bitmap_select32single_loop7 fuel ws sidx i (ws.length : Int) fuel (((p0 / 64) * 64 : Nat) : Int)
        ((n % 32 : Nat) : Int) ((p0 / 64 : Nat) : Int) (w0 &&& not64 (mask (p0 % 64)))
      = some (((ones ws).getD n (64 * ws.length) : Nat) : Int) := by
  have hwlt : p0 / 64 < ws.length := by omega
  have hw064 : w0 < 2 ^ 64 := hok _ (List.mem_of_getElem? hw0)
  have hm0 : Masked w0 (p0 % 64) (w0 &&& not64 (mask (p0 % 64))) := by
    have := masked_and (d := p0 % 64) hw064 (masked_refl w0)
    rwa [Nat.zero_max] at this
  have hf0 : n % 32 + rank ws (64 * (p0 / 64) + p0 % 64) = n := by
    have e : 64 * (p0 / 64) + p0 % 64 = p0 := by omega
    rw [e, hp0r]; omega
  rw [ss_loop fuel ws sidx i hlen _ _ (p0 / 64) (n % 32) fuel rfl (by simp only [List.length_drop]; omega) hwlt
    (by simp only [Nat.reducePow]; omega)]
  by_cases hlt : n < (ones ws).length
  · have hi' : n < rank ws (64 * ws.length) := by rw [← ones_length]; exact hlt
    obtain ⟨w', wI', f', w0', c', hskip, hw', hm', hc', hf', hlt'⟩ :=
      sel32Skip_spec hi' _ _ _ _ _ _ rfl hw0 hm0 (by omega) hf0
    have hwI' : wI' < ws.length := (List.getElem?_eq_some_iff.mp hw').1
    obtain ⟨r, hr, hs, hr64⟩ := ss32_spec (wI' * 64) f' w' (by omega) hlt'
    obtain ⟨hbit, hrank, _⟩ := sel_in_word hw' hm' hc' hf' hs hr64
    have hon := ones_rank hbit
    rw [hrank] at hon
    rw [hskip]
    show ss32 ((wI' * 64 : Nat) : Int) (f' : Int) w' = _
    rw [hr, List.getD, hon, Option.getD_some]
    have e : wI' * 64 + r = 64 * wI' + r := by omega
    rw [e]
  · have hi' : rank ws (64 * ws.length) ≤ n := by rw [← ones_length]; omega
    rw [sel32Skip_none hi' _ _ _ _ _ _ rfl hw0 hm0 (by omega) hf0]
    show some _ = _
    rw [List.getD, List.getElem?_eq_none (by omega), Option.getD_none]

end Tie7Sel

/-- Domain.
    * `WordsOK ws`: every word is a uint64 (representation invariant of `[]uint64`; the masked first word is only
      then the word without its low bits).
    * `ws.length < 2^25` (the project's `BmDom`): `wordI<<6`, `base += 64/32/16/8`, `l*64` stay below `2^31`.
    * the select index is the one `IndexSelect32` builds.
    * every `int32` value `i` (any integer, in fact: `i` only goes through `< 0`, `>> 5`, `& 31`).
    Fuel: every `fuel ≥ len(words) + 1`.  No panic anywhere in this domain. -/
theorem Tie_bitmap_select32single (ws : List Nat) (hok : WordsOK ws) (i : Int) (fuel : Nat)
    (hlen : ws.length < 2 ^ 25) (hfuel : ws.length + 1 ≤ fuel) :
    Gen.Ssa7.bitmap_select32single fuel ws ((indexSelect32 ws).map Int.ofNat) i
      = some (if i < 0 then -1 else (((ones ws).getD i.toNat (64 * ws.length) : Nat) : Int)) := by
  by_cases hneg : i < 0
  · rw [Gen.Ssa7.bitmap_select32single]
    simp only [hneg, decide_true, ↓reduceIte]
  obtain ⟨n, rfl⟩ : ∃ n : Nat, i = (n : Int) := ⟨i.toNat, by omega⟩
  have hol := ones_length_le ws
  have hsl := sidx_length ws
  have hl32 : toI32 (len ws) = (ws.length : Int) := by rw [len_eq]; exact toI32_ofNat_lt (by omega)
  have hsl' : toI32 (len ((indexSelect32 ws).map Int.ofNat)) = ((indexSelect32 ws).length : Int) := by
    rw [len_eq, List.length_map]; exact toI32_ofNat_lt (by omega)
  have h31 : toI64 (((n % 32 : Nat) : Nat) : Int) = ((n % 32 : Nat) : Int) := toI64_ofNat_lt (by omega)
  have hml : ws.length * 64 < 9223372036854775808 := by omega
  have hm64 : toI32 (mulI64 (len ws) 64) = ((64 * ws.length : Nat) : Int) := by
    rw [len_eq, mulI64, show ((64 : Int)) = ((64 : Nat) : Int) from rfl, ← Int.natCast_mul, wrap64_ofNat hml,
      toI32_ofNat_lt (by omega), Nat.mul_comm]
  rw [Gen.Ssa7.bitmap_select32single]
  simp only [hneg, decide_false, Bool.false_eq_true, ↓reduceIte, hl32, hsl', hm64, shrI32_5_ofNat, ge_iff_le,
    Int.ofNat_le, decide_eq_true_eq, andI32_31_ofNat, h31, index_ofNat, List.getElem?_map, Int.toNat_natCast]
  by_cases hge : (indexSelect32 ws).length ≤ n / 32
  · rw [if_pos hge, List.getD, List.getElem?_eq_none (by omega), Option.getD_none]
  · rw [if_neg hge]
    have h32 : 32 * (n / 32) < (ones ws).length := by omega
    obtain ⟨p0, hidx, _, hp0lt, hp0b, hp0r⟩ := sidx_entry h32
    have ek : 32 * (n / 32) / 32 = n / 32 := by omega
    rw [ek] at hidx hp0r
    have hwlt : p0 / 64 < ws.length := by omega
    have hw0 : ws[p0 / 64]? = some ws[p0 / 64] := List.getElem?_eq_getElem hwlt
    simp only [hidx, Option.map_some, Option.bind_some, Int.ofNat_eq_natCast, shrI32_6_ofNat, index_ofNat, hw0,
      andI32_63_ofNat, tblMask_ofNat (show p0 % 64 < 65 by omega), notU64, andU64_eq,
      shlI32_6_ofNat (show p0 / 64 * 64 < 2147483648 by omega)]
    by_cases h0 : n % 32 = 0
    · have hon := ones_rank hp0b
      rw [hp0r] at hon
      have en : 32 * (n / 32) = n := by omega
      rw [en] at hon
      simp only [h0, Int.natCast_eq_zero, ↓reduceIte, List.getD, hon, Option.getD_some]
    · simp only [Int.natCast_eq_zero, h0, ↓reduceIte]
      exact after_lookup ws hok n p0 _ fuel _ _ hlen hfuel hp0lt hp0r hw0

example : Gen.Ssa7.bitmap_select32single 4 [0x12, 0, 0x100] [1] 1 = some 4 := by decide +kernel
example : Gen.Ssa7.bitmap_select32single 4 [0x12, 0, 0x100] [1] 2 = some 136 := by decide +kernel
example : Gen.Ssa7.bitmap_select32single 4 [0x12, 0, 0x100] [1] 3 = some 192 := by decide +kernel
example : Gen.Ssa7.bitmap_select32single 4 [0x12, 0, 0x100] [1] 32 = some 192 := by decide +kernel
example : Gen.Ssa7.bitmap_select32single 4 [0x12, 0, 0x100] [1] (-5) = some (-1) := by decide +kernel
example : indexSelect32 [0x12, 0, 0x100] = [1] ∧ ones [0x12, 0, 0x100] = [1, 4, 136] := by decide +kernel

/-- the theorem's hypotheses are satisfiable -/
example := Tie_bitmap_select32single [0x12, 0, 0x100] (by unfold WordsOK; decide +kernel) 2 4 (by decide +kernel) (by decide +kernel)

end Low
