import Generated.Ssa7.mathext_util_MinU8
import LowProofs.Tie7.mathext_util_L
/- Tie of `mathext/util.MinU8` (regenerated definition = specification); see `mathext_util_L.lean`. -/
namespace Low

/-- `MinU8(a, b)` (`uint8`) is the smaller of its arguments, for ALL values (the generated definition
    only compares its arguments; a comparison of in-range representatives is the Go comparison of the type). -/
theorem Tie_mathext_util_MinU8 (a b : Nat) : Gen.Ssa7.mathext_util_MinU8 a b = min a b :=
  Util.minU_ite a b

/-- arguments that are `uint8` values give a `uint8` value -/
theorem Tie_mathext_util_MinU8_range (a b : Nat) (ha : Util.InU 8 a) (hb : Util.InU 8 b) :
    Util.InU 8 (Gen.Ssa7.mathext_util_MinU8 a b) := by
  rw [Tie_mathext_util_MinU8]; exact Util.InU_min ha hb

example : Gen.Ssa7.mathext_util_MinU8 3 2 = 2 := by decide +kernel

end Low
