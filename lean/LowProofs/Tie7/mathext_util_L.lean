/-
  Specification vocabulary for the ties of package `mathext/util` (30 loop-free functions `Min*`, `Max*`, `Clap*` on
  the ten Go integer types).  The package has no hand-written model in `LowModel` and no property in
  `properties.jsonl`; the specification is stated here, next to the ties, in terms of Lean's own `min` / `max`:

      MinT(a, b)  = min a b            MaxT(a, b) = max a b            ClapT(n, lo, hi) = min (max n lo) hi

  on the mathematical values (`Int` for the signed types, `Nat` for the unsigned ones).  The generated definitions
  contain only comparisons of the arguments, so the equations hold for ALL values, in particular for every value of
  the Go type; `InS w` / `InU w` (the range of a `w`-bit type) occur only in the closure statements
  "arguments in range ⇒ result in range".

  `Clap` ("clamp") with `lo > hi`: the source documents nothing; the code returns `hi` for every `n`
  (`clampI_gt`, `clampU_gt`): first `n` is raised to `lo`, then — `lo > hi` — lowered to `hi`.  `min (max n lo) hi` says the same.
-/
namespace Low.Util

/-- the values of a signed Go integer type of `w` bits -/
def InS (w : Nat) (x : Int) : Prop := -(2 : Int) ^ (w - 1) ≤ x ∧ x < (2 : Int) ^ (w - 1)
/-- the values of an unsigned Go integer type of `w` bits -/
def InU (w : Nat) (x : Nat) : Prop := x < 2 ^ w

def clampI (n lo hi : Int) : Int := min (max n lo) hi
def clampU (n lo hi : Nat) : Nat := min (max n lo) hi

theorem clampI_mem (n lo hi : Int) (h : lo ≤ hi) : lo ≤ clampI n lo hi ∧ clampI n lo hi ≤ hi :=
  ⟨Int.le_min.mpr ⟨Int.le_max_right n lo, h⟩, Int.min_le_right _ hi⟩
theorem clampI_id (n lo hi : Int) (h1 : lo ≤ n) (h2 : n ≤ hi) : clampI n lo hi = n := by
  rw [clampI, Int.max_eq_left h1, Int.min_eq_left h2]
/-- bounds the wrong way round: the upper bound wins -/
theorem clampI_gt (n lo hi : Int) (h : hi < lo) : clampI n lo hi = hi :=
  Int.min_eq_right (Int.le_trans (Int.le_of_lt h) (Int.le_max_right n lo))
theorem clampU_mem (n lo hi : Nat) (h : lo ≤ hi) : lo ≤ clampU n lo hi ∧ clampU n lo hi ≤ hi :=
  ⟨Nat.le_min.mpr ⟨Nat.le_max_right n lo, h⟩, Nat.min_le_right _ hi⟩
theorem clampU_id (n lo hi : Nat) (h1 : lo ≤ n) (h2 : n ≤ hi) : clampU n lo hi = n := by
  rw [clampU, Nat.max_eq_left h1, Nat.min_eq_left h2]
theorem clampU_gt (n lo hi : Nat) (h : hi < lo) : clampU n lo hi = hi :=
  Nat.min_eq_right (Nat.le_trans (Nat.le_of_lt h) (Nat.le_max_right n lo))

theorem InS_min {w : Nat} {a b : Int} (ha : InS w a) (hb : InS w b) : InS w (min a b) := by
  rw [Int.min_def]; split <;> assumption
theorem InS_max {w : Nat} {a b : Int} (ha : InS w a) (hb : InS w b) : InS w (max a b) := by
  rw [Int.max_def]; split <;> assumption
theorem InS_clamp {w : Nat} {n lo hi : Int} (hn : InS w n) (hl : InS w lo) (hh : InS w hi) : InS w (clampI n lo hi) :=
  InS_min (InS_max hn hl) hh
theorem InU_min {w : Nat} {a b : Nat} (ha : InU w a) (hb : InU w b) : InU w (min a b) := by
  rw [Nat.min_def]; split <;> assumption
theorem InU_max {w : Nat} {a b : Nat} (ha : InU w a) (hb : InU w b) : InU w (max a b) := by
  rw [Nat.max_def]; split <;> assumption
theorem InU_clamp {w : Nat} {n lo hi : Nat} (hn : InU w n) (hl : InU w lo) (hh : InU w hi) : InU w (clampU n lo hi) :=
  InU_min (InU_max hn hl) hh

theorem minI_ite (a b : Int) : (if decide (a < b) = true then a else b) = min a b := by
  simp only [decide_eq_true_eq]
  split
  · exact (Int.min_eq_left (Int.le_of_lt ‹_›)).symm
  · exact (Int.min_eq_right (Int.not_lt.mp ‹_›)).symm
theorem maxI_ite (a b : Int) : (if decide (a > b) = true then a else b) = max a b := by
  simp only [decide_eq_true_eq]
  split
  · exact (Int.max_eq_left (Int.le_of_lt ‹_›)).symm
  · exact (Int.max_eq_right (Int.not_lt.mp ‹_›)).symm
theorem minU_ite (a b : Nat) : (if decide (a < b) = true then a else b) = min a b := by
  simp only [decide_eq_true_eq]
  split
  · exact (Nat.min_eq_left (Nat.le_of_lt ‹_›)).symm
  · exact (Nat.min_eq_right (Nat.not_lt.mp ‹_›)).symm
theorem maxU_ite (a b : Nat) : (if decide (a > b) = true then a else b) = max a b := by
  simp only [decide_eq_true_eq]
  split
  · exact (Nat.max_eq_left (Nat.le_of_lt ‹_›)).symm
  · exact (Nat.max_eq_right (Nat.not_lt.mp ‹_›)).symm

/-- first `n` is raised to `lo`, then the result is lowered to `hi`: the second test, emitted in both branches of the
    first, is `min · hi` applied to the result of the first, which is `max n lo` -/
theorem clampI_ite (n lo hi : Int) :
    (if decide (n < lo) = true then (if decide (lo > hi) = true then hi else lo)
      else (if decide (n > hi) = true then hi else n)) = clampI n lo hi := by
  rw [clampI, Int.max_comm, Int.min_comm, ← maxI_ite lo n, ← minI_ite hi]
  exact (apply_ite (fun t => if decide (hi < t) = true then hi else t) (decide (n < lo) = true) lo n).symm
theorem clampU_ite (n lo hi : Nat) :
    (if decide (n < lo) = true then (if decide (lo > hi) = true then hi else lo)
      else (if decide (n > hi) = true then hi else n)) = clampU n lo hi := by
  rw [clampU, Nat.max_comm, Nat.min_comm, ← maxU_ite lo n, ← minU_ite hi]
  exact (apply_ite (fun t => if decide (hi < t) = true then hi else t) (decide (n < lo) = true) lo n).symm

end Low.Util
