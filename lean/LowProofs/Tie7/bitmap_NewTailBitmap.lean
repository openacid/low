import Generated.Ssa7.bitmap_NewTailBitmap
import LowProofs.Tie3.Lemmas
import LowModel.Bitmap.Tail
/-
  Tie: the definition regenerated from the SSA form of the constructor `bitmap.NewTailBitmap`
  (`&TailBitmap{Offset: offset, reclaimed: offset, Words: make([]uint64, 0, reclaimThreshold>>6)}`) returns the tuple
  of the fields of the new struct in declaration order, `(Offset, Words, reclaimed)`; it equals the model's
  `newTailBitmap offset` (the state every C15 history starts from).  The package-level variable `reclaimThreshold`
  is an argument of the generated definition, as in `Tie_bitmap_TailBitmap_Compact`.
-/
namespace Low
open Low.GoSem Low.GoSem3 Low.Tie2L

/-- Domain: every `offset`; `reclaimThreshold ≥ 0` (it is `65536` unless the `verif` build hook changes it).
    No panic; the result is the model's initial state. -/
theorem Tie_bitmap_NewTailBitmap (offset thr : Int) (hthr : 0 ≤ thr) :
    Gen.Ssa7.bitmap_NewTailBitmap offset thr
      = some ((newTailBitmap offset).offset, (newTailBitmap offset).words, (newTailBitmap offset).reclaimed) := by
  rw [Gen.Ssa7.bitmap_NewTailBitmap]
  have h : (0 : Int) ≤ shrI64 thr 6 := by rw [shrI64_6]; omega
  simp only [makeSliceCap, Int.le_refl, h, and_self, ↓reduceIte, Option.bind_some, newTailBitmap]
  rfl

/-- OUTSIDE the domain: with a negative `reclaimThreshold` the constructor panics (`make` with a negative capacity). -/
theorem Tie_bitmap_NewTailBitmap_neg (offset thr : Int) (hthr : thr < 0) :
    Gen.Ssa7.bitmap_NewTailBitmap offset thr = none := by
  rw [Gen.Ssa7.bitmap_NewTailBitmap]
  have h' : ¬ ((0 : Int) ≤ 0 ∧ (0 : Int) ≤ shrI64 thr 6) := by rw [shrI64_6]; omega
  simp only [makeSliceCap, h', ↓reduceIte, Option.bind_none]

example : Gen.Ssa7.bitmap_NewTailBitmap 128 65536 = some (128, [], 128) := by decide +kernel
example : Gen.Ssa7.bitmap_NewTailBitmap 128 (-64) = none := by decide +kernel

end Low
