import Generated.Ssa7.iohelper_AtToWriter
import LowProofs.Tie.Lemmas
import LowModel.Iohelper
/-
  Tie: the definition regenerated from the SSA form of `iohelper.AtToWriter`
  (`NewSectionWriter(w, offset, maxOffset-offset)` converted to `io.Writer`) equals the model's `atToWriter offset`
  for ALL `offset`.  The interface value holds the pointer to the new struct: the result is the callee's tuple
  `(base, off, limit)`.
-/
namespace Low

theorem Tie_iohelper_AtToWriter (offset : Int) :
    Gen.Ssa7.iohelper_AtToWriter offset
      = ((atToWriter offset).base, (atToWriter offset).off, (atToWriter offset).limit) := rfl

/-- for a non-negative offset the section ends at the largest int64 ("no practical end") -/
theorem Tie_iohelper_AtToWriter_limit (offset : Int) (h0 : 0 ≤ offset) (h1 : offset ≤ 0x7fffffffffffffff) :
    Gen.Ssa7.iohelper_AtToWriter offset = (offset, offset, 0x7fffffffffffffff) := by
  rw [Tie_iohelper_AtToWriter]
  simp only [atToWriter, newSectionWriter, maxOffset]
  have e1 : wrap64 (0x7fffffffffffffff - offset) = 0x7fffffffffffffff - offset := by
    exact wrap64_id (by omega) (by omega)
  rw [e1]
  have e2 : wrap64 (offset + (0x7fffffffffffffff - offset)) = 0x7fffffffffffffff := by
    have : offset + (0x7fffffffffffffff - offset) = 0x7fffffffffffffff := by omega
    rw [this]; decide
  rw [e2]

example : Gen.Ssa7.iohelper_AtToWriter 100 = (100, 100, 0x7fffffffffffffff) := by decide +kernel

end Low
