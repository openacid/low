import Generated.Ssa7.mathext_util_ClapI32
import LowProofs.Tie7.mathext_util_L
/- Tie of `mathext/util.ClapI32` (regenerated definition = specification); see `mathext_util_L.lean`. -/
namespace Low

/-- `ClapI32(n, min, max)` (`int32`) is the clamp of `n` into `[min, max]`, for ALL values (the generated definition only
    compares its arguments).  When `min > max` the result is `max` (`Util.clampI_gt`; the source documents nothing). -/
theorem Tie_mathext_util_ClapI32 (n lo hi : Int) : Gen.Ssa7.mathext_util_ClapI32 n lo hi = Util.clampI n lo hi :=
  Util.clampI_ite n lo hi

/-- arguments that are `int32` values give a `int32` value -/
theorem Tie_mathext_util_ClapI32_range (n lo hi : Int) (hn : Util.InS 32 n) (hl : Util.InS 32 lo) (hh : Util.InS 32 hi) :
    Util.InS 32 (Gen.Ssa7.mathext_util_ClapI32 n lo hi) := by
  rw [Tie_mathext_util_ClapI32]; exact Util.InS_clamp hn hl hh

example : Gen.Ssa7.mathext_util_ClapI32 9 (-1) 5 = 5 := by decide +kernel
-- bounds the wrong way round: the upper bound wins
example : Gen.Ssa7.mathext_util_ClapI32 0 5 (-1) = (-1) := by decide +kernel

end Low
