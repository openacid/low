import Generated.Ssa7.mathext_util_MinI64
import LowProofs.Tie7.mathext_util_L
/- Tie of `mathext/util.MinI64` (regenerated definition = specification); see `mathext_util_L.lean`. -/
namespace Low

/-- `MinI64(a, b)` (`int64`) is the smaller of its arguments, for ALL values (the generated definition
    only compares its arguments; a comparison of in-range representatives is the Go comparison of the type). -/
theorem Tie_mathext_util_MinI64 (a b : Int) : Gen.Ssa7.mathext_util_MinI64 a b = min a b :=
  Util.minI_ite a b

/-- arguments that are `int64` values give a `int64` value -/
theorem Tie_mathext_util_MinI64_range (a b : Int) (ha : Util.InS 64 a) (hb : Util.InS 64 b) :
    Util.InS 64 (Gen.Ssa7.mathext_util_MinI64 a b) := by
  rw [Tie_mathext_util_MinI64]; exact Util.InS_min ha hb

example : Gen.Ssa7.mathext_util_MinI64 (-3) 2 = (-3) := by decide +kernel

end Low
