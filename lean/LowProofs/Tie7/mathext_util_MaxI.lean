import Generated.Ssa7.mathext_util_MaxI
import LowProofs.Tie7.mathext_util_L
/- Tie of `mathext/util.MaxI` (regenerated definition = specification); see `mathext_util_L.lean`. -/
namespace Low

/-- `MaxI(a, b)` (`int`) is the larger of its arguments, for ALL values (the generated definition
    only compares its arguments; a comparison of in-range representatives is the Go comparison of the type). -/
theorem Tie_mathext_util_MaxI (a b : Int) : Gen.Ssa7.mathext_util_MaxI a b = max a b :=
  Util.maxI_ite a b

/-- arguments that are `int` values give a `int` value -/
theorem Tie_mathext_util_MaxI_range (a b : Int) (ha : Util.InS 64 a) (hb : Util.InS 64 b) :
    Util.InS 64 (Gen.Ssa7.mathext_util_MaxI a b) := by
  rw [Tie_mathext_util_MaxI]; exact Util.InS_max ha hb

example : Gen.Ssa7.mathext_util_MaxI (-3) 2 = 2 := by decide +kernel

end Low
