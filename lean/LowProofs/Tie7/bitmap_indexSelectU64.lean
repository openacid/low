import Generated.Ssa7.bitmap_indexSelectU64
import LowProofs.Tie7.bitmap_indexSelectU64_L
/-
  Tie: the definition regenerated from the SSA form of `bitmap.indexSelectU64` (unexported, used only by the tests)
  equals the small model `indexSelectU64` below, for EVERY uint64 `w`.

  The Go function is the classic SWAR popcount (pairs, nibbles, bytes) followed by the multiplication by
  `0x0101010101010101`, which turns the 8 byte counts into the 8 prefix sums, and `| 0x8080808080808080`.
  Proof: `w` is split into its 8 bytes (`Tie7Swar.bytes8`); every step up to the multiplication acts on each byte
  lane separately (`Tie7Swar.pack_*`), the composed per-byte function is the byte popcount (a finite table over
  `Fin 256`), and the multiplication is linear arithmetic on 8 lanes with values `≤ 8` (`omega`).
-/
namespace Low
open Low.GoSem Low.TieL Low.Tie7Swar

/-- MODEL of `indexSelectU64(w)`: the uint64 whose byte `k` (`k < 8`, least significant first) is
    `0x80 | (number of 1-bits among the low 8*(k+1) bits of w)`.  Each count is at most 64, so it fits in the low
    7 bits of its byte and bit 7 is the flag that `selectU64Indexed` uses as a borrow guard. -/
def indexSelectU64 (w : Nat) : Nat :=
  pack [0x80 ||| popc w 8, 0x80 ||| popc w 16, 0x80 ||| popc w 24, 0x80 ||| popc w 32,
        0x80 ||| popc w 40, 0x80 ||| popc w 48, 0x80 ||| popc w 56, 0x80 ||| popc w 64]

namespace Tie7Swar

theorem or128 : ∀ p : Fin 128, 0x80 ||| p.val = 128 + p.val := by decide +kernel

theorem or128' {p : Nat} (h : p < 128) : 0x80 ||| p = 128 + p := or128 ⟨p, h⟩

theorem or128'' {p : Nat} (h : p < 128) : p ||| 0x80 = 128 + p := by rw [Nat.or_comm]; exact or128' h

/-- `a := w - ((w >> 1) & 0x55)` on one byte -/
def fA (a : Nat) : Nat := a - ((a >>> 1) &&& 0x55)
/-- `b := (a & 0x33) + ((a >> 2) & 0x33)` on one byte -/
def fB (a : Nat) : Nat := (fA a &&& 0x33) + ((fA a >>> 2) &&& 0x33)
/-- `c := (b + (b >> 4)) & 0x0f` on one byte -/
def fC (a : Nat) : Nat := (fB a + fB a / 16) % 16

/-- finite table: on every byte the pair step does not borrow, the nibble counts are at most 4, and the composed
    function is the byte popcount -/
theorem byte_table : ∀ a : Fin 256,
    ((a.val >>> 1) &&& 0x55) ≤ a.val ∧ fA a.val < 256 ∧ (fB a.val ≤ 68 ∧ fB a.val % 16 ≤ 4) ∧
      fC a.val = popc a.val 8 := by decide +kernel

theorem pack_mod16 : ∀ (as : List Nat), (∀ a ∈ as, a ≤ 68 ∧ a % 16 ≤ 4) → pack as % 16 ≤ 4
  | [], _ => by simp [pack]
  | a :: r, h => by
    have := (h a (List.mem_cons_self ..)).2
    simp only [pack]
    omega

/-- `(b + (b >> 4)) & 0x0f0f…0f` lane by lane: the shift is not masked before the addition, so the low nibble of the
    next lane is added into the high nibble of this one; with nibble values `≤ 4` no lane overflows and the mask
    removes the cross-lane part. -/
theorem pack_fold4 : ∀ (as : List Nat), (∀ a ∈ as, a ≤ 68 ∧ a % 16 ≤ 4) →
    (pack as + (pack as >>> 4)) &&& pack (List.replicate as.length 15) = pack (as.map fun a => (a + a / 16) % 16)
  | [], _ => by simp [pack]
  | a :: r, h => by
    have ha := h a (List.mem_cons_self ..)
    have hr : ∀ x ∈ r, x ≤ 68 ∧ x % 16 ≤ 4 := fun x hx => h x (List.mem_cons_of_mem _ hx)
    have hm := pack_mod16 r hr
    have ih := pack_fold4 r hr
    rw [List.length_cons, pack_replicate_succ, List.map_cons]
    simp only [pack]
    generalize pack r = x at hm ih ⊢
    generalize pack (List.replicate r.length 15) = y at ih ⊢
    have e : a + 256 * x + (a + 256 * x) >>> 4 = (a + a / 16 + 16 * (x % 16)) + 256 * (x + x >>> 4) := by
      omega
    have hL : a + a / 16 + 16 * (x % 16) < 256 := by omega
    rw [e, lane_and _ _ _ _ hL (by decide : 15 < 256), ih]
    have e2 : (a + a / 16 + 16 * (x % 16)) &&& 15 = (a + a / 16) % 16 := by
      rw [show (15 : Nat) = 2 ^ 4 - 1 from rfl, Nat.and_two_pow_sub_one_eq_mod]
      omega
    rw [e2]

theorem pack_lt68 : ∀ (as : List Nat), (∀ a ∈ as, a ≤ 68 ∧ a % 16 ≤ 4) → 3 * pack as < 256 ^ as.length
  | [], _ => by simp [pack]
  | a :: r, h => by
    have h1 := (h a (List.mem_cons_self ..)).1
    have h2 := pack_lt68 r (fun x hx => h x (List.mem_cons_of_mem _ hx))
    simp only [pack, List.length_cons, Nat.pow_succ]
    omega

theorem quo3 : GoSem7.quoU64 18446744073709551615 3 = some (pack (List.replicate 8 0x55)) := by decide
theorem quo5 : GoSem7.quoU64 18446744073709551615 5 = some (pack (List.replicate 8 0x33)) := by decide
theorem quo17 : GoSem7.quoU64 18446744073709551615 17 = some (pack (List.replicate 8 0x0f)) := by decide

/-- the SWAR popcount proper: after `c := (b + (b >> 4)) & mask00001111` byte `k` of `c` is the popcount of byte `k`
    of `w` -/
theorem swar_bytes (w : Nat) (hw : w < 2 ^ 64) :
    andU64 (addU64
        (addU64 (andU64 (subU64 w (andU64 (shrU64 w 1) (pack (List.replicate 8 0x55)))) (pack (List.replicate 8 0x33)))
          (andU64 (shrU64 (subU64 w (andU64 (shrU64 w 1) (pack (List.replicate 8 0x55)))) 2)
            (pack (List.replicate 8 0x33))))
        (shrU64 (addU64 (andU64 (subU64 w (andU64 (shrU64 w 1) (pack (List.replicate 8 0x55))))
              (pack (List.replicate 8 0x33)))
          (andU64 (shrU64 (subU64 w (andU64 (shrU64 w 1) (pack (List.replicate 8 0x55)))) 2)
            (pack (List.replicate 8 0x33)))) 4))
      (pack (List.replicate 8 0x0f))
    = pack ((bytes8 w).map fun a => popc a 8) := by
  have hb := bytes8_bytes w
  have hlen : (bytes8 w).length = 8 := rfl
  have hM : (256 : Nat) ^ 8 = M64 := by decide
  have h4 : andU64 (shrU64 w 1) (pack (List.replicate 8 0x55)) = pack ((bytes8 w).map fun a => (a >>> 1) &&& 0x55) := by
    rw [andU64_eq, shrU64_lt w (by decide : 1 < 64)]
    conv => lhs; rw [← pack_bytes8 w hw, ← hlen]
    exact pack_shr_and 1 0x55 (by decide) (by decide) _ hb
  have hsub := pack_sub (fun a => a) (fun a => (a >>> 1) &&& 0x55) (bytes8 w)
    (fun b hbm => (byte_table ⟨b, hb b hbm⟩).1)
  rw [List.map_id', pack_bytes8 w hw] at hsub
  have h5 : subU64 w (andU64 (shrU64 w 1) (pack (List.replicate 8 0x55))) = pack ((bytes8 w).map fA) := by
    rw [h4, subU64, sub64_of_le hsub.1 (by simp only [M64]; simp only [Nat.reducePow] at hw; exact hw)]
    exact hsub.2
  have hbA : Bytes ((bytes8 w).map fA) := hb.map (fun a ha => (byte_table ⟨a, ha⟩).2.1)
  have hlenA : ((bytes8 w).map fA).length = 8 := by rw [List.length_map]; rfl
  have h6 : andU64 (pack ((bytes8 w).map fA)) (pack (List.replicate 8 0x33))
      = pack ((bytes8 w).map fun a => fA a &&& 0x33) := by
    rw [andU64_eq]
    conv => lhs; rw [← hlenA]
    rw [pack_and 0x33 (by decide) _ hbA, List.map_map]
    rfl
  have h8 : andU64 (shrU64 (pack ((bytes8 w).map fA)) 2) (pack (List.replicate 8 0x33))
      = pack ((bytes8 w).map fun a => (fA a >>> 2) &&& 0x33) := by
    rw [andU64_eq, shrU64_lt _ (by decide : 2 < 64)]
    conv => lhs; rw [← hlenA]
    rw [pack_shr_and 2 0x33 (by decide) (by decide) _ hbA, List.map_map]
    rfl
  have hnib : ∀ a ∈ (bytes8 w).map fB, a ≤ 68 ∧ a % 16 ≤ 4 := by
    intro x hx
    obtain ⟨a, ha, rfl⟩ := List.mem_map.mp hx
    exact (byte_table ⟨a, hb a ha⟩).2.2.1
  have hbB : Bytes ((bytes8 w).map fB) := fun x hx => by have := (hnib x hx).1; omega
  have hltB : pack ((bytes8 w).map fB) < M64 := by
    have := pack_lt _ hbB
    rw [List.length_map, hlen, hM] at this
    exact this
  have h9 : addU64 (pack ((bytes8 w).map fun a => fA a &&& 0x33)) (pack ((bytes8 w).map fun a => (fA a >>> 2) &&& 0x33))
      = pack ((bytes8 w).map fB) := by
    have e := pack_add (fun a => fA a &&& 0x33) (fun a => (fA a >>> 2) &&& 0x33) (bytes8 w)
    have e' : pack ((bytes8 w).map fun a => (fA a &&& 0x33) + ((fA a >>> 2) &&& 0x33)) = pack ((bytes8 w).map fB) := rfl
    rw [addU64, add64_of_lt (by rw [e, e']; exact hltB), e, e']
  have hfold := pack_fold4 _ hnib
  rw [List.length_map, hlen, List.map_map] at hfold
  have hbC : Bytes ((bytes8 w).map fC) :=
    hb.map (fun a _ => by unfold fC; omega)
  rw [h5, h6, h8, h9, shrU64_lt _ (by decide : 4 < 64), andU64_eq, addU64]
  -- the sum `b + (b >> 4)` does not wrap: it is below `2^64` because `b` has bytes `≤ 68`
  have hsum : pack ((bytes8 w).map fB) + pack ((bytes8 w).map fB) >>> 4 < M64 := by
    have h3 := pack_lt68 _ hnib
    rw [List.length_map, hlen] at h3
    simp only [M64] at h3 ⊢
    omega
  rw [add64_of_lt hsum, hfold]
  exact pack_map_congr hb (fun a ha => (byte_table ⟨a, ha⟩).2.2.2)

/-- the multiplication by `0x0101010101010101` on 8 byte lanes with values `≤ 8` gives the prefix sums -/
theorem mul_prefix (c0 c1 c2 c3 c4 c5 c6 c7 : Nat)
    (h0 : c0 ≤ 8) (h1 : c1 ≤ 8) (h2 : c2 ≤ 8) (h3 : c3 ≤ 8) (h4 : c4 ≤ 8) (h5 : c5 ≤ 8) (h6 : c6 ≤ 8) (h7 : c7 ≤ 8) :
    mulU64 (pack [c0, c1, c2, c3, c4, c5, c6, c7]) 72340172838076673
      = pack [c0, c0 + c1, c0 + c1 + c2, c0 + c1 + c2 + c3, c0 + c1 + c2 + c3 + c4, c0 + c1 + c2 + c3 + c4 + c5,
          c0 + c1 + c2 + c3 + c4 + c5 + c6, c0 + c1 + c2 + c3 + c4 + c5 + c6 + c7] := by
  simp only [mulU64, pack, M64]
  omega

end Tie7Swar


/-- Domain: every uint64 `w` (`w < 2^64` is the representation invariant of a `uint64` argument).  The function has
    no loop, no memory access and no panic (the three divisions have non-zero constant divisors). -/
theorem Tie_bitmap_indexSelectU64 (w : Nat) (hw : w < 2 ^ 64) :
    Gen.Ssa7.bitmap_indexSelectU64 w = some (indexSelectU64 w) := by
  have hsw := swar_bytes w hw
  have hc : ∀ k, popc (byteOf w k) 8 ≤ 8 := fun k => popc_le _ 8
  have p0 : popc w 0 = 0 := rfl
  have p1 := popc_succ_byte w 0
  have p2 := popc_succ_byte w 1
  have p3 := popc_succ_byte w 2
  have p4 := popc_succ_byte w 3
  have p5 := popc_succ_byte w 4
  have p6 := popc_succ_byte w 5
  have p7 := popc_succ_byte w 6
  have p8 := popc_succ_byte w 7
  simp only [Nat.reduceMul, Nat.reduceAdd, Nat.mul_zero, p0, Nat.zero_add] at p1 p2 p3 p4 p5 p6 p7 p8
  unfold Gen.Ssa7.bitmap_indexSelectU64
  simp only [quo3, quo5, quo17, Option.bind_some]
  rw [hsw]
  simp only [bytes8, List.map_cons, List.map_nil]
  -- the prefix sums of the byte counts are the prefix popcounts
  rw [mul_prefix _ _ _ _ _ _ _ _ (hc 0) (hc 1) (hc 2) (hc 3) (hc 4) (hc 5) (hc 6) (hc 7),
    ← p1, ← p2, ← p3, ← p4, ← p5, ← p6, ← p7, ← p8]
  have hbytes : Bytes [popc w 8, popc w 16, popc w 24, popc w 32, popc w 40, popc w 48, popc w 56, popc w 64] := by
    intro a ha
    simp only [List.mem_cons, List.not_mem_nil, or_false] at ha
    rcases ha with rfl | rfl | rfl | rfl | rfl | rfl | rfl | rfl <;>
      exact Nat.lt_of_le_of_lt (popc_le w _) (by decide)
  have hor : (9259542123273814144 : Nat) = pack (List.replicate 8 0x80) := by decide
  rw [orU64_eq, hor]
  refine congrArg some ((pack_or 0x80 (by decide) _ hbytes).trans ?_)
  simp only [List.map_cons, List.map_nil, Nat.or_comm _ 128, indexSelectU64]

theorem indexSelectU64_bytes (w : Nat) :
    Bytes [0x80 ||| popc w 8, 0x80 ||| popc w 16, 0x80 ||| popc w 24, 0x80 ||| popc w 32,
      0x80 ||| popc w 40, 0x80 ||| popc w 48, 0x80 ||| popc w 56, 0x80 ||| popc w 64] := by
  intro a ha
  have h : ∀ n, n ≤ 64 → 0x80 ||| popc w n < 256 := fun n hn =>
    Nat.or_lt_two_pow (n := 8) (by decide) (Nat.lt_of_le_of_lt (popc_le w n) (by omega))
  simp only [List.mem_cons, List.not_mem_nil, or_false] at ha
  rcases ha with rfl | rfl | rfl | rfl | rfl | rfl | rfl | rfl <;> exact h _ (by decide)

/-- the model, byte by byte (what the Go comment promises: "element a[i] is the count of 1 in the least (i+1)*8 bits",
    plus the flag bit) -/
theorem indexSelectU64_byte (w k : Nat) (hk : k < 8) :
    (indexSelectU64 w >>> (8 * k)) % 256 = 0x80 ||| popc w (8 * (k + 1)) := by
  rw [indexSelectU64, pack_byte _ k (indexSelectU64_bytes w)]
  have hk' : k = 0 ∨ k = 1 ∨ k = 2 ∨ k = 3 ∨ k = 4 ∨ k = 5 ∨ k = 6 ∨ k = 7 := by omega
  rcases hk' with rfl | rfl | rfl | rfl | rfl | rfl | rfl | rfl <;> rfl

example : Gen.Ssa7.bitmap_indexSelectU64 0xFFFFFFFFFFFFFFFF = some 0xC0B8B0A8A0989088 := by decide +kernel
example : indexSelectU64 0xFFFFFFFFFFFFFFFF = 0xC0B8B0A8A0989088 := by decide +kernel
example : Gen.Ssa7.bitmap_indexSelectU64 0x8000000000000101 = some 0x8382828282828281 := by decide +kernel
example : indexSelectU64 0 = 0x8080808080808080 := by decide +kernel

example := Tie_bitmap_indexSelectU64 0x8000000000000101 (by decide +kernel)

end Low
