import Generated.Ssa7.bitmap_initSelectLookup
import LowProofs.Tie3.Lemmas
import LowProofs.Tie2.bitmap_Select_L
import LowModel.GoSem2
/-
  Tie: the definition generated from the SSA form of `bitmap.initSelectLookup` (two nested counting loops that fill
  the package-level array `select8Lookup`, threaded through the code as a functional list that starts as 2048 zeros)
  computes exactly the model table `Low.select8Table`.

  The proof is symbolic (the kernel cannot evaluate the 2048 stores at fuel 257 in reasonable time):
    * `loop6_spec`: an instance of the inner loop started at column `j` of row `i` with byte `w` overwrites
      positions `8*i+j … 8*i+7` with `sel8Row (8-j) w` and passes the buffer to the continuation with `i+1`;
    * `loop3_spec`: the outer loop started at row `i` keeps the rows before `i` and overwrites the zeros after them
      with the model rows `i … 255`.
-/
namespace Low
open Low.GoSem Low.GoSem3 Low.Tie2L Low.Tie3L

namespace Tie7L

theorem toU8_ofNat_lt {n : Nat} (h : n < 256) : toU8 (n : Int) = n := by
  rw [toU8]
  have : (n : Int) % ((M8 : Nat) : Int) = (n : Int) := by
    show (n : Int) % ((256 : Nat) : Int) = (n : Int)
    omega
  rw [this]; rfl

theorem toU8_tz8 (w : Nat) : toU8 (trailingZeros8 w) = tz w 8 := by
  exact toU8_ofNat_lt (by have := tz_le 8 w; omega)

theorem subU8_one {w : Nat} (h0 : 0 < w) (h : w < 256) : subU8 w 1 = w - 1 := by
  show (w + (256 - 1 % 256)) % 256 = w - 1
  omega

theorem andU8_subU8_one {w : Nat} (h : w < 256) : andU8 w (subU8 w 1) = w &&& (w - 1) := by
  rw [andU8]
  rcases Nat.eq_zero_or_pos w with h0 | h0
  · subst h0; simp
  · rw [subU8_one h0 h]

theorem mulI64_8_ofNat {i : Nat} (h : i < 256) : mulI64 (i : Int) 8 = ((i * 8 : Nat) : Int) := by
  exact (wrap64_id (by omega) (by omega)).trans (by omega)

/-- the inner loop: the buffer is `pre ++ mid ++ post` with `pre` everything before column `j` of row `i`, `mid` the
    `k` columns that remain (`j + k = 8`) -/
theorem loop6_spec (fuel i : Nat) (hi : i < 256) (blk3 : Int → List Nat → Option (List Nat)) :
    ∀ (k gas w j : Nat) (pre mid post : List Nat), j + k = 8 → k + 1 ≤ gas → w < 256 → pre.length = i * 8 + j →
      mid.length = k →
      Gen.Ssa7.bitmap_initSelectLookup_loop6 fuel (i : Int) blk3 gas w (j : Int) (pre ++ (mid ++ post))
        = blk3 ((i + 1 : Nat) : Int) (pre ++ (sel8Row k w ++ post))
  | 0, gas, w, j, pre, mid, post, hj, hg, hw, hp, hm => by
    obtain ⟨g, rfl, -⟩ := gas_pos hg
    have hc : ¬ ((j : Int) < (8 : Int)) := by omega
    rw [Gen.Ssa7.bitmap_initSelectLookup_loop6, List.eq_nil_of_length_eq_zero hm]
    simp only [hc, decide_false, Bool.false_eq_true, ↓reduceIte, addI64_one_ofNat (show i + 1 < 9223372036854775808 by omega),
      sel8Row]
  | k+1, gas, w, j, pre, m :: mid, post, hj, hg, hw, hp, hm => by
    obtain ⟨g, rfl, -⟩ := gas_pos hg
    have hc : ((j : Nat) : Int) < (8 : Int) := by omega
    have e7 : addI64 ((i * 8 : Nat) : Int) (j : Int) = ((i * 8 + j : Nat) : Int) := addI64_ofNat (by omega)
    have hset : setIdx (pre ++ ((m :: mid) ++ post)) ((i * 8 + j : Nat) : Int) (tz w 8)
        = some ((pre ++ [tz w 8]) ++ (mid ++ post)) := by
      rw [setIdx_ofNat _ _ (by simp only [List.length_append, List.length_cons]; omega), ← hp,
        List.set_append_right _ _ (Nat.le_refl _), Nat.sub_self, List.cons_append, List.set_cons_zero,
        List.append_assoc, List.singleton_append]
    have ih := loop6_spec fuel i hi blk3 k g (w &&& (w - 1)) (j + 1) (pre ++ [tz w 8]) mid post
      (by omega) (by omega) (Nat.lt_of_le_of_lt Nat.and_le_left hw) (by rw [List.length_append, hp]; rfl)
      (by simpa using hm)
    rw [Gen.Ssa7.bitmap_initSelectLookup_loop6]
    simp only [hc, decide_true, ↓reduceIte, mulI64_8_ofNat hi, e7, addI64_one_ofNat (show j + 1 < 9223372036854775808 by omega),
      toU8_tz8, andU8_subU8_one hw, hset, Option.bind_some, ih]
    rw [sel8Row, List.append_assoc, List.singleton_append, List.cons_append]

/-- the outer loop: rows `0 … i-1` are done (`done`), the `k` rows that remain (`i + k = 256`) are still zero -/
theorem loop3_spec (fuel : Nat) (hfuel : 9 ≤ fuel) :
    ∀ (k gas i : Nat) (done : List Nat), i + k = 256 → k + 1 ≤ gas → done.length = i * 8 →
      Gen.Ssa7.bitmap_initSelectLookup_loop3 fuel gas (i : Int) (done ++ List.replicate (8 * k) 0)
        = some (done ++ (List.range' i k).flatMap (sel8Row 8))
  | 0, gas, i, done, hi, hg, hd => by
    obtain ⟨g, rfl, -⟩ := gas_pos hg
    have hc : ¬ ((i : Int) < (256 : Int)) := by omega
    rw [Gen.Ssa7.bitmap_initSelectLookup_loop3]
    simp only [hc, decide_false, Bool.false_eq_true, ↓reduceIte, Nat.mul_zero, List.replicate_zero, List.range'_zero,
      List.flatMap_nil]
  | k+1, gas, i, done, hi, hg, hd => by
    obtain ⟨g, rfl, -⟩ := gas_pos hg
    have hi' : i < 256 := by omega
    have hc : ((i : Nat) : Int) < (256 : Int) := by omega
    have h6 := loop6_spec fuel i hi' (Gen.Ssa7.bitmap_initSelectLookup_loop3 fuel g) 8 fuel i 0 done
      (List.replicate 8 0) (List.replicate (8 * k) 0) (by omega) (by omega) hi' hd List.length_replicate
    have ih := loop3_spec fuel hfuel k g (i + 1) (done ++ sel8Row 8 i) (by omega) (by omega)
      (by rw [List.length_append, C02L.sel8Row_length, hd]; omega)
    rw [Gen.Ssa7.bitmap_initSelectLookup_loop3]
    simp only [hc, decide_true, ↓reduceIte, toU8_ofNat_lt hi']
    rw [show 8 * (k + 1) = 8 + 8 * k by omega, ← List.replicate_append_replicate, show ((0 : Int)) = ((0 : Nat) : Int) from rfl, h6,
      ← List.append_assoc, ih, List.range'_succ, List.flatMap_cons, List.append_assoc]

end Tie7L

open Tie7L

/-- `bitmap.initSelectLookup` (generated from SSA) builds exactly the model table, for every fuel ≥ 257
    (256 outer iterations + the exit test; every inner loop instance needs 9 ≤ fuel). -/
theorem Tie_bitmap_initSelectLookup (fuel : Nat) (hfuel : 257 ≤ fuel) :
    Gen.Ssa7.bitmap_initSelectLookup fuel = some select8Table.toList := by
  have h := loop3_spec fuel (by omega) 256 fuel 0 [] (by omega) (by omega) rfl
  rw [List.nil_append, List.nil_append] at h
  exact h.trans (by rw [select8Table, List.range_eq_range'])

/-- reading the generated table with Go's bounds-checked indexing = the vocabulary function `tblSelect8`,
    for EVERY index (negative and too large ones included: both sides are `none`) -/
theorem Tie_bitmap_select8Lookup_read (fuel : Nat) (hfuel : 257 ≤ fuel) (j : Int) :
    (Gen.Ssa7.bitmap_initSelectLookup fuel).bind (fun T => GoSem.index T j) = GoSem2.tblSelect8 j := by
  rw [Tie_bitmap_initSelectLookup fuel hfuel, Option.bind_some, GoSem.index, GoSem2.tblSelect8,
    Array.getElem?_toList]

-- out of fuel
example : Gen.Ssa7.bitmap_initSelectLookup 8 = none := by decide +kernel
-- the model rows the generated loop reproduces
example : sel8Row 8 0b10010110 = [1, 2, 4, 7, 8, 8, 8, 8] := by decide +kernel
example : GoSem2.tblSelect8 (0b10010110 * 8 + 2) = some 4 := by
  rw [show ((0b10010110 * 8 + 2 : Int)) = ((0b10010110 * 8 + 2 : Nat) : Int) from rfl, tblSelect8_ofNat,
    C02L.sel8_row (by decide) (by decide)]
  decide +kernel
example : (Gen.Ssa7.bitmap_initSelectLookup 300).bind (fun T => GoSem.index T (0b10010110 * 8 + 2)) = some 4 := by
  rw [Tie_bitmap_select8Lookup_read 300 (by omega),
    show ((0b10010110 * 8 + 2 : Int)) = ((0b10010110 * 8 + 2 : Nat) : Int) from rfl, tblSelect8_ofNat,
    C02L.sel8_row (by decide) (by decide)]
  decide +kernel
example : (Gen.Ssa7.bitmap_initSelectLookup 257).bind (fun T => GoSem.index T 2048) = none := by
  rw [Tie_bitmap_select8Lookup_read 257 (by omega), show ((2048 : Int)) = ((2048 : Nat) : Int) from rfl, tblSelect8_ofNat]
  exact Tie2Sel.sel8_ge (Nat.le_refl _)
example : (Gen.Ssa7.bitmap_initSelectLookup 257).bind (fun T => GoSem.index T (-1)) = none := by
  rw [Tie_bitmap_select8Lookup_read 257 (by omega)]; decide +kernel

end Low
