import Generated.Ssa7.mathext_util_ClapI8
import LowProofs.Tie7.mathext_util_L
/- Tie of `mathext/util.ClapI8` (regenerated definition = specification); see `mathext_util_L.lean`. -/
namespace Low

/-- `ClapI8(n, min, max)` (`int8`) is the clamp of `n` into `[min, max]`, for ALL values (the generated definition only
    compares its arguments).  When `min > max` the result is `max` (`Util.clampI_gt`; the source documents nothing). -/
theorem Tie_mathext_util_ClapI8 (n lo hi : Int) : Gen.Ssa7.mathext_util_ClapI8 n lo hi = Util.clampI n lo hi :=
  Util.clampI_ite n lo hi

/-- arguments that are `int8` values give a `int8` value -/
theorem Tie_mathext_util_ClapI8_range (n lo hi : Int) (hn : Util.InS 8 n) (hl : Util.InS 8 lo) (hh : Util.InS 8 hi) :
    Util.InS 8 (Gen.Ssa7.mathext_util_ClapI8 n lo hi) := by
  rw [Tie_mathext_util_ClapI8]; exact Util.InS_clamp hn hl hh

example : Gen.Ssa7.mathext_util_ClapI8 9 (-1) 5 = 5 := by decide +kernel
-- bounds the wrong way round: the upper bound wins
example : Gen.Ssa7.mathext_util_ClapI8 0 5 (-1) = (-1) := by decide +kernel

end Low
