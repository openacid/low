import Generated.Ssa7.iohelper_NewSectionWriter
import LowModel.Iohelper
/-
  Tie: the definition regenerated from the SSA form of the constructor `iohelper.NewSectionWriter`
  (`&SectionWriter{w, off, off, off + n}`) returns the tuple `(base, off, limit)` of the fields of the new struct that
  have a value in the translation; it equals the model's `newSectionWriter off n` (the state `C18_init`
  is about) for ALL `off`, `n` (the sum `off + n` wraps on 64 bits on both sides).
  The field `w` (the underlying `io.WriterAt`) and the parameter `w` are left out on both sides: the translator has
  checked that the field is assigned exactly once, with that parameter; the methods of generation 2 treat the
  underlying writer as THE external writer.
-/
namespace Low

theorem Tie_iohelper_NewSectionWriter (off n : Int) :
    Gen.Ssa7.iohelper_NewSectionWriter off n
      = ((newSectionWriter off n).base, (newSectionWriter off n).off, (newSectionWriter off n).limit) := rfl

example : Gen.Ssa7.iohelper_NewSectionWriter 5 3 = (5, 5, 8) := by decide +kernel
-- the limit wraps: a section that "ends" beyond the largest int64
example : Gen.Ssa7.iohelper_NewSectionWriter 0x7fffffffffffffff 1 = (0x7fffffffffffffff, 0x7fffffffffffffff, -0x8000000000000000) := by
  decide +kernel

end Low
