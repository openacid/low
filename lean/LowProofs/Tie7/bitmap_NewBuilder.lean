import Generated.Ssa7.bitmap_NewBuilder
import LowProofs.Tie3.Lemmas
import LowModel.Bitmap.Of
/-
  Tie: the definition regenerated from the SSA form of the constructor `bitmap.NewBuilder`
  (`&Builder{Words: make([]uint64, 0, n>>6), Offset: 0}`) returns the tuple of the fields of the new struct,
  `(Words, Offset)`; it equals the model's initial builder `⟨[], 0⟩` (the state `C12_builder` starts from).
  The preallocated capacity `n>>6` is not observable (capacities are not modelled); what IS observable is that
  `make` panics for a negative capacity.
-/
namespace Low
open Low.GoSem Low.GoSem3 Low.TieL

/-- the model's initial builder (`C12_builder` starts from this literal) -/
def newBuilder : Builder := ⟨[], 0⟩

/-- Domain: `n ≥ 0` (the number of bits to preallocate).  No panic; the result is the empty builder. -/
theorem Tie_bitmap_NewBuilder (n : Int) (h0 : 0 ≤ n) :
    Gen.Ssa7.bitmap_NewBuilder n = some (newBuilder.words, newBuilder.offset) := by
  rw [Gen.Ssa7.bitmap_NewBuilder]
  have h : (0 : Int) ≤ shrI32 n 6 := by rw [shrI32_6]; omega
  simp only [makeSliceCap, Int.le_refl, h, and_self, ↓reduceIte, Option.bind_some, newBuilder]
  rfl

/-- OUTSIDE the domain: for `n < 0` (nothing in the Go code rejects it) `make([]uint64, 0, n>>6)` panics with
    "makeslice: cap out of range".  The model has no counterpart: its initial state is a literal. -/
theorem Tie_bitmap_NewBuilder_neg (n : Int) (h : n < 0) : Gen.Ssa7.bitmap_NewBuilder n = none := by
  rw [Gen.Ssa7.bitmap_NewBuilder]
  have h' : ¬ ((0 : Int) ≤ 0 ∧ (0 : Int) ≤ shrI32 n 6) := by rw [shrI32_6]; omega
  simp only [makeSliceCap, h', ↓reduceIte, Option.bind_none]

example : Gen.Ssa7.bitmap_NewBuilder 1000 = some ([], 0) := by decide +kernel
example : Gen.Ssa7.bitmap_NewBuilder (-1) = none := by decide +kernel

end Low
