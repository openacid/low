import Generated.Ssa7.mathext_util_MaxI8
import LowProofs.Tie7.mathext_util_L
/- Tie of `mathext/util.MaxI8` (regenerated definition = specification); see `mathext_util_L.lean`. -/
namespace Low

/-- `MaxI8(a, b)` (`int8`) is the larger of its arguments, for ALL values (the generated definition
    only compares its arguments; a comparison of in-range representatives is the Go comparison of the type). -/
theorem Tie_mathext_util_MaxI8 (a b : Int) : Gen.Ssa7.mathext_util_MaxI8 a b = max a b :=
  Util.maxI_ite a b

/-- arguments that are `int8` values give a `int8` value -/
theorem Tie_mathext_util_MaxI8_range (a b : Int) (ha : Util.InS 8 a) (hb : Util.InS 8 b) :
    Util.InS 8 (Gen.Ssa7.mathext_util_MaxI8 a b) := by
  rw [Tie_mathext_util_MaxI8]; exact Util.InS_max ha hb

example : Gen.Ssa7.mathext_util_MaxI8 (-3) 2 = 2 := by decide +kernel

end Low
