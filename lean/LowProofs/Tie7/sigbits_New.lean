import Generated.Ssa7.sigbits_New
import LowProofs.Tie3.sigbits_FirstDiffBits
import LowModel.Sigbits
/-
  Tie: the definition regenerated from the SSA form of the constructor `sigbits.New`
  (`&SigBits{keys: keys, sigbits: FirstDiffBits(keys)}`) returns the tuple `(keys, sigbits)` of the fields of the new
  struct: the keys as given and the model's `firstDiffBits keys` — the struct invariant that
  `Tie_sigbits_SigBits_CountPrefixes` assumes of its receiver (`firstDiffBits keys = some sig`).
-/
namespace Low

/-- Domain and fuel: those of `Tie_sigbits_FirstDiffBits` (keys of bytes, each shorter than `2^28`, fewer than `2^63`
    keys; `fuel ≥ len(keys)` and `≥ len(k)/8 + 2` for every key).  For `keys = []` the constructor panics
    (`make([]int32, -1)` in `FirstDiffBits`): both sides are `none`. -/
theorem Tie_sigbits_New (keys : List (List Nat)) (fuel : Nat) (hbytes : ∀ k ∈ keys, ∀ x ∈ k, x < 256)
    (hlen : ∀ k ∈ keys, k.length < 2^28) (hn : keys.length < 2^63) (hfuel1 : keys.length ≤ fuel)
    (hfuel2 : ∀ k ∈ keys, k.length / 8 + 2 ≤ fuel) :
    Gen.Ssa7.sigbits_New fuel keys = (firstDiffBits keys).map (fun sig => (keys, sig.map Int.ofNat)) := by
  rw [Gen.Ssa7.sigbits_New, Tie_sigbits_FirstDiffBits keys fuel hbytes hlen hn hfuel1 hfuel2]
  cases firstDiffBits keys <;> rfl

example : Gen.Ssa7.sigbits_New 3 [[0x61, 0x62], [0x61, 0x63], [0x62]] = some ([[0x61, 0x62], [0x61, 0x63], [0x62]], [15, 6]) := by
  decide +kernel
example : Gen.Ssa7.sigbits_New 3 [] = none := by decide +kernel

end Low
