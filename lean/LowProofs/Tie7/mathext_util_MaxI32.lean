import Generated.Ssa7.mathext_util_MaxI32
import LowProofs.Tie7.mathext_util_L
/- Tie of `mathext/util.MaxI32` (regenerated definition = specification); see `mathext_util_L.lean`. -/
namespace Low

/-- `MaxI32(a, b)` (`int32`) is the larger of its arguments, for ALL values (the generated definition
    only compares its arguments; a comparison of in-range representatives is the Go comparison of the type). -/
theorem Tie_mathext_util_MaxI32 (a b : Int) : Gen.Ssa7.mathext_util_MaxI32 a b = max a b :=
  Util.maxI_ite a b

/-- arguments that are `int32` values give a `int32` value -/
theorem Tie_mathext_util_MaxI32_range (a b : Int) (ha : Util.InS 32 a) (hb : Util.InS 32 b) :
    Util.InS 32 (Gen.Ssa7.mathext_util_MaxI32 a b) := by
  rw [Tie_mathext_util_MaxI32]; exact Util.InS_max ha hb

example : Gen.Ssa7.mathext_util_MaxI32 (-3) 2 = 2 := by decide +kernel

end Low
