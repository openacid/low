import Generated.Ssa7.mathext_util_MinI
import LowProofs.Tie7.mathext_util_L
/- Tie of `mathext/util.MinI` (regenerated definition = specification); see `mathext_util_L.lean`. -/
namespace Low

/-- `MinI(a, b)` (`int`) is the smaller of its arguments, for ALL values (the generated definition
    only compares its arguments; a comparison of in-range representatives is the Go comparison of the type). -/
theorem Tie_mathext_util_MinI (a b : Int) : Gen.Ssa7.mathext_util_MinI a b = min a b :=
  Util.minI_ite a b

/-- arguments that are `int` values give a `int` value -/
theorem Tie_mathext_util_MinI_range (a b : Int) (ha : Util.InS 64 a) (hb : Util.InS 64 b) :
    Util.InS 64 (Gen.Ssa7.mathext_util_MinI a b) := by
  rw [Tie_mathext_util_MinI]; exact Util.InS_min ha hb

example : Gen.Ssa7.mathext_util_MinI (-3) 2 = (-3) := by decide +kernel

end Low
