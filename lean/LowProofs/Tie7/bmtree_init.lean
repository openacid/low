import Generated.Ssa7.bmtree_init
import LowProofs.Tie2.Lemmas
import LowModel.GoSem2
/-
  Tie: the definition regenerated from the SSA form of the PACKAGE INITIALISER of bmtree (`bmtree.init`, synthesized
  by go/ssa from the initialiser expressions of the package-level variables; the only such variable is the lookup
  table `idxToPath = [][]uint64{0: {…}, 1: {…}, 2: {…}, 4: {…}, 8: {…}}` of bmtree/index.go) returns exactly the
  table that the vocabulary `GoSem2.tblIdxToPath` (and through it `Tie_bmtree_IndexToPath`, C05) assumes:
  9 rows, row `i` is `idxToPathRow i` of `LowModel/Bmtree/Index.lean` (rows 3, 5, 6, 7 are nil).
  The translator has checked (tools/ssa2lean7/init7.go) that nothing else in the program writes `idxToPath`.
  No loop, hence no fuel; the equation is closed and evaluated by the kernel.
-/
namespace Low
open Low.GoSem

def idxToPathTable : List (List Nat) := (List.range 9).map idxToPathRow

theorem Tie_bmtree_init : Gen.Ssa7.bmtree_init = some idxToPathTable := by decide +kernel

/-- `idxToPath[i][j]` read from the table the initialiser built, with Go's two bounds checks, IS the vocabulary
    function, for all `i`, `j` (in range or not). -/
theorem Tie_bmtree_idxToPath_read (i j : Int) :
    Gen.Ssa7.bmtree_init.bind (fun T => (index T i).bind (fun row => index row j)) = GoSem2.tblIdxToPath i j := by
  rw [Tie_bmtree_init, Option.bind_some]
  unfold GoSem2.tblIdxToPath
  by_cases h : i < 0 ∨ 9 ≤ i
  · rw [if_pos h]
    rcases h with h | h
    · rw [TieL.index_neg _ h]; rfl
    · obtain ⟨k, rfl⟩ : ∃ k : Nat, i = (k : Int) := ⟨i.toNat, by omega⟩
      rw [TieL.index_ofNat]
      have : idxToPathTable[k]? = none := by
        rw [List.getElem?_eq_none_iff]; simp [idxToPathTable]; omega
      rw [this]; rfl
  · rw [if_neg h]
    obtain ⟨k, rfl⟩ : ∃ k : Nat, i = (k : Int) := ⟨i.toNat, by omega⟩
    have hk : k < 9 := by omega
    rw [TieL.index_ofNat]
    have : idxToPathTable[k]? = some (idxToPathRow k) := by
      simp [idxToPathTable, hk]
    rw [this, Option.bind_some, Int.toNat_natCast]

example : Gen.Ssa7.bmtree_init.bind (fun T => (index T 8).bind (fun row => index row 14)) = some 0x700000007 := by
  decide +kernel
example : GoSem2.tblIdxToPath 3 0 = none := by decide +kernel
example : GoSem2.tblIdxToPath 9 0 = none := by decide +kernel

end Low
