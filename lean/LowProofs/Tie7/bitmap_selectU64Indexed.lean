import Generated.Ssa7.bitmap_selectU64Indexed
import LowProofs.Tie7.bitmap_indexSelectU64
/-
  Tie: the definition regenerated from the SSA form of `bitmap.selectU64Indexed` (unexported, used only by the tests),
  applied to the index that `indexSelectU64` builds for the same word, returns the position of the `i`-th 1-bit.

  The Go function subtracts `(i+1)` from each byte of the index in one 64-bit subtraction (no byte borrows because
  every byte of the index has bit 7 set and `i+1 ≤ 64`); bit 7 of byte `k` of the difference survives iff the
  prefix count of byte `k` is `> i`; `TrailingZeros64 & ^7` is therefore `8*k0` for the first byte `k0` whose prefix
  count exceeds `i`; the rest is a lookup of `select8Lookup` for byte `k0` of `w` with the remaining count.
-/
namespace Low
open Low.GoSem Low.TieL Low.Tie2L Low.C02L

namespace Tie7Swar

theorem and128 : ∀ d : Fin 256, d.val &&& 128 = d.val / 128 * 128 := by decide +kernel

/-- the index into `select8Lookup`, as a function of `t4 = TrailingZeros64(biggerBits)` -/
def sel64Idx (w index findIth : Nat) (t4 : Int) : Nat :=
  addU64 (shlU64 (andU64 (shrU64 w (toU64 (andI64 t4 (-8)))) 255) 3)
    (subU64 findIth (andU64 (shrU64 index (toU64 (subI64 (andI64 t4 (-8)) 8))) 127))

/-- everything after `t4` in the listing -/
def sel64Tail (w index findIth : Nat) (t4 : Int) : Option (Int × Int) :=
  Option.bind (GoSem2.tblSelect8 ((sel64Idx w index findIth t4 : Nat) : Int)) fun t16 =>
    some (addI32 (toI32 (t16 : Int)) (toI32 (andI64 t4 (-8))), (0 : Int))

/-- `biggerBits` as a function of the two arguments that matter -/
def sel64Bigger (index findIth : Nat) : Nat :=
  andU64 (subU64 index (mulU64 (addU64 findIth 1) 72340172838076673)) 9259542123273814144

theorem selectU64Indexed_eq (w index findIth : Nat) :
    Gen.Ssa7.bitmap_selectU64Indexed w index findIth
      = sel64Tail w index findIth (trailingZeros64 (sel64Bigger index findIth)) := rfl

theorem selectU64Indexed_row (w index findIth b k : Nat) (hb : b < 256) (hk : k < 8)
    (h : sel64Idx w index findIth (trailingZeros64 (sel64Bigger index findIth)) = b * 8 + k) :
    Gen.Ssa7.bitmap_selectU64Indexed w index findIth = ((sel8Row 8 b)[k]?).bind fun t16 =>
      some (addI32 (toI32 (t16 : Int)) (toI32 (andI64 (trailingZeros64 (sel64Bigger index findIth)) (-8))), (0 : Int)) := by
  rw [selectU64Indexed_eq, sel64Tail, h, tblSelect8_ofNat, sel8_row hb hk]

theorem selectU64Indexed_beyond (w index findIth : Nat)
    (h : 2048 ≤ sel64Idx w index findIth (trailingZeros64 (sel64Bigger index findIth))) :
    Gen.Ssa7.bitmap_selectU64Indexed w index findIth = none := by
  rw [selectU64Indexed_eq, sel64Tail, tblSelect8_ofNat, Tie2Sel.sel8_ge h]
  rfl

theorem pack_replicate (c : Nat) : ∀ n, pack (List.replicate n c) = c * pack (List.replicate n 1)
  | 0 => rfl
  | n+1 => by
    rw [pack_replicate_succ, pack_replicate_succ, pack_replicate c n, Nat.mul_add, Nat.mul_one, Nat.mul_left_comm]

/-- `biggerBits` lane by lane, for an index whose byte `k` is `0x80 + q k` with counts `q k ≤ 64`: the subtraction of
    `i+1` from every byte does not borrow (bit 7 is the guard), and `& 0x80` keeps bit 7 of byte `k` iff `i < q k` -/
theorem bigger_flags (qs : List Nat) (i : Nat) (hi : i < 64) (hlen : qs.length = 8) (hq : ∀ q ∈ qs, q ≤ 64) :
    sel64Bigger (pack (qs.map (128 + ·))) i = pack (qs.map fun q => if i < q then 128 else 0) := by
  have hM : (256 : Nat) ^ 8 = M64 := by decide
  have e1 : mulU64 (addU64 i 1) 72340172838076673 = pack (qs.map fun _ => i + 1) := by
    have h1 : (72340172838076673 : Nat) = pack (List.replicate 8 1) := by decide
    have hlt := pack_lt (List.replicate 8 (i + 1)) (fun a ha => by rw [List.eq_of_mem_replicate ha]; omega)
    rw [List.length_replicate] at hlt
    rw [addU64, add64_of_lt (by simp only [M64]; omega), mulU64, h1, ← pack_replicate, Nat.mod_eq_of_lt hlt,
      List.map_const', hlen]
  have hsub := pack_sub (128 + ·) (fun _ => i + 1) qs (fun q hm => by have := hq q hm; omega)
  have hlt := pack_lt (qs.map (128 + ·)) (Bytes.of_map fun q hm => by have := hq q hm; omega)
  rw [List.length_map, hlen] at hlt
  have hand := pack_and 128 (by decide) (qs.map fun q => 128 + q - (i + 1))
    (Bytes.of_map fun q hm => by have := hq q hm; omega)
  rw [List.length_map, hlen, List.map_map] at hand
  have hor : (9259542123273814144 : Nat) = pack (List.replicate 8 128) := by decide
  rw [sel64Bigger, e1, subU64, sub64_of_le hsub.1 hlt, hsub.2, andU64_eq, hor, hand]
  congr 1
  apply List.map_congr_left
  intro q hm
  have := hq q hm
  have a := and128 ⟨128 + q - (i + 1), by omega⟩
  simp only [Function.comp_apply] at a ⊢
  rw [a]
  split <;> omega

theorem tz_two_pow_mul (x n : Nat) : ∀ j, tz (2 ^ j * x) (n + j) = j + tz x n
  | 0 => by rw [Nat.pow_zero, Nat.one_mul, Nat.add_zero, Nat.zero_add]
  | j+1 => by
    have e2 : 2 ^ (j + 1) * x = 2 * (2 ^ j * x) := by rw [Nat.pow_succ', Nat.mul_assoc]
    have ih := tz_two_pow_mul x n j
    rw [← Nat.add_assoc, tz, e2]
    generalize 2 ^ j * x = y at ih ⊢
    have h0 : (2 * y).testBit 0 = false := by
      rw [Nat.testBit_zero]; simp only [decide_eq_false_iff_not]; omega
    have e : (2 * y) >>> 1 = y := by rw [Nat.shiftRight_eq_div_pow]; omega
    rw [h0, e, ih]
    simp only [Bool.false_eq_true, ↓reduceIte]
    omega

theorem tz_flag (x n : Nat) : tz (128 + 256 * x) (n + 8) = 7 := by
  have e : 128 + 256 * x = 2 ^ 7 * (1 + 2 * x) := by omega
  have h1 : tz (1 + 2 * x) (n + 1) = 0 := by
    have : (1 + 2 * x).testBit 0 = true := by rw [Nat.testBit_zero]; simp only [decide_eq_true_eq]; omega
    rw [tz, this]; rfl
  rw [e, tz_two_pow_mul, h1]

/-- `p j` stands for the prefix count of byte `j`; with `k0` the first byte whose count exceeds `i`, the lowest set bit
    of the flag word is bit 7 of byte `k0` -/
theorem tz_flags (i : Nat) (p : Nat → Nat) : ∀ (n s k0 m : Nat), k0 < n → (∀ j, j < k0 → p (s + j) ≤ i) → i < p (s + k0) →
    tz (pack ((List.range' s n).map fun j => if i < p j then 128 else 0)) (8 * k0 + 8 + m) = 8 * k0 + 7
  | 0, _, _, _, h, _, _ => absurd h (Nat.not_lt_zero _)
  | n+1, s, 0, m, _, _, hhi => by
    rw [List.range'_succ, List.map_cons, pack, if_pos (show i < p s from hhi), Nat.mul_zero, Nat.zero_add, Nat.add_comm 8 m]
    exact tz_flag _ m
  | n+1, s, k+1, m, hk, hlo, hhi => by
    have h0 : ¬ i < p s := Nat.not_lt.mpr (hlo 0 (Nat.succ_pos k))
    have ih := tz_flags i p n (s + 1) k m (by omega)
      (fun j hj => by have := hlo (j + 1) (by omega); rwa [show s + (j + 1) = s + 1 + j by omega] at this)
      (by rwa [show s + (k + 1) = s + 1 + k by omega] at hhi)
    rw [List.range'_succ, List.map_cons, pack, if_neg h0, Nat.zero_add, show 8 * (k + 1) + 8 + m = 8 * k + 8 + m + 8 by omega,
      show (256 : Nat) = 2 ^ 8 from rfl, tz_two_pow_mul, ih]
    omega

theorem andI64_neg8 {k0 : Nat} (hk0 : k0 < 8) : andI64 ((8 * k0 + 7 : Nat) : Int) (-8) = ((8 * k0 : Nat) : Int) := by
  have hk : k0 = 0 ∨ k0 = 1 ∨ k0 = 2 ∨ k0 = 3 ∨ k0 = 4 ∨ k0 = 5 ∨ k0 = 6 ∨ k0 = 7 := by omega
  rcases hk with rfl | rfl | rfl | rfl | rfl | rfl | rfl | rfl <;> decide

/-- `(index >> uint(ithU8-8)) & 0x7f` is the prefix count before byte `k0`; for `k0 = 0` the shift count
    `uint(-8)` is `2^64 - 8 ≥ 64` and Go's shift gives 0 -/
theorem prev_count (w k0 : Nat) (hk0 : k0 < 8) :
    andU64 (shrU64 (indexSelectU64 w) (toU64 (subI64 ((8 * k0 : Nat) : Int) 8))) 127 = popc w (8 * k0) := by
  cases k0 with
  | zero =>
    have e : toU64 (subI64 ((8 * 0 : Nat) : Int) 8) = 18446744073709551608 := by decide
    rw [e, shrU64_eq, shr64, if_neg (by decide)]
    rfl
  | succ k =>
    have e1 : subI64 ((8 * (k + 1) : Nat) : Int) ((8 : Nat) : Int) = ((8 * (k + 1) - 8 : Nat) : Int) :=
      subI64_ofNat (by omega) (by omega)
    have e2 : 8 * (k + 1) - 8 = 8 * k := by omega
    have hb := indexSelectU64_byte w k (by omega)
    have hp : popc w (8 * (k + 1)) ≤ 64 := Nat.le_trans (popc_le w _) (by omega)
    rw [or128' (by omega)] at hb
    have e3 : (127 : Nat) = 2 ^ 7 - 1 := rfl
    rw [show ((8 : Int)) = ((8 : Nat) : Int) from rfl, e1, e2, toU64_ofNat_lt (by omega), shrU64_lt _ (by omega),
      andU64_eq, e3, Nat.and_two_pow_sub_one_eq_mod]
    omega

theorem sel64Tail_spec (w i k0 : Nat) (hk0 : k0 < 8) (hlo : popc w (8 * k0) ≤ i)
    (hhi : i < popc w (8 * (k0 + 1))) :
    ∃ r, sel64Tail w (indexSelectU64 w) i ((8 * k0 + 7 : Nat) : Int) = some (((8 * k0 + r : Nat) : Int), 0) ∧
      IsSel w i (8 * k0 + r) ∧ r < 8 := by
  have hi : i < 64 := by
    have := popc_le w (8 * (k0 + 1))
    omega
  have hsplit : popc w (8 * k0 + 8) = popc w (8 * k0) + popc (w >>> (8 * k0)) 8 := popc_add w (8 * k0) 8
  obtain ⟨r, hr, hs, hr8⟩ := select8_byte (w >>> (8 * k0)) (i - popc w (8 * k0)) (by rw [Nat.mul_succ] at hhi; omega)
  refine ⟨r, ?_, isSel_high hlo hs, hr8⟩
  unfold sel64Tail sel64Idx
  rw [andI64_neg8 hk0, prev_count w k0 hk0, toU64_ofNat_lt (by omega), shrU64_lt _ (by omega), subU64,
    sub64_of_le hlo (by simp only [M64]; omega), hr]
  have e3 : toI32 (r : Int) = r := toI32_ofNat_lt (by omega)
  have e4 : toI32 ((8 * k0 : Nat) : Int) = ((8 * k0 : Nat) : Int) := toI32_ofNat_lt (by omega)
  have e5 : addI32 (r : Int) ((8 * k0 : Nat) : Int) = ((r + 8 * k0 : Nat) : Int) := addI32_ofNat (by omega)
  show some (addI32 (toI32 (r : Int)) (toI32 ((8 * k0 : Nat) : Int)), (0 : Int)) = _
  rw [e3, e4, e5, Nat.add_comm r]

theorem find_byte (w i : Nat) : ∀ n, i < popc w (8 * n) →
    ∃ k0, k0 < n ∧ popc w (8 * k0) ≤ i ∧ i < popc w (8 * (k0 + 1))
  | 0, hi => absurd hi (Nat.not_lt_zero _)
  | n+1, hi => by
    by_cases h : i < popc w (8 * n)
    · obtain ⟨k0, hk, hlo, hhi⟩ := find_byte w i n h
      exact ⟨k0, Nat.lt_succ_of_lt hk, hlo, hhi⟩
    · exact ⟨n, Nat.lt_succ_self n, Nat.not_lt.mp h, hi⟩

theorem indexSelectU64_eq (w : Nat) :
    indexSelectU64 w = pack (((List.range' 0 8).map fun k => popc w (8 * (k + 1))).map (128 + ·)) := by
  have hle : ∀ n, n ≤ 64 → popc w n < 128 := fun n hn => Nat.lt_of_le_of_lt (popc_le w n) (by omega)
  rw [indexSelectU64, or128' (hle 8 (by decide)), or128' (hle 16 (by decide)), or128' (hle 24 (by decide)),
    or128' (hle 32 (by decide)), or128' (hle 40 (by decide)), or128' (hle 48 (by decide)),
    or128' (hle 56 (by decide)), or128' (hle 64 (by decide))]
  rfl

theorem isSel_unique {w k r r' : Nat} (h : IsSel w k r) (h' : IsSel w k r') : r = r' := by
  have key : ∀ {a b : Nat}, IsSel w k a → IsSel w k b → ¬ a < b := by
    intro a b ha hb hlt
    have h1 := popc_mono w (show a + 1 ≤ b from hlt)
    have h2 : popc w (a + 1) = popc w a + 1 := by simp [popc, ha.1]
    rw [hb.2, h2, ha.2] at h1
    omega
  have := key h h'
  have := key h' h
  omega

end Tie7Swar

open Tie7Swar

/-- Domain: every uint64 `w`, the index built by `indexSelectU64` for the same word, and `i` below the number of
    1-bits of `w` (so `i ≤ 63`).  The result is `(p, 0)` where `p` is the position of the `i`-th (from 0) 1-bit:
    `w.testBit p` and exactly `i` 1-bits below `p` (`C02L.IsSel w i p`).  No panic: the table index is `< 2048`.
    (`w < 2^64` is the representation invariant of the `uint64` argument; the proof does not use it, because the
    model index is defined from `popc w _` and the code only looks at `w >> 8k & 0xff` for `k < 8`.) -/
theorem Tie_bitmap_selectU64Indexed (w i : Nat) (_hw : w < 2 ^ 64) (hi : i < popc w 64) :
    ∃ p : Nat, Gen.Ssa7.bitmap_selectU64Indexed w (indexSelectU64 w) i = some ((p : Int), 0) ∧
      p < 64 ∧ w.testBit p = true ∧ popc w p = i := by
  obtain ⟨k0, hk0, hlo, hhi⟩ := find_byte w i 8 hi
  obtain ⟨r, hr, hs, hr8⟩ := sel64Tail_spec w i k0 hk0 hlo hhi
  have htz : trailingZeros64 (sel64Bigger (indexSelectU64 w) i) = ((8 * k0 + 7 : Nat) : Int) := by
    have hi64 : i < 64 := Nat.lt_of_lt_of_le hi (popc_le w 64)
    rw [trailingZeros64, indexSelectU64_eq, bigger_flags _ i hi64 rfl (fun q hq => by
      obtain ⟨k, hk, rfl⟩ := List.mem_map.mp hq
      have := (List.mem_range'_1.mp hk).2
      exact Nat.le_trans (popc_le w _) (by omega)), List.map_map]
    have h := tz_flags i (fun k => popc w (8 * (k + 1))) 8 0 k0 (56 - 8 * k0) hk0
      (fun j hj => by rw [Nat.zero_add]; exact Nat.le_trans (popc_mono w (by omega)) hlo)
      (by rw [Nat.zero_add]; exact hhi)
    rw [show 8 * k0 + 8 + (56 - 8 * k0) = 64 by omega] at h
    exact congrArg Int.ofNat h
  refine ⟨8 * k0 + r, ?_, by omega, hs.1, hs.2⟩
  rw [selectU64Indexed_eq, htz, hr]

/-- the same result as the in-word search `selWord` of the exported `Select32` / `Select32R64` -/
theorem Tie_bitmap_selectU64Indexed_selWord (w i : Nat) (hw : w < 2 ^ 64) (hi : i < popc w 64) :
    Gen.Ssa7.bitmap_selectU64Indexed w (indexSelectU64 w) i = (selWord w i).map fun p => ((p : Int), (0 : Int)) := by
  obtain ⟨p, hp, _, h1, h2⟩ := Tie_bitmap_selectU64Indexed w i hw hi
  obtain ⟨r, hr, hs, _⟩ := selWord_spec hi
  rw [hp, hr, isSel_unique hs ⟨h1, h2⟩]
  rfl

/-- against the specification `ones` of package bitmap, for the one-word bitmap `[w]`: the result is entry `i` of the
    ascending list of 1-bit positions -/
theorem Tie_bitmap_selectU64Indexed_ones (w i : Nat) (hw : w < 2 ^ 64) (hi : i < popc w 64) :
    ∃ p : Nat, Gen.Ssa7.bitmap_selectU64Indexed w (indexSelectU64 w) i = some ((p : Int), 0) ∧
      (ones [w])[i]? = some p := by
  obtain ⟨p, hp, hlt, h1, h2⟩ := Tie_bitmap_selectU64Indexed w i hw hi
  refine ⟨p, hp, ?_⟩
  have hb : bitAt [w] p = true := by
    have := bitAt_word (ws := [w]) (k := 0) (j := p) (w := w) rfl hlt
    simp only [Nat.mul_zero, Nat.zero_add] at this
    rw [this, h1]
  have hr : rank [w] p = i := by
    have := rank_word (ws := [w]) (k := 0) (w := w) rfl p (by omega)
    simp only [Nat.mul_zero, Nat.zero_add, rank] at this
    rw [this, h2]
  have := ones_rank hb
  rw [hr] at this
  exact this

example : Gen.Ssa7.bitmap_selectU64Indexed 0x8000000000000101 (indexSelectU64 0x8000000000000101) 2 = some (63, 0) := by
  rw [selectU64Indexed_row _ _ _ 0x80 0 (by decide) (by decide) (by decide +kernel)]
  decide +kernel
example : (0x8000000000000101 : Nat) < 2 ^ 64 ∧ 2 < popc 0x8000000000000101 64 := by decide +kernel
example : Gen.Ssa7.bitmap_selectU64Indexed 0x12 (indexSelectU64 0x12) 1 = some (4, 0) := by
  rw [selectU64Indexed_row _ _ _ 0x12 1 (by decide) (by decide) (by decide +kernel)]
  decide +kernel

/-! ### outside the domain: `i ≥ OnesCount64(w)`

  The Go source has the two guards commented out (`findIth > 63` and `ithU8 == 64`).  For `popc w 64 ≤ i < 127`
  no byte of the difference keeps its bit 7, `biggerBits = 0`, `TrailingZeros64 = 64`, `ithU8 = 64`, `w >> 64 = 0`,
  the count subtracted is the total `popc w 64`, and the lookup is `select8Lookup[i - popc w 64]`: while
  `i - popc w 64 < 8` this is row 0 of the table (all entries 8) and the result is `(72, 0)` — not a position, and
  not the `64` of the commented-out branch; beyond that the lookup reads rows of other bytes (e.g. `(65, 0)` for `w = 0`, `i = 16` below), and a
  large enough `findIth` indexes past the 2048 entries: a panic. -/
example : Gen.Ssa7.bitmap_selectU64Indexed 0x12 (indexSelectU64 0x12) 2 = some (72, 0) := by
  rw [selectU64Indexed_row _ _ _ 0 0 (by decide) (by decide) (by decide +kernel)]
  decide +kernel
example : Gen.Ssa7.bitmap_selectU64Indexed 0 (indexSelectU64 0) 0 = some (72, 0) := by
  rw [selectU64Indexed_row _ _ _ 0 0 (by decide) (by decide) (by decide +kernel)]
  decide +kernel
example : Gen.Ssa7.bitmap_selectU64Indexed 0 (indexSelectU64 0) 16 = some (65, 0) := by
  rw [selectU64Indexed_row _ _ _ 2 0 (by decide) (by decide) (by decide +kernel)]
  decide +kernel
example : Gen.Ssa7.bitmap_selectU64Indexed 0 (indexSelectU64 0) 3000 = none :=
  selectU64Indexed_beyond _ _ _ (by decide +kernel)

example := Tie_bitmap_selectU64Indexed 0x8000000000000101 2 (by decide +kernel) (by decide +kernel)

end Low
