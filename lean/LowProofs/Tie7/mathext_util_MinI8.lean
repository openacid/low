import Generated.Ssa7.mathext_util_MinI8
import LowProofs.Tie7.mathext_util_L
/- Tie of `mathext/util.MinI8` (regenerated definition = specification); see `mathext_util_L.lean`. -/
namespace Low

/-- `MinI8(a, b)` (`int8`) is the smaller of its arguments, for ALL values (the generated definition
    only compares its arguments; a comparison of in-range representatives is the Go comparison of the type). -/
theorem Tie_mathext_util_MinI8 (a b : Int) : Gen.Ssa7.mathext_util_MinI8 a b = min a b :=
  Util.minI_ite a b

/-- arguments that are `int8` values give a `int8` value -/
theorem Tie_mathext_util_MinI8_range (a b : Int) (ha : Util.InS 8 a) (hb : Util.InS 8 b) :
    Util.InS 8 (Gen.Ssa7.mathext_util_MinI8 a b) := by
  rw [Tie_mathext_util_MinI8]; exact Util.InS_min ha hb

example : Gen.Ssa7.mathext_util_MinI8 (-3) 2 = (-3) := by decide +kernel

end Low
