import Generated.Ssa7.bitword_bitWord_FromStrs
import LowProofs.Tie3.bitword_bitWord_FromStr
import LowProofs.Tie7.bitword_Strs_L
import LowModel.Bitword
/-
  Tie: the definition regenerated from the SSA form of `(*bitword.bitWord).FromStrs` (a loop that fills a slice of
  slices, `rst[i] = w.FromStr(s)`, each element the fresh result of the regenerated `FromStr` of generation 3) equals
  the element-wise model `strs.map (bwFromStr n)` (property C08: "FromStrs/ToStrs apply the conversions element-wise").
  The receiver fields are instantiated as `newBW(n)` stores them (`Tie_bitword_newBW`).
-/
namespace Low

/-- Domain: `n ∈ {1,2,4,8}`, receiver fields as `newBW(n)` stores them; every string shorter than `2^32` bytes (the
    domain of `Tie_bitword_bitWord_FromStr`), fewer than `2^62` strings.  Fuel: `fuel ≥ len(strs) + 1` and
    `fuel ≥ len(s) + 9` for every string.  The Go function cannot panic on this domain. -/
theorem Tie_bitword_bitWord_FromStrs (n : Nat) (strs : List (List Nat)) (fuel : Nat) (hn : n = 1 ∨ n = 2 ∨ n = 4 ∨ n = 8)
    (hlen : ∀ s ∈ strs, s.length < 2^32) (hN : strs.length < 2^62) (hfuel1 : strs.length + 1 ≤ fuel)
    (hfuel2 : ∀ s ∈ strs, s.length + 9 ≤ fuel) :
    Gen.Ssa7.bitword_bitWord_FromStrs fuel (n : Int) ((8 / n : Nat) : Int) (bwWordMask n) strs
      = some (strs.map (bwFromStr n)) := by
  exact Tie7L.strs_body (Gen.Ssa3.bitword_bitWord_FromStr fuel (n : Int) ((8 / n : Nat) : Int) (bwWordMask n)) (bwFromStr n) strs fuel _
    (fun _ _ _ => rfl) (fun s hs => Tie_bitword_bitWord_FromStr n s fuel hn (hlen s hs) (hfuel2 s hs)) hN hfuel1

example : Gen.Ssa7.bitword_bitWord_FromStrs 11 2 4 3 [[0x1b], [], [0xe4, 0xff]] = some [[0, 1, 2, 3], [], [3, 2, 1, 0, 3, 3, 3, 3]] := by
  decide +kernel
example : Gen.Ssa7.bitword_bitWord_FromStrs 3 2 4 3 [[0x1b], [], [0xe4, 0xff]] = none := by decide +kernel

end Low
