import Generated.Ssa7.bitword_newBW
import LowModel.Bitword
/-
  Tie: the definition regenerated from the SSA form of the constructor `bitword.newBW`
  (`&bitWord{width: n, byteCap: 8 / n, wordMask: (1 << uint(n)) - 1}` converted to `Interface`) returns the tuple
  `(width, byteCap, wordMask)` of the fields of the new struct; for the four widths of the package it is
  `(n, 8/n, bwWordMask n)` — exactly the instantiation of the receiver fields under which the ties of
  `FromStr`, `ToStr`, `Get`, `FirstDiff` (generations 2 and 3) are stated.
-/
namespace Low

/-- Domain: `n ∈ {1,2,4,8}` (the widths of `bitword.BitWord`, property C08). -/
theorem Tie_bitword_newBW (n : Nat) (hn : n = 1 ∨ n = 2 ∨ n = 4 ∨ n = 8) :
    Gen.Ssa7.bitword_newBW (n : Int) = some ((n : Int), ((8 / n : Nat) : Int), bwWordMask n) := by
  rcases hn with h | h | h | h <;> subst h <;> decide

/-- OUTSIDE the domain: `newBW(0)` panics (integer division by zero). -/
theorem Tie_bitword_newBW_zero : Gen.Ssa7.bitword_newBW 0 = none := by decide

example : Gen.Ssa7.bitword_newBW 2 = some (2, 4, 3) := by decide +kernel
-- a width that does not divide 8 is accepted by the code: byteCap = 2, mask = 7 (not a width of the package)
example : Gen.Ssa7.bitword_newBW 3 = some (3, 2, 7) := by decide +kernel

end Low
