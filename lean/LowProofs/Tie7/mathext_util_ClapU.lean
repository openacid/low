import Generated.Ssa7.mathext_util_ClapU
import LowProofs.Tie7.mathext_util_L
/- Tie of `mathext/util.ClapU` (regenerated definition = specification); see `mathext_util_L.lean`. -/
namespace Low

/-- `ClapU(n, min, max)` (`uint`) is the clamp of `n` into `[min, max]`, for ALL values (the generated definition only
    compares its arguments).  When `min > max` the result is `max` (`Util.clampU_gt`; the source documents nothing). -/
theorem Tie_mathext_util_ClapU (n lo hi : Nat) : Gen.Ssa7.mathext_util_ClapU n lo hi = Util.clampU n lo hi :=
  Util.clampU_ite n lo hi

/-- arguments that are `uint` values give a `uint` value -/
theorem Tie_mathext_util_ClapU_range (n lo hi : Nat) (hn : Util.InU 64 n) (hl : Util.InU 64 lo) (hh : Util.InU 64 hi) :
    Util.InU 64 (Gen.Ssa7.mathext_util_ClapU n lo hi) := by
  rw [Tie_mathext_util_ClapU]; exact Util.InU_clamp hn hl hh

example : Gen.Ssa7.mathext_util_ClapU 9 1 5 = 5 := by decide +kernel
-- bounds the wrong way round: the upper bound wins
example : Gen.Ssa7.mathext_util_ClapU 0 5 1 = 1 := by decide +kernel

end Low
