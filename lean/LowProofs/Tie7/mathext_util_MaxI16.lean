import Generated.Ssa7.mathext_util_MaxI16
import LowProofs.Tie7.mathext_util_L
/- Tie of `mathext/util.MaxI16` (regenerated definition = specification); see `mathext_util_L.lean`. -/
namespace Low

/-- `MaxI16(a, b)` (`int16`) is the larger of its arguments, for ALL values (the generated definition
    only compares its arguments; a comparison of in-range representatives is the Go comparison of the type). -/
theorem Tie_mathext_util_MaxI16 (a b : Int) : Gen.Ssa7.mathext_util_MaxI16 a b = max a b :=
  Util.maxI_ite a b

/-- arguments that are `int16` values give a `int16` value -/
theorem Tie_mathext_util_MaxI16_range (a b : Int) (ha : Util.InS 16 a) (hb : Util.InS 16 b) :
    Util.InS 16 (Gen.Ssa7.mathext_util_MaxI16 a b) := by
  rw [Tie_mathext_util_MaxI16]; exact Util.InS_max ha hb

example : Gen.Ssa7.mathext_util_MaxI16 (-3) 2 = 2 := by decide +kernel

end Low
