import Generated.Ssa7.mathext_util_MaxU8
import LowProofs.Tie7.mathext_util_L
/- Tie of `mathext/util.MaxU8` (regenerated definition = specification); see `mathext_util_L.lean`. -/
namespace Low

/-- `MaxU8(a, b)` (`uint8`) is the larger of its arguments, for ALL values (the generated definition
    only compares its arguments; a comparison of in-range representatives is the Go comparison of the type). -/
theorem Tie_mathext_util_MaxU8 (a b : Nat) : Gen.Ssa7.mathext_util_MaxU8 a b = max a b :=
  Util.maxU_ite a b

/-- arguments that are `uint8` values give a `uint8` value -/
theorem Tie_mathext_util_MaxU8_range (a b : Nat) (ha : Util.InU 8 a) (hb : Util.InU 8 b) :
    Util.InU 8 (Gen.Ssa7.mathext_util_MaxU8 a b) := by
  rw [Tie_mathext_util_MaxU8]; exact Util.InU_max ha hb

example : Gen.Ssa7.mathext_util_MaxU8 3 2 = 3 := by decide +kernel

end Low
