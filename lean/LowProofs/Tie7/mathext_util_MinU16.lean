import Generated.Ssa7.mathext_util_MinU16
import LowProofs.Tie7.mathext_util_L
/- Tie of `mathext/util.MinU16` (regenerated definition = specification); see `mathext_util_L.lean`. -/
namespace Low

/-- `MinU16(a, b)` (`uint16`) is the smaller of its arguments, for ALL values (the generated definition
    only compares its arguments; a comparison of in-range representatives is the Go comparison of the type). -/
theorem Tie_mathext_util_MinU16 (a b : Nat) : Gen.Ssa7.mathext_util_MinU16 a b = min a b :=
  Util.minU_ite a b

/-- arguments that are `uint16` values give a `uint16` value -/
theorem Tie_mathext_util_MinU16_range (a b : Nat) (ha : Util.InU 16 a) (hb : Util.InU 16 b) :
    Util.InU 16 (Gen.Ssa7.mathext_util_MinU16 a b) := by
  rw [Tie_mathext_util_MinU16]; exact Util.InU_min ha hb

example : Gen.Ssa7.mathext_util_MinU16 3 2 = 2 := by decide +kernel

end Low
