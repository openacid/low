import Generated.Ssa7.mathext_util_MinI16
import LowProofs.Tie7.mathext_util_L
/- Tie of `mathext/util.MinI16` (regenerated definition = specification); see `mathext_util_L.lean`. -/
namespace Low

/-- `MinI16(a, b)` (`int16`) is the smaller of its arguments, for ALL values (the generated definition
    only compares its arguments; a comparison of in-range representatives is the Go comparison of the type). -/
theorem Tie_mathext_util_MinI16 (a b : Int) : Gen.Ssa7.mathext_util_MinI16 a b = min a b :=
  Util.minI_ite a b

/-- arguments that are `int16` values give a `int16` value -/
theorem Tie_mathext_util_MinI16_range (a b : Int) (ha : Util.InS 16 a) (hb : Util.InS 16 b) :
    Util.InS 16 (Gen.Ssa7.mathext_util_MinI16 a b) := by
  rw [Tie_mathext_util_MinI16]; exact Util.InS_min ha hb

example : Gen.Ssa7.mathext_util_MinI16 (-3) 2 = (-3) := by decide +kernel

end Low
