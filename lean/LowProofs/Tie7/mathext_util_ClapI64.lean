import Generated.Ssa7.mathext_util_ClapI64
import LowProofs.Tie7.mathext_util_L
/- Tie of `mathext/util.ClapI64` (regenerated definition = specification); see `mathext_util_L.lean`. -/
namespace Low

/-- `ClapI64(n, min, max)` (`int64`) is the clamp of `n` into `[min, max]`, for ALL values (the generated definition only
    compares its arguments).  When `min > max` the result is `max` (`Util.clampI_gt`; the source documents nothing). -/
theorem Tie_mathext_util_ClapI64 (n lo hi : Int) : Gen.Ssa7.mathext_util_ClapI64 n lo hi = Util.clampI n lo hi :=
  Util.clampI_ite n lo hi

/-- arguments that are `int64` values give a `int64` value -/
theorem Tie_mathext_util_ClapI64_range (n lo hi : Int) (hn : Util.InS 64 n) (hl : Util.InS 64 lo) (hh : Util.InS 64 hi) :
    Util.InS 64 (Gen.Ssa7.mathext_util_ClapI64 n lo hi) := by
  rw [Tie_mathext_util_ClapI64]; exact Util.InS_clamp hn hl hh

example : Gen.Ssa7.mathext_util_ClapI64 9 (-1) 5 = 5 := by decide +kernel
-- bounds the wrong way round: the upper bound wins
example : Gen.Ssa7.mathext_util_ClapI64 0 5 (-1) = (-1) := by decide +kernel

end Low
