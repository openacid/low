import LowProofs.Tie3.Lemmas
/-
  The loop of `(*bitWord).FromStrs` and `(*bitWord).ToStrs`: `rst[i] = w.F(s)` for every element of `strs`, into a
  slice of the same length.  `L` is any function with the one-step equation of the generated loop (the SSA range
  index is `i - 1`, `-1` at the start), `F` the element-wise call, which agrees with `f` on the elements.
-/
namespace Low.Tie7L
open Low.GoSem Low.GoSem3 Low.TieL Low.Tie2L Low.Tie3L

/-- the one-step equation of the generated loop; `F` is the element-wise call -/
def StrsStep (F : List Nat → Option (List Nat)) (strs : List (List Nat))
    (L : Nat → Int → List (List Nat) → Option (List (List Nat))) : Prop :=
  ∀ g t buf, L (g + 1) t buf =
    if decide (addI64 t 1 < (strs.length : Int)) = true then
      Option.bind (index strs (addI64 t 1)) fun s =>
      Option.bind (F s) fun v => Option.bind (setIdx buf (addI64 t 1) v) fun buf' => L g (addI64 t 1) buf'
    else some buf

theorem strs_loop (F : List Nat → Option (List Nat)) (f : List Nat → List Nat) (strs : List (List Nat))
    (L : Nat → Int → List (List Nat) → Option (List (List Nat)))
    (hL : StrsStep F strs L)
    (hF : ∀ s ∈ strs, F s = some (f s)) (hN : strs.length < 2^62) :
    ∀ (rest done : List (List Nat)) (i gas : Nat), i + rest.length = strs.length → rest.length + 1 ≤ gas →
      done.length = i →
      L gas ((i : Int) - 1) (done ++ rest) = some (done ++ (strs.drop i).map f)
  | [], done, i, gas, hik, hg, hd => by
    obtain ⟨g, rfl, -⟩ := gas_pos hg
    have hi : i = strs.length := by simpa using hik
    have e : addI64 ((i : Int) - 1) 1 = (i : Int) := addI64_pred_one (by omega)
    rw [hL, e, hi]
    simp only [Int.lt_irrefl, decide_false, Bool.false_eq_true, ↓reduceIte, List.drop_length, List.map_nil]
  | r :: rest, done, i, gas, hik, hg, hd => by
    obtain ⟨g, rfl, -⟩ := gas_pos hg
    rw [List.length_cons] at hik hg
    have hi : i < strs.length := by omega
    have e : addI64 ((i : Int) - 1) 1 = (i : Int) := addI64_pred_one (by omega)
    have hset : ∀ v, setIdx (done ++ r :: rest) (i : Int) v = some ((done ++ [v]) ++ rest) := fun v => by
      rw [setIdx_ofNat _ _ (by simp only [List.length_append, List.length_cons]; omega), ← hd,
        List.set_append_right _ _ (Nat.le_refl _), Nat.sub_self, List.set_cons_zero, List.append_assoc,
        List.singleton_append]
    have ih := strs_loop F f strs L hL hF hN rest (done ++ [f strs[i]]) (i + 1) g (by omega) (by omega)
      (by rw [List.length_append, hd]; rfl)
    have hlt : ((i : Int) < (strs.length : Int)) := by omega
    rw [show ((i + 1 : Nat) : Int) - 1 = (i : Int) by omega] at ih
    rw [hL, e]
    simp only [hlt, decide_true, ↓reduceIte]
    rw [index_ofNat, List.getElem?_eq_getElem hi, Option.bind_some, hF _ (List.getElem_mem hi), Option.bind_some, hset,
      Option.bind_some, ih, List.append_assoc, List.singleton_append, ← List.getElem_cons_drop hi, List.map_cons]

/-- the whole function: `rst := make([][]T, len(strs))`, then the loop from index `-1` -/
theorem strs_body (F : List Nat → Option (List Nat)) (f : List Nat → List Nat) (strs : List (List Nat)) (fuel : Nat)
    (L : Nat → Int → List (List Nat) → Option (List (List Nat)))
    (hL : StrsStep F strs L)
    (hF : ∀ s ∈ strs, F s = some (f s)) (hN : strs.length < 2^62) (hfuel : strs.length + 1 ≤ fuel) :
    (Option.bind (makeSlice ([] : List Nat) (len strs)) fun t1 => L fuel (-1) t1) = some (strs.map f) := by
  have h := strs_loop F f strs L hL hF hN (List.replicate strs.length []) [] 0 fuel (by simp) (by simp; omega) rfl
  rw [len_eq, makeSlice_ofNat, Option.bind_some]
  simpa using h

end Low.Tie7L
