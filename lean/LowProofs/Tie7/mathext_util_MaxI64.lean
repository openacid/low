import Generated.Ssa7.mathext_util_MaxI64
import LowProofs.Tie7.mathext_util_L
/- Tie of `mathext/util.MaxI64` (regenerated definition = specification); see `mathext_util_L.lean`. -/
namespace Low

/-- `MaxI64(a, b)` (`int64`) is the larger of its arguments, for ALL values (the generated definition
    only compares its arguments; a comparison of in-range representatives is the Go comparison of the type). -/
theorem Tie_mathext_util_MaxI64 (a b : Int) : Gen.Ssa7.mathext_util_MaxI64 a b = max a b :=
  Util.maxI_ite a b

/-- arguments that are `int64` values give a `int64` value -/
theorem Tie_mathext_util_MaxI64_range (a b : Int) (ha : Util.InS 64 a) (hb : Util.InS 64 b) :
    Util.InS 64 (Gen.Ssa7.mathext_util_MaxI64 a b) := by
  rw [Tie_mathext_util_MaxI64]; exact Util.InS_max ha hb

example : Gen.Ssa7.mathext_util_MaxI64 (-3) 2 = 2 := by decide +kernel

end Low
