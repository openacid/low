import Generated.Ssa7.bitmap_initMasks
import LowProofs.Tie3.Lemmas
import LowModel.GoSem2
/-
  Tie: the definition regenerated from the SSA form of `bitmap.initMasks` — the function that fills the six
  package-level tables `Mask`, `RMask` ([65]uint64), `MaskUpto`, `RMaskUpto`, `Bit`, `RBit` ([64]uint64) during package
  initialisation — returns exactly the tables that the vocabulary `GoSem.tblMask … tblRBit` (and through it every
  tie and every property theorem) assumes: entry `j` is `mask j`, `rmask j`, … of `LowModel/Bits.lean`, for ALL indices.
  The generated definition starts from the zero arrays (Go zero-initialises package-level variables), threads the six
  lists through the two loops and returns them in the order of the variables' names:
  `(Bit, Mask, MaskUpto, RBit, RMask, RMaskUpto)`.  The translator has checked (tools/ssa2lean7/init7.go) that nothing
  else in the program writes these variables and that `initMasks` runs exactly once, from `init()`.

  Proof: the computation is closed and finite (129 iterations), so the equation at `fuel = 66` is evaluated by the
  kernel (`decide +kernel`); `loop*_mono` lift it to every larger `fuel` (a loop that finishes within `gas`
  iterations finishes within more, whatever `fuel` later loops are started with, as long as it is not smaller).
-/
namespace Low
open Low.GoSem

/-- the six tables in the order of the generated result: `(Bit, Mask, MaskUpto, RBit, RMask, RMaskUpto)` -/
def maskTables : List Nat × List Nat × List Nat × List Nat × List Nat × List Nat :=
  ((List.range 64).map bit, (List.range 65).map mask, (List.range 64).map maskUpto,
   (List.range 64).map rbit, (List.range 65).map rmask, (List.range 64).map rmaskUpto)

theorem initMasks_loop6_mono (f f' : Nat) : ∀ (gas gas' : Nat) (t : Int) (B M MU RB RM RMU : List Nat)
    (r : List Nat × List Nat × List Nat × List Nat × List Nat × List Nat), gas ≤ gas' →
    Gen.Ssa7.bitmap_initMasks_loop6 f gas t B M MU RB RM RMU = some r →
    Gen.Ssa7.bitmap_initMasks_loop6 f' gas' t B M MU RB RM RMU = some r
  | 0, _, _, _, _, _, _, _, _, _, _, h => by simp [Gen.Ssa7.bitmap_initMasks_loop6] at h
  | gas+1, 0, _, _, _, _, _, _, _, _, hg, _ => by omega
  | gas+1, gas'+1, t, B, M, MU, RB, RM, RMU, r, hg, h => by
    rw [Gen.Ssa7.bitmap_initMasks_loop6] at h ⊢
    simp only at h ⊢
    split
    · rename_i hc
      rw [if_pos hc] at h
      simp only [Option.bind_eq_some_iff] at h ⊢
      obtain ⟨x1, h1, x2, h2, x3, h3, x4, h4, x5, h5, x6, h6, hrec⟩ := h
      exact ⟨x1, h1, x2, h2, x3, h3, x4, h4, x5, h5, x6, h6,
        initMasks_loop6_mono f f' gas gas' _ _ _ _ _ _ _ r (by omega) hrec⟩
    · rename_i hc
      rw [if_neg hc] at h
      exact h

theorem initMasks_loop3_mono (f f' : Nat) (hf : f ≤ f') : ∀ (gas gas' : Nat) (t : Int) (B M MU RB RM RMU : List Nat)
    (r : List Nat × List Nat × List Nat × List Nat × List Nat × List Nat), gas ≤ gas' →
    Gen.Ssa7.bitmap_initMasks_loop3 f gas t B M MU RB RM RMU = some r →
    Gen.Ssa7.bitmap_initMasks_loop3 f' gas' t B M MU RB RM RMU = some r
  | 0, _, _, _, _, _, _, _, _, _, _, h => by simp [Gen.Ssa7.bitmap_initMasks_loop3] at h
  | gas+1, 0, _, _, _, _, _, _, _, _, hg, _ => by omega
  | gas+1, gas'+1, t, B, M, MU, RB, RM, RMU, r, hg, h => by
    rw [Gen.Ssa7.bitmap_initMasks_loop3] at h ⊢
    simp only at h ⊢
    split
    · rename_i hc
      rw [if_pos hc] at h
      simp only [Option.bind_eq_some_iff] at h ⊢
      obtain ⟨x1, h1, x2, h2, x3, h3, hrec⟩ := h
      exact ⟨x1, h1, x2, h2, x3, h3, initMasks_loop3_mono f f' hf gas gas' _ _ _ _ _ _ _ r (by omega) hrec⟩
    · rename_i hc
      rw [if_neg hc] at h
      exact initMasks_loop6_mono f f' f f' _ _ _ _ _ _ _ r hf h

set_option synthInstance.maxSize 2048 in
theorem initMasks_66 : Gen.Ssa7.bitmap_initMasks 66 = some maskTables := by decide +kernel

/-- `initMasks()` terminates without panic and leaves exactly the tables of the model in the six package-level
    arrays, for every `fuel ≥ 66` (the first loop makes 65 iterations and one more test). -/
theorem Tie_bitmap_initMasks (fuel : Nat) (hfuel : 66 ≤ fuel) : Gen.Ssa7.bitmap_initMasks fuel = some maskTables := by
  have h := initMasks_66
  exact initMasks_loop3_mono 66 fuel hfuel 66 fuel _ _ _ _ _ _ _ _ hfuel h

private theorem index_map_range (n : Nat) (f : Nat → Nat) (j : Int) :
    index ((List.range n).map f) j = tbl n f j := by
  unfold index tbl
  by_cases h0 : j < 0
  · have : ¬ (0 ≤ j ∧ j < (n : Int)) := by omega
    simp [h0, this]
  · obtain ⟨k, rfl⟩ : ∃ k : Nat, j = (k : Int) := ⟨j.toNat, by omega⟩
    by_cases hk : k < n
    · have : (0 ≤ (k : Int) ∧ (k : Int) < (n : Int)) := by omega
      simp [this, hk]
    · have : ¬ (0 ≤ (k : Int) ∧ (k : Int) < (n : Int)) := by omega
      have hk' : n ≤ k := by omega
      simp [hk']

/-! Reading the table that `initMasks` built, with Go's bounds check, IS the vocabulary function — for every index,
    in range or not.  The vocabulary functions `GoSem.tblMask … tblRBit` are defined from the model's `mask … rbit`, not from the code. -/
theorem Tie_bitmap_Mask_read (fuel : Nat) (hfuel : 66 ≤ fuel) (j : Int) :
    (Gen.Ssa7.bitmap_initMasks fuel).bind (fun T => index T.2.1 j) = tblMask j := by
  rw [Tie_bitmap_initMasks fuel hfuel]; exact index_map_range 65 mask j
theorem Tie_bitmap_RMask_read (fuel : Nat) (hfuel : 66 ≤ fuel) (j : Int) :
    (Gen.Ssa7.bitmap_initMasks fuel).bind (fun T => index T.2.2.2.2.1 j) = tblRMask j := by
  rw [Tie_bitmap_initMasks fuel hfuel]; exact index_map_range 65 rmask j
theorem Tie_bitmap_MaskUpto_read (fuel : Nat) (hfuel : 66 ≤ fuel) (j : Int) :
    (Gen.Ssa7.bitmap_initMasks fuel).bind (fun T => index T.2.2.1 j) = tblMaskUpto j := by
  rw [Tie_bitmap_initMasks fuel hfuel]; exact index_map_range 64 maskUpto j
theorem Tie_bitmap_RMaskUpto_read (fuel : Nat) (hfuel : 66 ≤ fuel) (j : Int) :
    (Gen.Ssa7.bitmap_initMasks fuel).bind (fun T => index T.2.2.2.2.2 j) = tblRMaskUpto j := by
  rw [Tie_bitmap_initMasks fuel hfuel]; exact index_map_range 64 rmaskUpto j
theorem Tie_bitmap_Bit_read (fuel : Nat) (hfuel : 66 ≤ fuel) (j : Int) :
    (Gen.Ssa7.bitmap_initMasks fuel).bind (fun T => index T.1 j) = tblBit j := by
  rw [Tie_bitmap_initMasks fuel hfuel]; exact index_map_range 64 bit j
theorem Tie_bitmap_RBit_read (fuel : Nat) (hfuel : 66 ≤ fuel) (j : Int) :
    (Gen.Ssa7.bitmap_initMasks fuel).bind (fun T => index T.2.2.2.1 j) = tblRBit j := by
  rw [Tie_bitmap_initMasks fuel hfuel]; exact index_map_range 64 rbit j

/-- the first loop tests `t = 0 … 65`: with at most `65 - t` units of fuel it cannot make its last test -/
theorem initMasks_loop3_short (f : Nat) : ∀ (gas : Nat) (t : Nat) (B M MU RB RM RMU : List Nat), t + gas ≤ 65 →
    Gen.Ssa7.bitmap_initMasks_loop3 f gas (t : Int) B M MU RB RM RMU = none
  | 0, _, _, _, _, _, _, _, _ => by rw [Gen.Ssa7.bitmap_initMasks_loop3]
  | gas+1, t, B, M, MU, RB, RM, RMU, h => by
    have ht : ((t : Nat) : Int) < 65 := by omega
    have e : addI64 (t : Int) 1 = ((t + 1 : Nat) : Int) := Tie3L.addI64_one_ofNat (by omega)
    have ih := fun B M MU RB RM RMU => initMasks_loop3_short f gas (t + 1) B M MU RB RM RMU (by omega)
    rw [Gen.Ssa7.bitmap_initMasks_loop3]
    simp only [ht, decide_true, ↓reduceIte, e, ih, Option.bind_fun_none]

-- the bound is tight: with 65 units the first loop cannot make its last test
set_option maxRecDepth 100000 in
example : Gen.Ssa7.bitmap_initMasks 65 = none := by
  rw [Gen.Ssa7.bitmap_initMasks]
  exact initMasks_loop3_short 65 65 0 _ _ _ _ _ _ (Nat.le_refl _)
example : tblMask 64 = some 0xffffffffffffffff := by decide +kernel
example : tblMask 65 = none := by decide +kernel

end Low
