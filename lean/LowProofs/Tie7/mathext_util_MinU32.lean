import Generated.Ssa7.mathext_util_MinU32
import LowProofs.Tie7.mathext_util_L
/- Tie of `mathext/util.MinU32` (regenerated definition = specification); see `mathext_util_L.lean`. -/
namespace Low

/-- `MinU32(a, b)` (`uint32`) is the smaller of its arguments, for ALL values (the generated definition
    only compares its arguments; a comparison of in-range representatives is the Go comparison of the type). -/
theorem Tie_mathext_util_MinU32 (a b : Nat) : Gen.Ssa7.mathext_util_MinU32 a b = min a b :=
  Util.minU_ite a b

/-- arguments that are `uint32` values give a `uint32` value -/
theorem Tie_mathext_util_MinU32_range (a b : Nat) (ha : Util.InU 32 a) (hb : Util.InU 32 b) :
    Util.InU 32 (Gen.Ssa7.mathext_util_MinU32 a b) := by
  rw [Tie_mathext_util_MinU32]; exact Util.InU_min ha hb

example : Gen.Ssa7.mathext_util_MinU32 3 2 = 2 := by decide +kernel

end Low
