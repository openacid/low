import Generated.Ssa7.bitmap_select32single
import LowProofs.Lemmas.C02Loops
import LowProofs.Tie7.bitmap_indexSelectU64_L
import LowModel.Bitmap.Select
/-
  Lemmas for the tie of `bitmap.select32single` (unexported, used only by the tests):
   * `ss32 / ss16 / ss8 / ssByte`: the in-word `32 / 16 / 8 / table` search in the shape in which go/ssa emits it for
     this function (it differs from the one of `Select32`: `OnesCount64(w & 0xffffffff)` instead of
     `OnesCount32(uint32(w))`, `base += 32` instead of `base |= 32`, a third halving step `w >>= 8` and
     `(w&0xff)<<3 + findIth` instead of the two table-index forms), and its specification: for `f` below the
     popcount it returns `base +` the position of the `f`-th 1-bit (`C02L.IsSel`);
   * `ss_loop`: the word-skipping loop is the model's `sel32Skip`, except that running off the end returns `l*64`
     instead of panicking.
-/
namespace Low.Tie7Sel
open Low.GoSem Low.TieL Low.Tie2L Low.C02L

/-- block 15: the table lookup -/
def ssByte (base f : Int) (w : Nat) : Option Int :=
  Option.bind (GoSem2.tblSelect8 ((addU64 (shlU64 (andU64 w 255) 3) (toU64 f) : Nat) : Int)) fun t66 =>
    some (addI32 base (toI32 (t66 : Int)))

/-- one halving step: if the low `m` bits (`msk = 2^m - 1`) hold at most `f` 1-bits, go on in the next `m` bits -/
def ssStep (m msk : Nat) (next : Int → Int → Nat → Option Int) (base f : Int) (w : Nat) : Option Int :=
  if decide (onesCount64 (andU64 w msk) ≤ f) = true then
    next (addI32 base (m : Int)) (subI64 f (onesCount64 (andU64 w msk))) (shrU64 w m)
  else next base f w

/-- blocks 13/14: the byte step -/
def ss8 : Int → Int → Nat → Option Int := ssStep 8 255 ssByte

/-- blocks 11/12: the 16-bit step -/
def ss16 : Int → Int → Nat → Option Int := ssStep 16 65535 ss8

/-- blocks 8/10: the 32-bit step -/
def ss32 : Int → Int → Nat → Option Int := ssStep 32 4294967295 ss16

theorem loop7_step (fuel : Nat) (ws : List Nat) (sidx : List Int) (i t15 : Int) (gas : Nat) (t25 t26 t27 : Int)
    (t28 : Nat) :
    Gen.Ssa7.bitmap_select32single_loop7 fuel ws sidx i t15 (gas + 1) t25 t26 t27 t28 =
      if decide (onesCount64 t28 > t26) = true then ss32 t25 t26 t28
      else if decide (addI32 t27 1 ≥ t15) = true then some (mulI32 t15 64)
      else Option.bind (index ws (addI32 t27 1)) fun t71 =>
        Gen.Ssa7.bitmap_select32single_loop7 fuel ws sidx i t15 gas (addI32 t25 64) (subI64 t26 (onesCount64 t28))
          (addI32 t27 1) t71 := by
  rfl

theorem oc_and (w j : Nat) (m : Nat) (hm : m = mask j) (hj : j ≤ 64) :
    onesCount64 (andU64 w m) = ((popc w j : Nat) : Int) := by
  rw [onesCount64, andU64_eq, hm, popc_and_mask, Nat.min_eq_right hj]

theorem ssByte_spec (b f w : Nat) (hb : b + 8 < 2147483648) (hf : f < popc w 8) :
    ∃ r, ssByte (b : Int) (f : Int) w = some ((b + r : Nat) : Int) ∧ IsSel w f r ∧ r < 8 := by
  obtain ⟨r, hr, hs, hr8⟩ := Tie7Swar.select8_byte w f hf
  refine ⟨r, ?_, hs, hr8⟩
  unfold ssByte
  rw [toU64_ofNat_lt (by have := popc_le w 8; omega), hr]
  exact congrArg some ((congrArg (addI32 (b : Int)) (toI32_ofNat_lt (by omega))).trans (addI32_ofNat (by omega)))

/-- a halving step doubles the width the search covers -/
theorem ssStep_spec (m msk : Nat) (hmsk : msk = mask m) (hm : m ≤ 32) (next : Int → Int → Nat → Option Int)
    (hnext : ∀ b f w : Nat, b + m < 2147483648 → f < popc w m →
      ∃ r, next (b : Int) (f : Int) w = some ((b + r : Nat) : Int) ∧ IsSel w f r ∧ r < m)
    (b f w : Nat) (hb : b + (m + m) < 2147483648) (hf : f < popc w (m + m)) :
    ∃ r, ssStep m msk next (b : Int) (f : Int) w = some ((b + r : Nat) : Int) ∧ IsSel w f r ∧ r < m + m := by
  have hsplit : popc w (m + m) = popc w m + popc (w >>> m) m := popc_add w m m
  have hp : popc w m ≤ m := popc_le w m
  have hp' : popc (w >>> m) m ≤ m := popc_le _ m
  have hoc := oc_and w m msk hmsk (by omega)
  clear hmsk
  unfold ssStep
  simp only [hoc, Int.ofNat_le, decide_eq_true_eq]
  by_cases h : popc w m ≤ f
  · have e1 : subI64 (f : Int) ((popc w m : Nat) : Int) = ((f - popc w m : Nat) : Int) := subI64_ofNat h (by omega)
    have e2 : addI32 (b : Int) ((m : Nat) : Int) = ((b + m : Nat) : Int) := addI32_ofNat (by omega)
    obtain ⟨r, hr, hs, hrm⟩ := hnext (b + m) (f - popc w m) (w >>> m) (by omega) (by omega)
    refine ⟨m + r, ?_, isSel_high h hs, by omega⟩
    rw [if_pos h, e1, e2, shrU64_lt w (by omega : m < 64), hr, Nat.add_assoc]
  · obtain ⟨r, hr, hs, hrm⟩ := hnext b f w (by omega) (by omega)
    exact ⟨r, by rw [if_neg h, hr], hs, by omega⟩

theorem ss8_spec (b f w : Nat) (hb : b + 16 < 2147483648) (hf : f < popc w 16) :
    ∃ r, ss8 (b : Int) (f : Int) w = some ((b + r : Nat) : Int) ∧ IsSel w f r ∧ r < 16 :=
  ssStep_spec 8 255 (by decide) (by decide) ssByte ssByte_spec b f w hb hf

theorem ss16_spec (b f w : Nat) (hb : b + 32 < 2147483648) (hf : f < popc w 32) :
    ∃ r, ss16 (b : Int) (f : Int) w = some ((b + r : Nat) : Int) ∧ IsSel w f r ∧ r < 32 :=
  ssStep_spec 16 65535 (by decide) (by decide) ss8 ss8_spec b f w hb hf

theorem ss32_spec (b f w : Nat) (hb : b + 64 < 2147483648) (hf : f < popc w 64) :
    ∃ r, ss32 (b : Int) (f : Int) w = some ((b + r : Nat) : Int) ∧ IsSel w f r ∧ r < 64 :=
  ssStep_spec 32 4294967295 (by decide) (by decide) ss16 ss16_spec b f w hb hf

/-- what follows the word-skipping loop: off the end (`sel32Skip = none`) the code returns `l*64`; otherwise the
    in-word search in the word found -/
def ssAfter (len : Nat) : Option (Nat × Nat × Nat) → Option Int
  | none => some ((64 * len : Nat) : Int)
  | some p => ss32 ((p.2.1 * 64 : Nat) : Int) (p.2.2 : Int) p.1

/-- the generated loop at `wordI` with current word `w`, `rest = words[wordI+1:]`, `base = wordI*64` -/
theorem ss_loop (fuel : Nat) (ws : List Nat) (sidx : List Int) (i : Int) (hlen : ws.length < 2 ^ 25) :
    ∀ (rest : List Nat) (w wordI f gas : Nat), rest = ws.drop (wordI + 1) → rest.length + 1 ≤ gas →
      wordI < ws.length → f < 2 ^ 62 →
      Gen.Ssa7.bitmap_select32single_loop7 fuel ws sidx i (ws.length : Int) gas ((wordI * 64 : Nat) : Int) (f : Int)
          (wordI : Int) w
        = ssAfter ws.length (sel32Skip rest w wordI f)
  | [], w, wordI, f, gas, hrest, hg, hwI, hf => by
    obtain ⟨g, rfl, -⟩ := gas_pos hg
    have hl : ws.length < 33554432 := by simp only [Nat.reducePow] at hlen; exact hlen
    have hle : ws.length ≤ wordI + 1 := drop_eq_nil_le hrest
    have hw1 : wordI + 1 < 2147483648 := by omega
    have e1 : addI32 (wordI : Int) ((1 : Nat) : Int) = ((wordI + 1 : Nat) : Int) := addI32_ofNat hw1
    have hml : ws.length * 64 < 2147483648 := by omega
    have e2 : mulI32 (ws.length : Int) ((64 : Nat) : Int) = ((64 * ws.length : Nat) : Int) := by
      rw [mulI32_natCast, wrap32_ofNat hml, Nat.mul_comm]
    rw [loop7_step, sel32Skip, onesCount64]
    simp only [gt_iff_lt, Int.ofNat_lt, decide_eq_true_eq]
    by_cases h : popc w 64 ≤ f
    · have h' : ¬ (f < popc w 64) := by omega
      have hge : ((wordI + 1 : Nat) : Int) ≥ (ws.length : Int) := by omega
      rw [if_neg h', if_pos h, show ((1 : Int)) = ((1 : Nat) : Int) from rfl, e1, if_pos hge,
        show ((64 : Int)) = ((64 : Nat) : Int) from rfl, e2]
      rfl
    · have h' : f < popc w 64 := by omega
      rw [if_pos h', if_neg h]
      rfl
  | w' :: r, w, wordI, f, gas, hrest, hg, hwI, hf => by
    obtain ⟨g, rfl, -⟩ := gas_pos hg
    have hlt : wordI + 1 < ws.length := drop_eq_cons_lt hrest
    have hw1 : wordI + 1 < 2147483648 := by omega
    have e1 : addI32 (wordI : Int) ((1 : Nat) : Int) = ((wordI + 1 : Nat) : Int) := addI32_ofNat hw1
    have hb64 : wordI * 64 + 64 < 2147483648 := by omega
    have e3 : addI32 ((wordI * 64 : Nat) : Int) ((64 : Nat) : Int) = (((wordI + 1) * 64 : Nat) : Int) := by
      have e : wordI * 64 + 64 = (wordI + 1) * 64 := by omega
      rw [addI32_ofNat hb64, e]
    rw [loop7_step, sel32Skip, onesCount64]
    simp only [gt_iff_lt, Int.ofNat_lt, decide_eq_true_eq]
    by_cases h : popc w 64 ≤ f
    · have h' : ¬ (f < popc w 64) := by omega
      have hf63 : f < 9223372036854775808 := by simp only [Nat.reducePow] at hf; omega
      have hnge : ¬ (((wordI + 1 : Nat) : Int) ≥ (ws.length : Int)) := by omega
      have e2 : subI64 (f : Int) ((popc w 64 : Nat) : Int) = ((f - popc w 64 : Nat) : Int) := subI64_ofNat h hf63
      have ih := ss_loop fuel ws sidx i hlen r w' (wordI + 1) (f - popc w 64) g
        (drop_succ_of_drop_eq_cons hrest) (by simp only [List.length_cons] at hg; omega) hlt
        (by simp only [Nat.reducePow] at hf ⊢; omega)
      rw [if_neg h', if_pos h, show ((1 : Int)) = ((1 : Nat) : Int) from rfl, e1, if_neg hnge,
        index_ofNat, getElem?_of_drop_eq_cons hrest, show ((64 : Int)) = ((64 : Nat) : Int) from rfl, e3, e2]
      exact ih
    · have h' : f < popc w 64 := by omega
      rw [if_pos h', if_neg h]
      rfl

theorem sel32Skip_none {ws : List Nat} {i : Nat} (hi : rank ws (64 * ws.length) ≤ i) :
    ∀ (rest : List Nat) (w wI f w0 c : Nat), ws.drop (wI + 1) = rest → ws[wI]? = some w0 →
      Masked w0 c w → c ≤ 64 → f + rank ws (64 * wI + c) = i → sel32Skip rest w wI f = none := by
  intro rest
  induction rest with
  | nil =>
    intro w wI f w0 c hd hw hm hc hf
    have hlt : wI < ws.length := (List.getElem?_eq_some_iff.mp hw).1
    have hr := rank_word_masked hw hm hc
    have hmono := rank_mono ws (show 64 * wI + 64 ≤ 64 * ws.length by omega)
    rw [sel32Skip, if_pos (by omega)]
  | cons w1 r ih =>
    intro w wI f w0 c hd hw hm hc hf
    have hlt : wI < ws.length := (List.getElem?_eq_some_iff.mp hw).1
    have hr := rank_word_masked hw hm hc
    have hmono := rank_mono ws (show 64 * wI + 64 ≤ 64 * ws.length by omega)
    obtain ⟨hw1, _, hdr⟩ := drop_cons_facts hd
    have e : 64 * (wI + 1) + 0 = 64 * wI + 64 := by omega
    rw [sel32Skip, if_pos (by omega)]
    exact ih w1 (wI + 1) (f - popc w 64) w1 0 hdr hw1 (masked_refl w1) (by omega) (by rw [e, hr]; omega)

end Low.Tie7Sel
