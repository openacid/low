import Generated.Ssa7.mathext_util_MinU
import LowProofs.Tie7.mathext_util_L
/- Tie of `mathext/util.MinU` (regenerated definition = specification); see `mathext_util_L.lean`. -/
namespace Low

/-- `MinU(a, b)` (`uint`) is the smaller of its arguments, for ALL values (the generated definition
    only compares its arguments; a comparison of in-range representatives is the Go comparison of the type). -/
theorem Tie_mathext_util_MinU (a b : Nat) : Gen.Ssa7.mathext_util_MinU a b = min a b :=
  Util.minU_ite a b

/-- arguments that are `uint` values give a `uint` value -/
theorem Tie_mathext_util_MinU_range (a b : Nat) (ha : Util.InU 64 a) (hb : Util.InU 64 b) :
    Util.InU 64 (Gen.Ssa7.mathext_util_MinU a b) := by
  rw [Tie_mathext_util_MinU]; exact Util.InU_min ha hb

example : Gen.Ssa7.mathext_util_MinU 3 2 = 2 := by decide +kernel

end Low
