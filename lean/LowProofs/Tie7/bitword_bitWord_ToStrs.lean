import Generated.Ssa7.bitword_bitWord_ToStrs
import LowProofs.Tie3.bitword_bitWord_ToStr
import LowProofs.Tie7.bitword_Strs_L
import LowModel.Bitword
/-
  Tie: the definition regenerated from the SSA form of `(*bitword.bitWord).ToStrs` (a loop that fills a slice of
  strings, `rst[i] = w.ToStr(s)`, each element the result of the regenerated `ToStr` of generation 3) equals
  the element-wise model `strs.map (bwToStr n)` (property C08: "FromStrs/ToStrs apply the conversions element-wise").
  The receiver fields are instantiated as `newBW(n)` stores them (`Tie_bitword_newBW`).
-/
namespace Low

/-- Domain: `n ∈ {1,2,4,8}`, receiver fields as `newBW(n)` stores them; every word slice shorter than `2^32` (the
    domain of `Tie_bitword_bitWord_ToStr`), fewer than `2^62` slices.  Fuel: `fuel ≥ len(strs) + 1` and
    `fuel ≥ len(s) + 9` for every string.  The Go function cannot panic on this domain. -/
theorem Tie_bitword_bitWord_ToStrs (n : Nat) (strs : List (List Nat)) (fuel : Nat) (hn : n = 1 ∨ n = 2 ∨ n = 4 ∨ n = 8)
    (hlen : ∀ s ∈ strs, s.length < 2^32) (hN : strs.length < 2^62) (hfuel1 : strs.length + 1 ≤ fuel)
    (hfuel2 : ∀ s ∈ strs, s.length + 9 ≤ fuel) :
    Gen.Ssa7.bitword_bitWord_ToStrs fuel (n : Int) ((8 / n : Nat) : Int) (bwWordMask n) strs
      = some (strs.map (bwToStr n)) := by
  exact Tie7L.strs_body (Gen.Ssa3.bitword_bitWord_ToStr fuel (n : Int) ((8 / n : Nat) : Int) (bwWordMask n)) (bwToStr n) strs fuel _
    (fun _ _ _ => rfl) (fun s hs => Tie_bitword_bitWord_ToStr n s fuel hn (hlen s hs) (hfuel2 s hs)) hN hfuel1

example : Gen.Ssa7.bitword_bitWord_ToStrs 17 2 4 3 [[0, 1, 2, 3], [], [3, 2, 1, 0, 3]] = some [[0x1b], [], [0xe4, 0xc0]] := by
  decide +kernel
example : Gen.Ssa7.bitword_bitWord_ToStrs 3 2 4 3 [[0, 1, 2, 3], [], [3, 2, 1, 0, 3]] = none := by decide +kernel

end Low
