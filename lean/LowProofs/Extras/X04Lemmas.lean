import LowModel.Extras.Stat
/-
  Helper lemmas for X04 (size.stat).  `kids v d m` is what `stat` appends below the header of `v` (before the final
  indentation loop); `stat_eq` is the one unfolding of `stat` every proof uses.  The loops over elements, map entries and
  fields are one `loop` over the parts shown (`statElems_eq`, `statEntries_eq`, `statFields_eq`); one round of it is opened
  by `combine_eq_some`.
-/
namespace Low.X04L
open Low.Extras

/-- the header line -/
def hdr (sz : Nat) : StatLine := ⟨0, none, some sz⟩
/-- four more spaces -/
def bump (x : StatLine) : StatLine := { x with indent := x.indent + 1 }
/-- the lines `stat` collects below the header (`depth` already decremented) -/
def kids : SV → Int → Int → Option (List StatLine)
  | .map ps, d, m => statEntries ps 0 d m
  | .slice es, d, m => statElems es 0 d m
  | .arr es, d, m => statElems es 0 d m
  | .ptr none, _, _ => some []
  | .ptr (some p), d, m => stat p d m
  | .iface none, _, _ => some [⟨0, none, none⟩]
  | .iface (some x), d, m => stat x d m
  | .struct fs, d, m => statFields fs d m
  | _, _, _ => some []

theorem stat_eq (v : SV) (d m : Int) : stat v d m = (sizeOf v.erase).bind fun sz =>
    if d = 0 then some [hdr sz] else (kids v (d-1) m).map fun subs => hdr sz :: subs.map bump := by
  unfold stat
  cases h : sizeOf v.erase with
  | none => rfl
  | some sz =>
    simp only [Option.bind_some]
    split
    · rfl
    · rcases v with _|_|_|_|_|(_|_)|(_|_)|_|_ <;> rfl

theorem statElems_nil (i d m) : statElems [] i d m = some [] := by rw [statElems]

theorem statElems_cons (e r i d m) : statElems (e :: r) i d m =
    if (i : Int) < m then (stat e d m).bind fun a => (statElems r (i+1) d m).map fun b => setLabel (dec i) a ++ b
    else some [] := by
  rw [statElems]
  split
  · cases stat e d m <;> cases statElems r (i+1) d m <;> rfl
  · rfl

/-- what the map loop passes to `setLabel` -/
def entryLines (v : SV) (found : Bool) (d m : Int) : Option (List StatLine) :=
  if found then stat v d m else some [⟨0, none, none⟩]

theorem statEntries_nil (i d m) : statEntries [] i d m = some [] := by rw [statEntries]

theorem statEntries_cons (lbl k v f r i d m) : statEntries ((lbl, k, v, f) :: r) i d m =
    if (i : Int) < m then (entryLines v f d m).bind fun a => (statEntries r (i+1) d m).map fun b => setLabel lbl a ++ b
    else some [] := by
  rw [statEntries, entryLines]
  split
  · cases (if f = true then stat v d m else some [⟨0, none, none⟩]) <;> cases statEntries r (i+1) d m <;> rfl
  · rfl

theorem statFields_nil (d m) : statFields [] d m = some [] := by rw [statFields]

theorem statFields_cons (n v r d m) : statFields ((n, v) :: r) d m =
    (stat v d m).bind fun a => (statFields r d m).map fun b => setLabel n a ++ b := by
  rw [statFields]
  cases stat v d m <;> cases statFields r d m <;> rfl

theorem sizeOfList_cons_isSome (a : GoVal) (r) :
    (sizeOfList (a :: r)).isSome = ((sizeOf a).isSome && (sizeOfList r).isSome) := by
  rw [sizeOfList]; cases sizeOf a <;> cases sizeOfList r <;> rfl

theorem sizeOfPairs_cons_isSome (k v : GoVal) (r) :
    (sizeOfPairs ((k, v) :: r)).isSome = ((sizeOf k).isSome && (sizeOf v).isSome && (sizeOfPairs r).isSome) := by
  rw [sizeOfPairs]; cases sizeOf k <;> cases sizeOf v <;> cases sizeOfPairs r <;> rfl

theorem erase_arr (es) : sizeOf (SV.arr es).erase = sizeOfList (eraseList es) := by rw [SV.erase, sizeOf]
theorem erase_slice (es) : sizeOf (SV.slice es).erase = (sizeOfList (eraseList es)).map (· + 24) := by rw [SV.erase, sizeOf]
theorem erase_map (ps) : sizeOf (SV.map ps).erase = (sizeOfPairs (eraseEntries ps)).map (· + 8) := by rw [SV.erase, sizeOf]
theorem erase_ptr (p) : sizeOf (SV.ptr (some p)).erase = (sizeOf p.erase).map (· + 8) := by rw [SV.erase, sizeOf]
theorem erase_iface (p) : sizeOf (SV.iface (some p)).erase = (sizeOf p.erase).map (· + 16) := by rw [SV.erase, sizeOf]
theorem erase_struct (fs) : sizeOf (SV.struct fs).erase = sizeOfList (eraseFields fs) := by rw [SV.erase, sizeOf]
theorem erase_unsupported : sizeOf (SV.unsupported).erase = none := by rw [SV.erase, sizeOf]
theorem erase_ptr_nil : sizeOf (SV.ptr none).erase = some 8 := by rw [SV.erase, sizeOf]
theorem erase_iface_nil : sizeOf (SV.iface none).erase = some 16 := by rw [SV.erase, sizeOf]

theorem combine_isSome {lbl : Bytes} {x y : Option (List StatLine)} (hx : x.isSome) (hy : y.isSome) :
    (x.bind fun a => y.map fun b => setLabel lbl a ++ b).isSome := by
  obtain ⟨a, rfl⟩ := Option.isSome_iff_exists.1 hx
  obtain ⟨b, rfl⟩ := Option.isSome_iff_exists.1 hy
  rfl

theorem stat_isSome_of (v : SV) (d m : Int) (h : (sizeOf v.erase).isSome) (hk : (kids v (d-1) m).isSome) :
    (stat v d m).isSome := by
  rw [stat_eq]
  obtain ⟨sz, hsz⟩ := Option.isSome_iff_exists.1 h
  obtain ⟨subs, hs⟩ := Option.isSome_iff_exists.1 hk
  rw [hsz, hs]; split <;> rfl

mutual
theorem kids_some (m : Int) : ∀ (v : SV) (d : Int), (sizeOf v.erase).isSome → (kids v d m).isSome
  | .scalar _, _, _ => rfl
  | .str _, _, _ => rfl
  | .arr es, d, h => elems_some m es 0 d (by simpa [erase_arr] using h)
  | .slice es, d, h => elems_some m es 0 d (by simpa [erase_slice] using h)
  | .map ps, d, h => entries_some m ps 0 d (by simpa [erase_map] using h)
  | .ptr none, _, _ => rfl
  | .ptr (some p), d, h => by
    have hp : (sizeOf p.erase).isSome := by simpa [erase_ptr] using h
    exact stat_isSome_of p d m hp (kids_some m p (d-1) hp)
  | .iface none, _, _ => rfl
  | .iface (some p), d, h => by
    have hp : (sizeOf p.erase).isSome := by simpa [erase_iface] using h
    exact stat_isSome_of p d m hp (kids_some m p (d-1) hp)
  | .struct fs, d, h => fields_some m fs d (by simpa [erase_struct] using h)
  | .unsupported, _, h => by simp [erase_unsupported] at h
theorem elems_some (m : Int) : ∀ (es : List SV) (i : Nat) (d : Int),
    (sizeOfList (eraseList es)).isSome → (statElems es i d m).isSome
  | [], i, d, _ => by rw [statElems_nil]; rfl
  | e :: r, i, d, h => by
    rw [eraseList, sizeOfList_cons_isSome, Bool.and_eq_true] at h
    rw [statElems_cons]
    split
    · exact combine_isSome (stat_isSome_of e d m h.1 (kids_some m e (d-1) h.1)) (elems_some m r (i+1) d h.2)
    · rfl
theorem entries_some (m : Int) : ∀ (ps : List (Bytes × SV × SV × Bool)) (i : Nat) (d : Int),
    (sizeOfPairs (eraseEntries ps)).isSome → (statEntries ps i d m).isSome
  | [], i, d, _ => by rw [statEntries_nil]; rfl
  | (lbl, k, v, f) :: r, i, d, h => by
    rw [eraseEntries, sizeOfPairs_cons_isSome, Bool.and_eq_true, Bool.and_eq_true] at h
    have h1 : (entryLines v f d m).isSome := by
      rw [entryLines]; split
      · exact stat_isSome_of v d m h.1.2 (kids_some m v (d-1) h.1.2)
      · rfl
    rw [statEntries_cons]
    split
    · exact combine_isSome h1 (entries_some m r (i+1) d h.2)
    · rfl
theorem fields_some (m : Int) : ∀ (fs : List (Bytes × SV)) (d : Int),
    (sizeOfList (eraseFields fs)).isSome → (statFields fs d m).isSome
  | [], d, _ => by rw [statFields_nil]; rfl
  | (n, v) :: r, d, h => by
    rw [eraseFields, sizeOfList_cons_isSome, Bool.and_eq_true] at h
    rw [statFields_cons]
    exact combine_isSome (stat_isSome_of v d m h.1 (kids_some m v (d-1) h.1)) (fields_some m r d h.2)
end

theorem stat_isSome (v : SV) (d m : Int) (h : (sizeOf v.erase).isSome) : (stat v d m).isSome :=
  stat_isSome_of v d m h (kids_some m v (d-1) h)

theorem stat_shape (v : SV) (d m : Int) (ls) (h : stat v d m = some ls) :
    ∃ sz subs, sizeOf v.erase = some sz ∧ ls = hdr sz :: subs.map bump ∧
      (d = 0 → subs = []) ∧ (d ≠ 0 → kids v (d-1) m = some subs) := by
  rw [stat_eq] at h
  cases hs : sizeOf v.erase with
  | none => rw [hs] at h; simp at h
  | some sz =>
    rw [hs, Option.bind_some] at h
    by_cases hd : d = 0
    · rw [if_pos hd] at h
      exact ⟨sz, [], rfl, by simpa using h.symm, fun _ => rfl, fun h' => absurd hd h'⟩
    · rw [if_neg hd] at h
      cases hk : kids v (d-1) m with
      | none => rw [hk] at h; simp at h
      | some subs =>
        rw [hk] at h
        exact ⟨sz, subs, rfl, by simpa using h.symm, fun h' => absurd h' hd, fun _ => rfl⟩

theorem bump_indent (x : StatLine) : (bump x).indent = x.indent + 1 := rfl
theorem bump_label (x : StatLine) : (bump x).label = x.label := rfl
theorem bump_size (x : StatLine) : (bump x).size = x.size := rfl

theorem setLabel_hdr (l : Bytes) (sz : Option Nat) (r : List StatLine) :
    setLabel l (⟨0, none, sz⟩ :: r) = ⟨0, some l, sz⟩ :: r := by
  simp [setLabel]

theorem stat_neg_of_kids (v : SV) (m : Int) (hk : ∀ d : Int, d < 0 → kids v d m = kids v (-1) m) :
    ∀ d : Int, d < 0 → stat v d m = stat v (-1) m := by
  intro d hd
  rw [stat_eq, stat_eq v (-1), hk (d-1) (by omega), hk (-1-1) (by omega)]
  have h1 : d ≠ 0 := by omega
  simp only [h1, if_false]; rfl

mutual
theorem kids_neg (m : Int) : ∀ (v : SV) (d : Int), d < 0 → kids v d m = kids v (-1) m
  | .scalar _, _, _ => rfl
  | .str _, _, _ => rfl
  | .arr es, d, h => elems_neg m es 0 d h
  | .slice es, d, h => elems_neg m es 0 d h
  | .map ps, d, h => entries_neg m ps 0 d h
  | .ptr none, _, _ => rfl
  | .ptr (some p), d, h => stat_neg_of_kids p m (fun d' h' => kids_neg m p d' h') d h
  | .iface none, _, _ => rfl
  | .iface (some p), d, h => stat_neg_of_kids p m (fun d' h' => kids_neg m p d' h') d h
  | .struct fs, d, h => fields_neg m fs d h
  | .unsupported, _, _ => rfl
theorem elems_neg (m : Int) : ∀ (es : List SV) (i : Nat) (d : Int), d < 0 → statElems es i d m = statElems es i (-1) m
  | [], i, d, _ => by rw [statElems_nil, statElems_nil]
  | e :: r, i, d, h => by
    rw [statElems_cons, statElems_cons, stat_neg_of_kids e m (fun d' h' => kids_neg m e d' h') d h,
      elems_neg m r (i+1) d h]
theorem entries_neg (m : Int) : ∀ (ps : List (Bytes × SV × SV × Bool)) (i : Nat) (d : Int), d < 0 →
    statEntries ps i d m = statEntries ps i (-1) m
  | [], i, d, _ => by rw [statEntries_nil, statEntries_nil]
  | (lbl, k, v, f) :: r, i, d, h => by
    rw [statEntries_cons, statEntries_cons, entryLines, entryLines,
      stat_neg_of_kids v m (fun d' h' => kids_neg m v d' h') d h, entries_neg m r (i+1) d h]
theorem fields_neg (m : Int) : ∀ (fs : List (Bytes × SV)) (d : Int), d < 0 → statFields fs d m = statFields fs (-1) m
  | [], d, _ => by rw [statFields_nil, statFields_nil]
  | (n, v) :: r, d, h => by
    rw [statFields_cons, statFields_cons, stat_neg_of_kids v m (fun d' h' => kids_neg m v d' h') d h,
      fields_neg m r d h]
end

theorem stat_neg (v : SV) (d m : Int) (h : d < 0) : stat v d m = stat v (-1) m :=
  stat_neg_of_kids v m (fun d' h' => kids_neg m v d' h') d h

def Headed (o : Option (List StatLine)) : Prop :=
  ∀ a, o = some a → ∃ s t, a = (⟨0, none, s⟩ : StatLine) :: t ∧ ∀ x ∈ t, 0 < x.indent

theorem stat_head {v : SV} {d m : Int} {a : List StatLine} (h : stat v d m = some a) :
    ∃ t, a = (⟨0, none, sizeOf v.erase⟩ : StatLine) :: t ∧ ∀ x ∈ t, 0 < x.indent := by
  obtain ⟨sz, subs, hs, rfl, _, _⟩ := stat_shape v d m a h
  refine ⟨subs.map bump, by rw [hs]; rfl, fun x hx => ?_⟩
  obtain ⟨y, _, rfl⟩ := List.mem_map.1 hx
  exact Nat.succ_pos _

theorem stat_headed (v : SV) (d m : Int) : Headed (stat v d m) :=
  fun _ h => ⟨_, stat_head h⟩

/-- what the map loop labels starts likewise; the line is `<nil>` (no number) for an entry `MapIndex` does not find -/
theorem entryLines_head {v : SV} {f : Bool} {d m : Int} {a : List StatLine} (h : entryLines v f d m = some a) :
    ∃ t, a = (⟨0, none, if f then sizeOf v.erase else none⟩ : StatLine) :: t ∧ ∀ x ∈ t, 0 < x.indent := by
  cases f
  · cases h
    exact ⟨[], rfl, fun _ hx => nomatch hx⟩
  · exact stat_head h

theorem entryLines_headed (v : SV) (f : Bool) (d m : Int) : Headed (entryLines v f d m) :=
  fun _ h => ⟨_, entryLines_head h⟩

def AllLe (d : Int) (o : Option (List StatLine)) : Prop :=
  ∀ ls, o = some ls → ∀ l ∈ ls, (l.indent : Int) ≤ d

theorem combine_eq_some {lbl : Bytes} {x y : Option (List StatLine)} {ls : List StatLine}
    (h : (x.bind fun a => y.map fun b => setLabel lbl a ++ b) = some ls) :
    ∃ a b, x = some a ∧ y = some b ∧ ls = setLabel lbl a ++ b := by
  cases x with
  | none => cases h
  | some a =>
    cases y with
    | none => cases h
    | some b => exact ⟨a, b, rfl, rfl, (Option.some.inj h).symm⟩

theorem mem_setLabel {lbl : Bytes} {a : List StatLine} {l : StatLine} (h : l ∈ setLabel lbl a) :
    ∃ l' ∈ a, l.indent = l'.indent ∧ l.size = l'.size := by
  cases a with
  | nil => cases h
  | cons s r =>
    rcases List.mem_cons.1 h with rfl | h
    · exact ⟨s, List.mem_cons_self, rfl, rfl⟩
    · exact ⟨l, List.mem_cons_of_mem _ h, rfl, rfl⟩

theorem allLe_combine (d : Int) (lbl : Bytes) (x y : Option (List StatLine)) (hx : AllLe d x) (hy : AllLe d y) :
    AllLe d (x.bind fun a => y.map fun b => setLabel lbl a ++ b) := by
  intro ls h l hl
  obtain ⟨a, b, rfl, rfl, rfl⟩ := combine_eq_some h
  rcases List.mem_append.1 hl with hl | hl
  · obtain ⟨l', hl', hi, _⟩ := mem_setLabel hl
    rw [hi]
    exact hx a rfl l' hl'
  · exact hy b rfl l hl

theorem allLe_nil (d : Int) : AllLe d (some []) := by
  intro ls h
  cases h
  exact fun _ hl => nomatch hl

theorem stat_le_of_kids (v : SV) (m : Int) (hk : ∀ d : Int, 0 ≤ d → AllLe d (kids v d m)) :
    ∀ d : Int, 0 ≤ d → AllLe d (stat v d m) := by
  intro d hd ls h l hl
  obtain ⟨sz, subs, _, rfl, h0, h1⟩ := stat_shape v d m ls h
  rw [List.mem_cons] at hl
  rcases hl with rfl | hl
  · exact hd
  · obtain ⟨y, hy, rfl⟩ := List.mem_map.1 hl
    by_cases hd0 : d = 0
    · rw [h0 hd0] at hy; simp at hy
    · have := hk (d-1) (by omega) subs (h1 hd0) y hy
      rw [bump_indent]; omega

mutual
theorem kids_le (m : Int) : ∀ (v : SV) (d : Int), 0 ≤ d → AllLe d (kids v d m)
  | .scalar _, _, _ => allLe_nil _
  | .str _, _, _ => allLe_nil _
  | .arr es, d, h => elems_le m es 0 d h
  | .slice es, d, h => elems_le m es 0 d h
  | .map ps, d, h => entries_le m ps 0 d h
  | .ptr none, _, _ => allLe_nil _
  | .ptr (some p), d, h => stat_le_of_kids p m (fun d' h' => kids_le m p d' h') d h
  | .iface none, d, hd => by intro ls h; cases h; simpa using hd
  | .iface (some p), d, h => stat_le_of_kids p m (fun d' h' => kids_le m p d' h') d h
  | .struct fs, d, h => fields_le m fs d h
  | .unsupported, _, _ => allLe_nil _
theorem elems_le (m : Int) : ∀ (es : List SV) (i : Nat) (d : Int), 0 ≤ d → AllLe d (statElems es i d m)
  | [], i, d, _ => by rw [statElems_nil]; exact allLe_nil d
  | e :: r, i, d, h => by
    rw [statElems_cons]; split
    · exact allLe_combine d _ _ _
        (stat_le_of_kids e m (fun d' h' => kids_le m e d' h') d h) (elems_le m r (i+1) d h)
    · exact allLe_nil d
theorem entries_le (m : Int) : ∀ (ps : List (Bytes × SV × SV × Bool)) (i : Nat) (d : Int), 0 ≤ d →
    AllLe d (statEntries ps i d m)
  | [], i, d, _ => by rw [statEntries_nil]; exact allLe_nil d
  | (lbl, k, v, f) :: r, i, d, h => by
    rw [statEntries_cons]; split
    · refine allLe_combine d _ _ _ ?_ (entries_le m r (i+1) d h)
      rw [entryLines]; split
      · exact stat_le_of_kids v m (fun d' h' => kids_le m v d' h') d h
      · intro ls h'; cases h'; simpa using h
    · exact allLe_nil d
theorem fields_le (m : Int) : ∀ (fs : List (Bytes × SV)) (d : Int), 0 ≤ d → AllLe d (statFields fs d m)
  | [], d, _ => by rw [statFields_nil]; exact allLe_nil d
  | (n, v) :: r, d, h => by
    rw [statFields_cons]
    exact allLe_combine d _ _ _
      (stat_le_of_kids v m (fun d' h' => kids_le m v d' h') d h) (fields_le m r d h)
end

theorem stat_le (v : SV) (d m : Int) (h : 0 ≤ d) : AllLe d (stat v d m) :=
  stat_le_of_kids v m (fun d' h' => kids_le m v d' h') d h

/-- keep the lines whose indentation is at most `d` -/
def keep (d : Int) (ls : List StatLine) : List StatLine := ls.filter fun l => decide ((l.indent : Int) ≤ d)

theorem keep_nil (d : Int) : keep d [] = [] := rfl

theorem keep_cons_zero (d : Int) (hd : 0 ≤ d) (lb : Option Bytes) (s : Option Nat) (t : List StatLine) :
    keep d (⟨0, lb, s⟩ :: t) = ⟨0, lb, s⟩ :: keep d t := by
  simp [keep, hd]

theorem keep_append (d : Int) (a b : List StatLine) : keep d (a ++ b) = keep d a ++ keep d b := by
  simp [keep]

theorem filter_map_bump (p q : Nat → Bool) (hpq : ∀ n, p (n + 1) = q n) (subs : List StatLine) :
    (subs.map bump).filter (fun l => p l.indent) = (subs.filter fun l => q l.indent).map bump := by
  rw [List.filter_map]
  congr 1
  exact List.filter_congr fun x _ => hpq x.indent

theorem keep_bump (d : Int) (subs : List StatLine) : keep d (subs.map bump) = (keep (d-1) subs).map bump :=
  filter_map_bump (fun n => decide ((n : Int) ≤ d)) (fun n => decide ((n : Int) ≤ d - 1))
    (fun n => decide_eq_decide.2 (by omega)) subs

theorem keep_zero_bump (subs : List StatLine) : keep 0 (subs.map bump) = [] := by
  rw [keep_bump, keep, List.filter_eq_nil_iff.2 fun x _ => by simp only [decide_eq_true_eq]; omega]
  rfl

theorem filter_combine (d : Int) (hd : 0 ≤ d) (lbl : Bytes) (x y : Option (List StatLine)) (hh : Headed x) :
    ((x.map (keep d)).bind fun a => (y.map (keep d)).map fun b => setLabel lbl a ++ b)
      = (x.bind fun a => y.map fun b => setLabel lbl a ++ b).map (keep d) := by
  cases x with
  | none => rfl
  | some a =>
    cases y with
    | none => rfl
    | some b =>
      obtain ⟨s, t, rfl, _⟩ := hh a rfl
      simp only [Option.map_some, Option.bind_some, keep_cons_zero d hd, setLabel_hdr, keep_append,
        List.cons_append]

theorem stat_filter_of_kids (v : SV) (m : Int)
    (hk : ∀ d : Int, 0 ≤ d → kids v d m = (kids v (-1) m).map (keep d)) :
    ∀ d : Int, 0 ≤ d → stat v d m = (stat v (-1) m).map (keep d) := by
  intro d hd
  rw [stat_eq, stat_eq v (-1), kids_neg m v (-1-1) (by omega)]
  cases hs : sizeOf v.erase with
  | none => rfl
  | some sz =>
    have hsome := kids_some m v (-1) (by rw [hs]; rfl)
    obtain ⟨subs, hsubs⟩ := Option.isSome_iff_exists.1 hsome
    have hne : ¬ ((-1 : Int) = 0) := by omega
    simp only [Option.bind_some, hne, if_false, hsubs, Option.map_some]
    by_cases h0 : d = 0
    · subst h0
      simp only [if_true, hdr, keep_cons_zero 0 (Int.le_refl 0), keep_zero_bump]
    · rw [if_neg h0, hk (d-1) (by omega), hsubs]
      simp only [Option.map_some, hdr, keep_cons_zero d hd, keep_bump]

mutual
theorem kids_filter (m : Int) : ∀ (v : SV) (d : Int), 0 ≤ d → kids v d m = (kids v (-1) m).map (keep d)
  | .scalar _, _, _ => rfl
  | .str _, _, _ => rfl
  | .arr es, d, h => elems_filter m es 0 d h
  | .slice es, d, h => elems_filter m es 0 d h
  | .map ps, d, h => entries_filter m ps 0 d h
  | .ptr none, _, _ => rfl
  | .ptr (some p), d, h => stat_filter_of_kids p m (fun d' h' => kids_filter m p d' h') d h
  | .iface none, d, hd => by simp only [kids, Option.map_some, keep_cons_zero d hd, keep_nil]
  | .iface (some p), d, h => stat_filter_of_kids p m (fun d' h' => kids_filter m p d' h') d h
  | .struct fs, d, h => fields_filter m fs d h
  | .unsupported, _, _ => rfl
theorem elems_filter (m : Int) : ∀ (es : List SV) (i : Nat) (d : Int), 0 ≤ d →
    statElems es i d m = (statElems es i (-1) m).map (keep d)
  | [], i, d, _ => by rw [statElems_nil, statElems_nil]; rfl
  | e :: r, i, d, h => by
    rw [statElems_cons, statElems_cons]; split
    · rw [stat_filter_of_kids e m (fun d' h' => kids_filter m e d' h') d h, elems_filter m r (i+1) d h]
      exact filter_combine d h _ _ _ (stat_headed e (-1) m)
    · rfl
theorem entries_filter (m : Int) : ∀ (ps : List (Bytes × SV × SV × Bool)) (i : Nat) (d : Int), 0 ≤ d →
    statEntries ps i d m = (statEntries ps i (-1) m).map (keep d)
  | [], i, d, _ => by rw [statEntries_nil, statEntries_nil]; rfl
  | (lbl, k, v, f) :: r, i, d, h => by
    rw [statEntries_cons, statEntries_cons]; split
    · have he : entryLines v f d m = (entryLines v f (-1) m).map (keep d) := by
        rw [entryLines, entryLines]; split
        · exact stat_filter_of_kids v m (fun d' h' => kids_filter m v d' h') d h
        · simp only [Option.map_some, keep_cons_zero d h, keep_nil]
      rw [he, entries_filter m r (i+1) d h]
      exact filter_combine d h _ _ _ (entryLines_headed v f (-1) m)
    · rfl
theorem fields_filter (m : Int) : ∀ (fs : List (Bytes × SV)) (d : Int), 0 ≤ d →
    statFields fs d m = (statFields fs (-1) m).map (keep d)
  | [], d, _ => by rw [statFields_nil, statFields_nil]; rfl
  | (n, v) :: r, d, h => by
    rw [statFields_cons, statFields_cons]
    rw [stat_filter_of_kids v m (fun d' h' => kids_filter m v d' h') d h, fields_filter m r d h]
    exact filter_combine d h _ _ _ (stat_headed v (-1) m)
end

theorem stat_filter (v : SV) (d m : Int) (h : 0 ≤ d) : stat v d m = (stat v (-1) m).map (keep d) :=
  stat_filter_of_kids v m (fun d' h' => kids_filter m v d' h') d h

theorem filter0_deeper (t : List StatLine) (h : ∀ x ∈ t, 0 < x.indent) :
    t.filter (fun l => decide (l.indent = 0)) = [] :=
  List.filter_eq_nil_iff.2 fun x hx => by have := h x hx; simp only [decide_eq_true_eq]; omega

theorem filter1_bump (subs : List StatLine) :
    (subs.map bump).filter (fun l => decide (l.indent = 1)) = (subs.filter fun l => decide (l.indent = 0)).map bump :=
  filter_map_bump (fun n => decide (n = 1)) (fun n => decide (n = 0)) (fun n => decide_eq_decide.2 (by omega)) subs

/-- the loop counter against `maxItem`: one more round is left while `i < maxItem`, none afterwards -/
theorem toNat_sub_succ {i : Nat} {m : Int} (hi : (i : Int) < m) : m.toNat - i = (m.toNat - (i + 1)) + 1 := by
  omega

theorem toNat_sub_eq_zero {i : Nat} {m : Int} (hi : ¬ (i : Int) < m) : m.toNat - i = 0 := by
  omega

/-- every piece answered, labelled and concatenated -/
def loop {α} (lbl : α → Bytes) (piece : α → Option (List StatLine)) : List α → Option (List StatLine)
  | [] => some []
  | x :: r => (piece x).bind fun a => (loop lbl piece r).map fun b => setLabel (lbl x) a ++ b

theorem statElems_eq (d m : Int) : ∀ (es : List SV) (i : Nat),
    statElems es i d m = loop (fun p => dec p.2) (fun p => stat p.1 d m) ((es.take (m.toNat - i)).zipIdx i)
  | [], i => by rw [statElems_nil, List.take_nil]; rfl
  | e :: r, i => by
    rw [statElems_cons]
    by_cases hi : (i : Int) < m
    · rw [if_pos hi, toNat_sub_succ hi, List.take_succ_cons, List.zipIdx_cons, loop, statElems_eq d m r (i+1)]
    · rw [if_neg hi, toNat_sub_eq_zero hi]; rfl

theorem statEntries_eq (d m : Int) : ∀ (ps : List (Bytes × SV × SV × Bool)) (i : Nat),
    statEntries ps i d m = loop (·.1) (fun p => entryLines p.2.2.1 p.2.2.2 d m) (ps.take (m.toNat - i))
  | [], i => by rw [statEntries_nil, List.take_nil]; rfl
  | (lbl, k, v, f) :: r, i => by
    rw [statEntries_cons]
    by_cases hi : (i : Int) < m
    · rw [if_pos hi, toNat_sub_succ hi, List.take_succ_cons, loop, statEntries_eq d m r (i+1)]
    · rw [if_neg hi, toNat_sub_eq_zero hi]; rfl

theorem statFields_eq (d m : Int) : ∀ (fs : List (Bytes × SV)),
    statFields fs d m = loop (·.1) (fun p => stat p.2 d m) fs
  | [] => by rw [statFields_nil]; rfl
  | (n, v) :: r => by rw [statFields_cons, loop, statFields_eq d m r]

theorem loop_filter0 {α} (lbl : α → Bytes) (piece : α → Option (List StatLine)) (num : α → Option Nat) :
    ∀ (xs : List α) (subs : List StatLine),
    (∀ x ∈ xs, ∀ a, piece x = some a → ∃ t, a = (⟨0, none, num x⟩ : StatLine) :: t ∧ ∀ z ∈ t, 0 < z.indent) →
    loop lbl piece xs = some subs →
    subs.filter (fun l => decide (l.indent = 0)) = xs.map fun x => ⟨0, some (lbl x), num x⟩
  | [], subs, _, h => by cases h; rfl
  | x :: r, subs, hp, h => by
    obtain ⟨a, b, ha, hb, rfl⟩ := combine_eq_some h
    obtain ⟨t, rfl, ht⟩ := hp x List.mem_cons_self a ha
    rw [setLabel_hdr, List.cons_append, List.filter_cons_of_pos rfl, List.filter_append, filter0_deeper t ht,
      List.nil_append, loop_filter0 lbl piece num r b (fun y hy => hp y (List.mem_cons_of_mem _ hy)) hb, List.map_cons]

theorem lines1_stat (v : SV) (d m : Int) (hd : d ≠ 0) (ls) (h : stat v d m = some ls) :
    ∃ subs, kids v (d-1) m = some subs ∧
      ls.filter (fun l => decide (l.indent = 1)) = (subs.filter fun l => decide (l.indent = 0)).map bump := by
  obtain ⟨sz, subs, _, rfl, _, h1⟩ := stat_shape v d m ls h
  refine ⟨subs, h1 hd, ?_⟩
  rw [← filter1_bump]
  simp [hdr]

theorem lines1_of_loop {α} {v : SV} {d m : Int} (hd : d ≠ 0) {ls : List StatLine} (h : stat v d m = some ls)
    {lbl : α → Bytes} {piece : α → Option (List StatLine)} {num : α → Option Nat} {xs : List α}
    (hk : kids v (d-1) m = loop lbl piece xs)
    (hp : ∀ x ∈ xs, ∀ a, piece x = some a → ∃ t, a = (⟨0, none, num x⟩ : StatLine) :: t ∧ ∀ z ∈ t, 0 < z.indent) :
    ls.filter (fun l => decide (l.indent = 1)) = xs.map fun x => ⟨1, some (lbl x), num x⟩ := by
  obtain ⟨subs, hs, hl⟩ := lines1_stat v d m hd ls h
  rw [hl, loop_filter0 lbl piece num xs subs hp (hk ▸ hs), List.map_map]
  rfl

theorem elem_lines1 {v : SV} {es : List SV} {d m : Int} (hd : d ≠ 0) {ls : List StatLine} (h : stat v d m = some ls)
    (hk : kids v (d-1) m = statElems es 0 (d-1) m) :
    ls.filter (fun l => decide (l.indent = 1))
      = ((es.take m.toNat).zipIdx).map fun p => ⟨1, some (dec p.2), sizeOf p.1.erase⟩ :=
  lines1_of_loop hd h (hk.trans (statElems_eq (d-1) m es 0)) fun _ _ _ ha => stat_head ha

theorem map_dec_zipIdx (es : List SV) (n : Nat) :
    ((es.take n).zipIdx).map (fun p => some (dec p.2)) = (List.range (min es.length n)).map fun i => some (dec i) := by
  rw [List.range_eq_range', Nat.min_comm, ← List.length_take, ← List.zipIdx_map_snd 0 (es.take n), List.map_map]
  rfl

end Low.X04L

namespace Low
open Low.Extras
/-- `X04_Part w v`: `w` is `v` or a part of `v` that `stat` walks into (array / slice elements, map values,
    pointees, dynamic values of interfaces, struct fields; map keys are not walked) -/
inductive X04_Part : SV → SV → Prop where
  | refl (v : SV) : X04_Part v v
  | arr {w e : SV} {es : List SV} : e ∈ es → X04_Part w e → X04_Part w (.arr es)
  | slice {w e : SV} {es : List SV} : e ∈ es → X04_Part w e → X04_Part w (.slice es)
  | mapv {w x : SV} {lbl : Bytes} {k : SV} {f : Bool} {ps : List (Bytes × SV × SV × Bool)} :
      (lbl, k, x, f) ∈ ps → X04_Part w x → X04_Part w (.map ps)
  | ptr {w p : SV} : X04_Part w p → X04_Part w (.ptr (some p))
  | iface {w p : SV} : X04_Part w p → X04_Part w (.iface (some p))
  | field {w x : SV} {n : Bytes} {fs : List (Bytes × SV)} : (n, x) ∈ fs → X04_Part w x → X04_Part w (.struct fs)
end Low

namespace Low.X04L
open Low.Extras

def SzOK (P : SV → Prop) (o : Option (List StatLine)) : Prop :=
  ∀ ls, o = some ls → ∀ l ∈ ls, ∀ n, l.size = some n → ∃ w, P w ∧ sizeOf w.erase = some n

theorem SzOK.mono {P Q : SV → Prop} {o} (h : SzOK P o) (hpq : ∀ w, P w → Q w) : SzOK Q o := by
  intro ls hl l hm n hn
  obtain ⟨w, hw, hs⟩ := h ls hl l hm n hn
  exact ⟨w, hpq w hw, hs⟩

theorem szOK_nil (P : SV → Prop) : SzOK P (some []) := by
  intro ls h; cases h; simp

/-- the line `<nil>` carries no number -/
theorem szOK_nilLine (P : SV → Prop) : SzOK P (some [⟨0, none, none⟩]) := by
  intro ls h l hl n hn
  cases h
  rw [List.mem_singleton] at hl
  subst hl
  cases hn

theorem szOK_combine (P : SV → Prop) (lbl : Bytes) (x y : Option (List StatLine)) (hx : SzOK P x) (hy : SzOK P y) :
    SzOK P (x.bind fun a => y.map fun b => setLabel lbl a ++ b) := by
  intro ls h l hl n hn
  obtain ⟨a, b, rfl, rfl, rfl⟩ := combine_eq_some h
  rcases List.mem_append.1 hl with hl | hl
  · obtain ⟨l', hl', _, hs⟩ := mem_setLabel hl
    exact hx a rfl l' hl' n (hs ▸ hn)
  · exact hy b rfl l hl n hn

theorem stat_sz_of_kids (v : SV) (m : Int) (hk : ∀ d : Int, SzOK (X04_Part · v) (kids v d m)) :
    ∀ d : Int, SzOK (X04_Part · v) (stat v d m) := by
  intro d ls h l hl n hn
  obtain ⟨sz, subs, hs, rfl, h0, h1⟩ := stat_shape v d m ls h
  rw [List.mem_cons] at hl
  rcases hl with rfl | hl
  · simp only [hdr, Option.some.injEq] at hn
    subst hn
    exact ⟨v, .refl v, hs⟩
  · obtain ⟨y, hy, rfl⟩ := List.mem_map.1 hl
    by_cases hd0 : d = 0
    · rw [h0 hd0] at hy; simp at hy
    · exact hk (d-1) subs (h1 hd0) y hy n (by rw [← bump_size]; exact hn)

mutual
theorem kids_sz (m : Int) : ∀ (v : SV) (d : Int), SzOK (X04_Part · v) (kids v d m)
  | .scalar _, _ => szOK_nil _
  | .str _, _ => szOK_nil _
  | .arr es, d => (elems_sz m es 0 d).mono fun _ ⟨_, he, hw⟩ => .arr he hw
  | .slice es, d => (elems_sz m es 0 d).mono fun _ ⟨_, he, hw⟩ => .slice he hw
  | .map ps, d => (entries_sz m ps 0 d).mono fun _ ⟨_, _, _, _, he, hw⟩ => .mapv he hw
  | .ptr none, _ => szOK_nil _
  | .ptr (some p), d => (stat_sz_of_kids p m (fun d' => kids_sz m p d') d).mono fun _ hw => .ptr hw
  | .iface none, _ => szOK_nilLine _
  | .iface (some p), d => (stat_sz_of_kids p m (fun d' => kids_sz m p d') d).mono fun _ hw => .iface hw
  | .struct fs, d => (fields_sz m fs d).mono fun _ ⟨_, _, he, hw⟩ => .field he hw
  | .unsupported, _ => szOK_nil _
theorem elems_sz (m : Int) : ∀ (es : List SV) (i : Nat) (d : Int),
    SzOK (fun w => ∃ e, e ∈ es ∧ X04_Part w e) (statElems es i d m)
  | [], i, d => by rw [statElems_nil]; exact szOK_nil _
  | e :: r, i, d => by
    rw [statElems_cons]; split
    · refine szOK_combine _ _ _ _ ?_ ?_
      · exact (stat_sz_of_kids e m (fun d' => kids_sz m e d') d).mono fun w hw => ⟨e, by simp, hw⟩
      · exact (elems_sz m r (i+1) d).mono fun w ⟨e', he, hw⟩ => ⟨e', by simp [he], hw⟩
    · exact szOK_nil _
theorem entries_sz (m : Int) : ∀ (ps : List (Bytes × SV × SV × Bool)) (i : Nat) (d : Int),
    SzOK (fun w => ∃ lbl k x f, (lbl, k, x, f) ∈ ps ∧ X04_Part w x) (statEntries ps i d m)
  | [], i, d => by rw [statEntries_nil]; exact szOK_nil _
  | (lbl, k, v, f) :: r, i, d => by
    rw [statEntries_cons]; split
    · refine szOK_combine _ _ _ _ ?_ ?_
      · rw [entryLines]; split
        · exact (stat_sz_of_kids v m (fun d' => kids_sz m v d') d).mono
            fun w hw => ⟨lbl, k, v, f, by simp, hw⟩
        · exact szOK_nilLine _
      · exact (entries_sz m r (i+1) d).mono
          fun w ⟨l', k', x', f', he, hw⟩ => ⟨l', k', x', f', by simp [he], hw⟩
    · exact szOK_nil _
theorem fields_sz (m : Int) : ∀ (fs : List (Bytes × SV)) (d : Int),
    SzOK (fun w => ∃ n x, (n, x) ∈ fs ∧ X04_Part w x) (statFields fs d m)
  | [], d => by rw [statFields_nil]; exact szOK_nil _
  | (n, v) :: r, d => by
    rw [statFields_cons]
    refine szOK_combine _ _ _ _ ?_ ?_
    · exact (stat_sz_of_kids v m (fun d' => kids_sz m v d') d).mono fun w hw => ⟨n, v, by simp, hw⟩
    · exact (fields_sz m r d).mono fun w ⟨n', x', he, hw⟩ => ⟨n', x', by simp [he], hw⟩
end

theorem stat_sz (v : SV) (d m : Int) : SzOK (X04_Part · v) (stat v d m) :=
  stat_sz_of_kids v m (fun d' => kids_sz m v d') d

end Low.X04L
