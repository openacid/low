/-
  `List.mapM` in the `Option` monad (how the models write a Go loop that may panic in any round): one unfolding, when it
  answers, and what an answer consists of.
-/
namespace Low.MapM

theorem mapM_cons_opt {α β} (f : α → Option β) (a : α) (as : List α) :
    (a :: as).mapM f = (f a).bind fun b => (as.mapM f).map fun bs => b :: bs := by
  simp only [List.mapM_cons]
  cases as.mapM f <;> rfl

theorem mapM_cons_eq_some {α β} {f : α → Option β} {a : α} {as : List α} {r : List β} :
    (a :: as).mapM f = some r ↔ ∃ b bs, f a = some b ∧ as.mapM f = some bs ∧ r = b :: bs := by
  rw [mapM_cons_opt]
  cases f a with
  | none => simp
  | some b =>
    cases as.mapM f with
    | none => simp
    | some bs => simp [eq_comm]

theorem isSome_mapM {α β} (f : α → Option β) : ∀ as : List α, (as.mapM f).isSome = as.all fun a => (f a).isSome
  | [] => rfl
  | a :: as => by
    rw [mapM_cons_opt, List.all_cons, ← isSome_mapM f as]
    cases f a <;> cases as.mapM f <;> rfl

theorem mapM_eq_none {α β} (f : α → Option β) (l : List α) : l.mapM f = none ↔ ∃ a ∈ l, f a = none := by
  rw [← Option.not_isSome_iff_eq_none, isSome_mapM, Bool.not_eq_true, List.all_eq_false]
  simp only [Option.not_isSome_iff_eq_none]

theorem mapM_cons_none_left {α β} (f : α → Option β) (a : α) (as : List α) (h : f a = none) :
    (a :: as).mapM f = none :=
  (mapM_eq_none f _).2 ⟨a, List.mem_cons_self, h⟩

theorem mapM_cons_none_right {α β} (f : α → Option β) (a : α) (as : List α) (h : as.mapM f = none) :
    (a :: as).mapM f = none := by
  obtain ⟨x, hx, hf⟩ := (mapM_eq_none f as).1 h
  exact (mapM_eq_none f _).2 ⟨x, List.mem_cons_of_mem _ hx, hf⟩

theorem mapM_isSome_congr {α β γ} (f : α → Option β) (g : α → Option γ) : ∀ (as : List α),
    (∀ a ∈ as, (f a).isSome = (g a).isSome) → (as.mapM f).isSome = (as.mapM g).isSome
  | [], _ => rfl
  | a :: as, h => by
    have ih := mapM_isSome_congr f g as fun a' ha' => h a' (List.mem_cons_of_mem _ ha')
    rw [isSome_mapM f (a :: as), isSome_mapM g (a :: as), List.all_cons, List.all_cons, ← isSome_mapM f as,
      ← isSome_mapM g as, h a List.mem_cons_self, ih]

theorem mapM_map_some {α β γ} (f : β → Option γ) (g : α → β) (k : α → γ) (h : ∀ a, f (g a) = some (k a)) :
    ∀ (l : List α), (l.map g).mapM f = some (l.map k)
  | [] => rfl
  | a :: r => mapM_cons_eq_some.2 ⟨k a, r.map k, h a, mapM_map_some f g k h r, rfl⟩

theorem mapM_mono {α β} (f g : α → Option β) : ∀ (as : List α) (r : List β),
    (∀ a ∈ as, ∀ b, f a = some b → g a = some b) → as.mapM f = some r → as.mapM g = some r
  | [], _, _, h => h
  | a :: as, _, hfg, h => by
    obtain ⟨b, bs, hb, hbs, rfl⟩ := mapM_cons_eq_some.1 h
    exact mapM_cons_eq_some.2 ⟨b, bs, hfg a List.mem_cons_self b hb,
      mapM_mono f g as bs (fun a' ha' => hfg a' (List.mem_cons_of_mem _ ha')) hbs, rfl⟩

theorem mapM_mem {α β} (f : α → Option β) : ∀ (as : List α) (r : List β), as.mapM f = some r →
    ∀ x ∈ r, ∃ a ∈ as, f a = some x
  | [], _, h, x, hx => by cases h; cases hx
  | a :: as, _, h, x, hx => by
    obtain ⟨b, bs, hb, hbs, rfl⟩ := mapM_cons_eq_some.1 h
    rcases List.mem_cons.1 hx with rfl | hx
    · exact ⟨a, List.mem_cons_self, hb⟩
    · obtain ⟨a', ha', hf'⟩ := mapM_mem f as bs hbs x hx
      exact ⟨a', List.mem_cons_of_mem _ ha', hf'⟩

theorem mapM_flatten_length {α β γ} (f : α → Option (List β)) (g : α → Option (List γ)) :
    ∀ (as : List α) (xs : List (List β)) (ys : List (List γ)),
    (∀ a ∈ as, ∀ x y, f a = some x → g a = some y → x.length = y.length) →
    as.mapM f = some xs → as.mapM g = some ys → xs.flatten.length = ys.flatten.length
  | [], _, _, _, h1, h2 => by cases h1; cases h2; rfl
  | a :: as, _, _, hl, h1, h2 => by
    obtain ⟨x, xs, hx, hxs, rfl⟩ := mapM_cons_eq_some.1 h1
    obtain ⟨y, ys, hy, hys, rfl⟩ := mapM_cons_eq_some.1 h2
    rw [List.flatten_cons, List.flatten_cons, List.length_append, List.length_append,
      hl a List.mem_cons_self x y hx hy,
      mapM_flatten_length f g as xs ys (fun a' ha' => hl a' (List.mem_cons_of_mem _ ha')) hxs hys]

end Low.MapM
