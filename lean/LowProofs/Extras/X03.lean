import LowModel.Extras.ToSlice
/-
  X03 -- typehelper.ToSlice: the result has one cell per element, cell i holds element i (no cell is left nil by the
  loop), and the function panics exactly when the argument is not a slice.
-/
namespace Low.X03L
open Low.Extras

/-- loop invariant: with the first `i` cells written and `n = len - i` iterations left the loop ends with all cells written -/
theorem loop_inv {α} (es : List α) : ∀ (n i : Nat), i + n = es.length →
    toSliceLoop es n i ((es.take i).map some ++ List.replicate n none) = es.map some
  | 0, i, h => by
    simp only [toSliceLoop, List.replicate_zero, List.append_nil]
    rw [List.take_of_length_le (by omega)]
  | n + 1, i, h => by
    simp only [toSliceLoop]
    have hi : i < es.length := by omega
    have hset : ((es.take i).map some ++ List.replicate (n + 1) none).set i es[i]?
        = (es.take (i + 1)).map some ++ List.replicate n none := by
      have hl : ((es.take i).map some).length = i := by simp; omega
      rw [List.set_append_right _ _ (by omega), hl, Nat.sub_self, List.replicate_succ, List.set_cons_zero,
        List.take_add_one, List.map_append, List.append_assoc]
      rw [List.getElem?_eq_getElem hi]; rfl
    rw [hset]
    exact loop_inv es n (i + 1) (by omega)

end Low.X03L

namespace Low
open Low.Extras

/-- ToSlice of a slice: every cell written, cell i = element i -/
theorem X03_toSlice {α} (es : List α) : toSlice (.slice es) = some (es.map some) := by
  have := X03L.loop_inv es es.length 0 (by omega)
  simp only [List.take_zero, List.map_nil, List.nil_append] at this
  simp only [toSlice, this]

example : toSlice (.slice [7, 8, 9]) = some [some 7, some 8, some 9] := by decide +kernel

/-- the result has the length of the argument -/
theorem X03_length {α} (es : List α) : ∃ r, toSlice (TSArg.slice es) = some r ∧ r.length = es.length :=
  ⟨_, X03_toSlice es, by simp⟩

example : ∃ r, toSlice (TSArg.slice [7, 8, 9]) = some r ∧ r.length = 3 := X03_length [7, 8, 9]

/-- cell `i` of the result is (the boxed) element `i` -/
theorem X03_elem {α} (es : List α) (i : Nat) (h : i < es.length) :
    ∃ r, toSlice (TSArg.slice es) = some r ∧ r[i]? = some (some es[i]) :=
  ⟨_, X03_toSlice es, by simp [h]⟩

example : ∃ r, toSlice (TSArg.slice [7, 8, 9]) = some r ∧ r[2]? = some (some 9) := X03_elem [7, 8, 9] 2 (by decide +kernel)

/-- panic iff not a slice -/
theorem X03_panic {α} (a : TSArg α) : toSlice a = none ↔ a = .other := by
  cases a with
  | slice es => simp [X03_toSlice]
  | other => simp [toSlice]

example : toSlice (TSArg.other : TSArg Nat) = none := by decide +kernel
example : toSlice (TSArg.slice ([] : List Nat)) ≠ none := by decide +kernel

end Low
