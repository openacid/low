import LowProofs.Extras.X01Lemmas
import LowProofs.Extras.MapM
import LowProofs.Lemmas.Wrap
import LowModel.Extras.Fmt
/-
  X01 -- bitmap.Fmt (bitmap/fmt.go): the rendering of integers / slices of integers as binary digits,
  least significant bit first, bytes separated by ' ', elements by ','.
  Model: LowModel/Extras/Fmt.lean.  Helper lemmas: X01Lemmas.lean (namespace Low.X01L).
-/
namespace Low.X01L
open Low.Extras

theorem byte_fin : ∀ b : Fin 256,
    fmt08b (reverse8 b.val) = (List.range 8).map fun k => bitChar (b.val.testBit k) := by
  decide +kernel

theorem byteAt_testBit (n i k : Nat) (hk : k < 8) : (byteAt n i).testBit k = n.testBit (8 * i + k) := by
  show ((n >>> (i * 8)) % 2 ^ 8).testBit k = _
  rw [Nat.testBit_mod_two_pow, Nat.mul_comm]
  simp [hk]

theorem byte_bits (n i : Nat) :
    fmt08b (reverse8 (byteAt n i)) = (List.range 8).map fun k => bitChar (n.testBit (8 * i + k)) := by
  rw [byte_fin ⟨byteAt n i, Nat.mod_lt _ (by decide)⟩]
  apply List.map_congr_left
  intro k hk
  rw [byteAt_testBit n i k (by simpa using hk)]

theorem intFmt_eq (ty : IntTy) (v : Int) : intFmt (.int ty v) = some (elemSpec ty.size v) := by
  simp only [intFmt, intSize, elemSpec, bitOf]
  congr 2
  apply List.map_congr_left
  intro i _
  exact byte_bits (toU64 v) i

theorem size_pos (ty : IntTy) : 0 < ty.size := by cases ty <;> decide

theorem size_le (ty : IntTy) : ty.size ≤ 8 := by cases ty <;> decide

/-- the byte chunks of `elemSpec` -/
def chunks (sz : Nat) (v : Int) : List (List Char) :=
  (List.range sz).map fun j => (List.range 8).map fun k => bitChar (bitOf v (8 * j + k))

theorem elemSpec_eq (sz : Nat) (v : Int) : elemSpec sz v = joinSep [' '] (chunks sz v) := rfl

theorem chunks_length (sz : Nat) (v : Int) : (chunks sz v).length = sz := by simp [chunks]

theorem chunks_len8 (sz : Nat) (v : Int) : ∀ x ∈ chunks sz v, x.length = 8 := by
  intro x hx
  simp only [chunks, List.mem_map] at hx
  rcases hx with ⟨j, _, rfl⟩
  simp

theorem chunks_get (sz : Nat) (v : Int) (j : Nat) (hj : j < (chunks sz v).length) :
    (chunks sz v)[j] = (List.range 8).map fun k => bitChar (bitOf v (8 * j + k)) := by
  simp [chunks]

theorem elem_length_succ (sz : Nat) (v : Int) (h : 0 < sz) : (elemSpec sz v).length + 1 = 9 * sz := by
  have hne : chunks sz v ≠ [] := by
    intro h0
    have := chunks_length sz v
    rw [h0] at this; simp at this; omega
  rw [elemSpec_eq, js_length ' ' 8 _ (chunks_len8 sz v) hne, chunks_length]
  omega

theorem elem_get (sz : Nat) (v : Int) (j k : Nat) (hj : j < sz) (hk : k < 8) :
    (elemSpec sz v)[9 * j + k]? = some (bitChar (bitOf v (8 * j + k))) := by
  have hj' : j < (chunks sz v).length := by rw [chunks_length]; exact hj
  have := js_get ' ' 8 (chunks sz v) j k (chunks_len8 sz v) hj' hk
  rw [show 9 * j + k = j * (8 + 1) + k by omega, elemSpec_eq, this, chunks_get]
  simp [hk]

theorem elem_sep (sz : Nat) (v : Int) (j : Nat) (hj : j + 1 < sz) :
    (elemSpec sz v)[9 * j + 8]? = some ' ' := by
  have hj' : j + 1 < (chunks sz v).length := by rw [chunks_length]; exact hj
  have := js_sep ' ' 8 (chunks sz v) j (chunks_len8 sz v) hj'
  rw [show 9 * j + 8 = j * (8 + 1) + 8 by omega, elemSpec_eq, this]

theorem elems_len (sz : Nat) (h : 0 < sz) (vs : List Int) :
    ∀ x ∈ vs.map (elemSpec sz), x.length = 9 * sz - 1 := by
  intro x hx
  simp only [List.mem_map] at hx
  rcases hx with ⟨v, _, rfl⟩
  have := elem_length_succ sz v h
  omega

theorem slice_length_succ (sz : Nat) (h : 0 < sz) (vs : List Int) (hne : vs ≠ []) :
    (joinSep [','] (vs.map (elemSpec sz))).length + 1 = 9 * sz * vs.length := by
  rw [js_length ',' (9 * sz - 1) _ (elems_len sz h vs) (by simpa using hne), List.length_map,
    show 9 * sz - 1 + 1 = 9 * sz by omega, Nat.mul_comm]

theorem slice_get (sz : Nat) (h : 0 < sz) (vs : List Int) (e i : Nat) (he : e < vs.length) (hi : i + 1 < 9 * sz) :
    (joinSep [','] (vs.map (elemSpec sz)))[9 * sz * e + i]? = (elemSpec sz (vs[e]'he))[i]? := by
  have he' : e < (vs.map (elemSpec sz)).length := by simpa using he
  have := js_get ',' (9 * sz - 1) _ e i (elems_len sz h vs) he' (by omega)
  rw [show 9 * sz - 1 + 1 = 9 * sz by omega, Nat.mul_comm] at this
  rw [this]
  simp

theorem slice_sep (sz : Nat) (h : 0 < sz) (vs : List Int) (e : Nat) (he : e + 1 < vs.length) :
    (joinSep [','] (vs.map (elemSpec sz)))[9 * sz * e + 9 * sz - 1]? = some ',' := by
  have he' : e + 1 < (vs.map (elemSpec sz)).length := by simpa using he
  have := js_sep ',' (9 * sz - 1) _ e (elems_len sz h vs) he'
  rw [show 9 * sz - 1 + 1 = 9 * sz by omega, Nat.mul_comm] at this
  rw [show 9 * sz * e + 9 * sz - 1 = 9 * sz * e + (9 * sz - 1) by omega, this]

theorem toU64_mod (ty : IntTy) (v : Int) : toU64 v % 2 ^ (8 * ty.size) = (v % 2 ^ (8 * ty.size)).toNat := by
  have hd : 2 ^ (8 * ty.size) ∣ 2 ^ 64 := Nat.pow_dvd_pow 2 (by have := size_le ty; omega)
  have := toNat_emod_emod v (2 ^ (8 * ty.size)) (2 ^ 64) (Nat.two_pow_pos _) hd (Nat.two_pow_pos _)
  simpa [toU64] using this

theorem ofBits_toU64 (ty : IntTy) (v : Int) (h : ty.inRange v) : ty.ofBits (toU64 v % 2 ^ (8 * ty.size)) = v := by
  rw [toU64_mod]
  have hs := size_pos ty
  have hM : (2 : Int) ^ (8 * ty.size) = 2 * 2 ^ (8 * ty.size - 1) := by
    rw [← Int.pow_succ']
    congr 1
    omega
  have hHn : ((2 ^ (8 * ty.size - 1) : Nat) : Int) = (2 : Int) ^ (8 * ty.size - 1) := by simp
  have hnn : 0 ≤ v % 2 ^ (8 * ty.size) := Int.emod_nonneg _ (Int.ne_of_gt (Int.pow_pos (by decide)))
  unfold IntTy.inRange at h
  unfold IntTy.ofBits
  rw [Int.toNat_of_nonneg hnn]
  -- with `H` for half the modulus the claim no longer mentions the width
  generalize (2 : Int) ^ (8 * ty.size - 1) = H at *
  rw [hM] at h hnn ⊢
  cases hsg : ty.signed
  · simp only [hsg, Bool.false_eq_true, if_false, false_and] at h ⊢
    exact Int.emod_eq_of_lt h.1 h.2
  · simp only [hsg, if_true, true_and] at h ⊢
    have hc : ((v % (2 * H)).toNat ≥ 2 ^ (8 * ty.size - 1)) ↔ H ≤ v % (2 * H) := by
      rw [ge_iff_le, ← Int.ofNat_le, Int.toNat_of_nonneg hnn, hHn]
    simp only [hc]
    exact wrap_signed v H h.1 h.2

theorem bitChar_eq_one (b : Bool) : (bitChar b = '1') = (b = true) := by cases b <;> decide

theorem parseElem_eq (sz : Nat) (s : List Char) :
    parseElem sz s = bitSum (fun i => decide (s.getD (9 * (i / 8) + i % 8) '0' = '1')) (8 * sz) := by
  simp [parseElem, bitSum]

/-- parse-back of a rendering gives the low `8·sz` bits of the value -/
theorem parse_elemSpec (sz : Nat) (v : Int) : parseElem sz (elemSpec sz v) = toU64 v % 2 ^ (8 * sz) := by
  rw [parseElem_eq, ← bitSum_testBit]
  apply bitSum_congr
  intro i hi
  rw [List.getD_eq_getElem?_getD, elem_get sz v (i / 8) (i % 8) (by omega) (by omega),
    show 8 * (i / 8) + i % 8 = i by omega]
  simp [bitChar_eq_one, bitOf]

theorem elemSpec_inj (ty : IntTy) (v v' : Int) (h : ty.inRange v) (h' : ty.inRange v')
    (heq : elemSpec ty.size v = elemSpec ty.size v') : v = v' := by
  have := congrArg (fun s => ty.ofBits (parseElem ty.size s)) heq
  simpa only [parse_elemSpec, ofBits_toU64 ty v h, ofBits_toU64 ty v' h'] using this

theorem map_elemSpec_inj (ty : IntTy) : ∀ (vs vs' : List Int), (∀ v ∈ vs, ty.inRange v) → (∀ v ∈ vs', ty.inRange v) →
    vs.map (elemSpec ty.size) = vs'.map (elemSpec ty.size) → vs = vs'
  | [], [], _, _, _ => rfl
  | [], _ :: _, _, _, h => by simp at h
  | _ :: _, [], _, _, h => by simp at h
  | v :: r, v' :: r', hv, hv', h => by
    simp only [List.map_cons, List.cons.injEq] at h
    have h1 := elemSpec_inj ty v v' (hv v (List.mem_cons_self)) (hv' v' (List.mem_cons_self)) h.1
    have h2 := map_elemSpec_inj ty r r' (fun x hx => hv x (List.mem_cons_of_mem _ hx))
      (fun x hx => hv' x (List.mem_cons_of_mem _ hx)) h.2
    rw [h1, h2]

end Low.X01L

namespace Low
open Low.Extras Low.X01L Low.MapM

/-- one byte: `%08b` of the bit-reversed byte = its bits, least significant first -/
theorem X01_byte (b : Nat) (h : b < 256) :
    fmt08b (reverse8 b) = (List.range 8).map fun k => bitChar (b.testBit k) :=
  byte_fin ⟨b, h⟩

example : fmt08b (reverse8 0x13) = "11001000".toList := by decide +kernel

/-- intFmt of a supported value is the specified rendering -/
theorem X01_intFmt (ty : IntTy) (v : Int) : intFmt (.int ty v) = some (elemSpec ty.size v) :=
  intFmt_eq ty v

example : intFmt (.int .i32 0x0102) = some "01000000 10000000 00000000 00000000".toList := by
  rw [String.toList_ofList]
  decide +kernel
example : elemSpec 2 (-2) = "01111111 11111111".toList := by
  rw [String.toList_ofList]
  decide +kernel

/-- a slice of one supported type: elements joined by ',' -/
theorem X01_fmt_slice (ty : IntTy) (vs : List Int) :
    fmt (.slice (vs.map (Dyn.int ty))) = some (joinSep [','] (vs.map (elemSpec ty.size))) := by
  simp only [fmt]
  rw [mapM_map_some intFmt (Dyn.int ty) (elemSpec ty.size) (intFmt_eq ty) vs]
  rfl

example : fmt (.slice ([1, -1].map (Dyn.int .i8))) = some "10000000,11111111".toList := by
  rw [String.toList_ofList]
  decide +kernel

/-- a slice with elements of mixed supported types (`[]interface{}`) -/
theorem X01_fmt_slice_mixed (es : List (IntTy × Int)) :
    fmt (.slice (es.map fun p => Dyn.int p.1 p.2)) = some (joinSep [','] (es.map fun p => elemSpec p.1.size p.2)) := by
  simp only [fmt]
  rw [mapM_map_some intFmt (fun p : IntTy × Int => Dyn.int p.1 p.2) (fun p => elemSpec p.1.size p.2)
    (fun p => intFmt_eq p.1 p.2) es]
  rfl

example : fmt (.slice ([(IntTy.u8, 3), (IntTy.i16, -2)].map fun p => Dyn.int p.1 p.2))
    = some "11000000,01111111 11111111".toList := by
  rw [String.toList_ofList]
  decide +kernel

theorem X01_fmt_scalar (ty : IntTy) (v : Int) : fmt (.scalar (.int ty v)) = some (elemSpec ty.size v) :=
  intFmt_eq ty v

example : fmt (.scalar (.int .u16 0x8001)) = some "10000000 00000001".toList := by
  rw [String.toList_ofList]
  decide +kernel

theorem X01_fmt_empty : fmt (.slice []) = some [] := rfl

/-- panic exactly for unsupported dynamic types -/
theorem X01_panic_scalar (d : Dyn) : fmt (.scalar d) = none ↔ d = .other := by
  cases d with
  | int ty v => simp [fmt, intFmt_eq]
  | other => simp [fmt, intFmt, intSize]

example : fmt (.scalar .other) = none := by decide +kernel
example : fmt (.scalar (.int .u8 5)) ≠ none := by decide +kernel

theorem X01_panic_slice (es : List Dyn) : fmt (.slice es) = none ↔ Dyn.other ∈ es := by
  simp only [fmt, Option.map_eq_none_iff]
  rw [mapM_eq_none]
  constructor
  · rintro ⟨b, hb, hn⟩
    have : b = .other := (X01_panic_scalar b).mp hn
    exact this ▸ hb
  · intro h
    exact ⟨.other, h, rfl⟩

example : fmt (.slice [.int .u8 5, .other, .int .i64 (-1)]) = none := by decide +kernel
example : fmt (.slice [.int .u8 5, .int .i64 (-1)]) ≠ none := by decide +kernel

/-- exact length of one element -/
theorem X01_elem_length (sz : Nat) (v : Int) (h : 0 < sz) : (elemSpec sz v).length = 9 * sz - 1 := by
  have := elem_length_succ sz v h
  omega

example : (elemSpec 4 (-77)).length = 35 := by decide +kernel

/-- exact length for a non-empty slice of one type -/
theorem X01_fmt_length (ty : IntTy) (vs : List Int) (h : vs ≠ []) :
    ∃ s, fmt (.slice (vs.map (Dyn.int ty))) = some s ∧ s.length = 9 * ty.size * vs.length - 1 := by
  refine ⟨_, X01_fmt_slice ty vs, ?_⟩
  have := slice_length_succ ty.size (size_pos ty) vs h
  omega

example : ∃ s, fmt (.slice ([5, -6, 7].map (Dyn.int .i16))) = some s ∧ s.length = 53 := by decide +kernel

/-- exact length for a slice with elements of mixed supported types ([]interface{}) -/
theorem X01_fmt_length_mixed (es : List (IntTy × Int)) (h : es ≠ []) :
    ∃ s, fmt (.slice (es.map fun p => Dyn.int p.1 p.2)) = some s ∧
      s.length + 1 = (es.map fun p => 9 * p.1.size).sum := by
  refine ⟨_, X01_fmt_slice_mixed es, ?_⟩
  rw [js_length_sum ',' _ (by simpa using h), List.map_map]
  congr 1
  apply List.map_congr_left
  intro p _
  exact elem_length_succ p.1.size p.2 (size_pos p.1)

example : ∃ s, fmt (.slice ([(IntTy.u8, 3), (IntTy.i16, -2), (IntTy.u64, 9)].map fun p => Dyn.int p.1 p.2)) = some s ∧
    s.length + 1 = 9 * 1 + 9 * 2 + 9 * 8 := by decide +kernel

/-- digit k of byte j of element e is bit 8j+k of the value -/
theorem X01_digit (ty : IntTy) (vs : List Int) (e j k : Nat) (he : e < vs.length) (hj : j < ty.size) (hk : k < 8) :
    ∃ s, fmt (.slice (vs.map (Dyn.int ty))) = some s ∧
      s[9 * ty.size * e + 9 * j + k]? = some (bitChar (bitOf (vs[e]'he) (8 * j + k))) := by
  refine ⟨_, X01_fmt_slice ty vs, ?_⟩
  rw [Nat.add_assoc, slice_get ty.size (size_pos ty) vs e (9 * j + k) he (by omega)]
  exact elem_get ty.size _ j k hj hk

example : ∃ s, fmt (.slice ([5, 0x0200].map (Dyn.int .u16))) = some s ∧
    s[9 * 2 * 1 + 9 * 1 + 1]? = some '1' ∧ bitOf 0x0200 (8 * 1 + 1) = true := by decide +kernel

/-- a single value: digit k of byte j is bit 8j+k of the value -/
theorem X01_digit_scalar (ty : IntTy) (v : Int) (j k : Nat) (hj : j < ty.size) (hk : k < 8) :
    ∃ s, fmt (.scalar (.int ty v)) = some s ∧ s[9 * j + k]? = some (bitChar (bitOf v (8 * j + k))) :=
  ⟨_, X01_fmt_scalar ty v, elem_get ty.size v j k hj hk⟩

example : ∃ s, fmt (.scalar (.int .i16 (-2))) = some s ∧ s[9 * 1 + 7]? = some '1' ∧ s[9 * 0 + 0]? = some '0' := by
  decide +kernel

/-- the separators: ' ' after every byte but the last of an element -/
theorem X01_sep_space (ty : IntTy) (vs : List Int) (e j : Nat) (he : e < vs.length) (hj : j + 1 < ty.size) :
    ∃ s, fmt (.slice (vs.map (Dyn.int ty))) = some s ∧ s[9 * ty.size * e + 9 * j + 8]? = some ' ' := by
  refine ⟨_, X01_fmt_slice ty vs, ?_⟩
  rw [Nat.add_assoc, slice_get ty.size (size_pos ty) vs e (9 * j + 8) he (by omega)]
  exact elem_sep ty.size _ j hj

example : ∃ s, fmt (.slice ([5, 0x0200].map (Dyn.int .u16))) = some s ∧ s[9 * 2 * 1 + 9 * 0 + 8]? = some ' ' := by
  decide +kernel

/-- ',' after every element but the last -/
theorem X01_sep_comma (ty : IntTy) (vs : List Int) (e : Nat) (he : e + 1 < vs.length) :
    ∃ s, fmt (.slice (vs.map (Dyn.int ty))) = some s ∧ s[9 * ty.size * e + 9 * ty.size - 1]? = some ',' :=
  ⟨_, X01_fmt_slice ty vs, slice_sep ty.size (size_pos ty) vs e he⟩

example : ∃ s, fmt (.slice ([5, 0x0200, 3].map (Dyn.int .u16))) = some s ∧ s[9 * 2 * 1 + 9 * 2 - 1]? = some ',' := by
  decide +kernel

/-- `bitOf` is the two's-complement bit of the value: for a bit inside the width of the type it is the bit of
    `v mod 2^(8·size)` (no range hypothesis on `v` is needed) -/
theorem X01_bitOf (ty : IntTy) (v : Int) (i : Nat) (hi : i < 8 * ty.size) :
    bitOf v i = (v % 2 ^ (8 * ty.size)).toNat.testBit i := by
  rw [← toU64_mod, Nat.testBit_mod_two_pow]
  simp [hi, bitOf]

example : bitOf (-2) 7 = true ∧ ((-2 : Int) % 2 ^ (8 * IntTy.i8.size)).toNat = 254 := by decide +kernel

/-- for a non-negative value it is the bit of the value itself -/
theorem X01_bitOf_nonneg (ty : IntTy) (v : Int) (i : Nat) (hi : i < 8 * ty.size) (h0 : 0 ≤ v) :
    bitOf v i = v.toNat.testBit i := by
  have h64 : i < 64 := by have := size_le ty; omega
  have : toU64 v = v.toNat % 2 ^ 64 := Int.toNat_emod h0 (by decide)
  rw [bitOf, this, Nat.testBit_mod_two_pow]
  simp [h64]

example : bitOf 0x0200 9 = true ∧ (0x0200 : Int).toNat.testBit 9 = true := by decide +kernel

/-- parse-back: the rendering determines the value -/
theorem X01_parse (ty : IntTy) (v : Int) (h : ty.inRange v) :
    ty.ofBits (parseElem ty.size (elemSpec ty.size v)) = v := by
  rw [parse_elemSpec, ofBits_toU64 ty v h]

example : IntTy.i16.inRange (-300) ∧ IntTy.i16.ofBits (parseElem 2 (elemSpec 2 (-300))) = -300 := by decide +kernel
example : IntTy.i8.ofBits (parseElem 1 "01111111".toList) = -2 := by decide +kernel

theorem X01_intFmt_inj (ty : IntTy) (v v' : Int) (h : ty.inRange v) (h' : ty.inRange v') :
    intFmt (.int ty v) = intFmt (.int ty v') → v = v' := by
  rw [X01_intFmt, X01_intFmt]
  intro heq
  exact elemSpec_inj ty v v' h h' (Option.some.inj heq)

/-- the range hypotheses are needed: 256 is no uint8 and renders like 0 -/
example : intFmt (.int .u8 256) = intFmt (.int .u8 0) := by decide +kernel

theorem X01_fmt_inj (ty : IntTy) (vs vs' : List Int) (h : ∀ v ∈ vs, ty.inRange v) (h' : ∀ v ∈ vs', ty.inRange v) :
    fmt (.slice (vs.map (Dyn.int ty))) = fmt (.slice (vs'.map (Dyn.int ty))) → vs = vs' := by
  rw [X01_fmt_slice, X01_fmt_slice]
  intro heq
  have hc : 0 < 9 * ty.size - 1 := by have := size_pos ty; omega
  have := js_inj ',' (9 * ty.size - 1) hc _ _ (elems_len ty.size (size_pos ty) vs)
    (elems_len ty.size (size_pos ty) vs') (Option.some.inj heq)
  exact map_elemSpec_inj ty vs vs' h h' this

example : fmt (.slice ([1, 2].map (Dyn.int .u8))) ≠ fmt (.slice ([1, 3].map (Dyn.int .u8))) := by decide +kernel

end Low
