import LowModel.Extras.Tree
import LowProofs.Extras.MapM
/-
  X02 (generic part) -- layer 1 of `LowModel/Extras/Tree.lean` (`toStrings`, `depthFirst`) over ANY implementation
  `t : TreeI N L` of the interface `tree.Tree`; no `FTree` involved.  The theorems justify the fuel-based modelling of
  the Go recursion (more fuel never changes an answer; a leaf needs one unit; a cyclic implementation never
  terminates) and relate the two walks (they terminate together, one line per callback call, the shape of the calls).
-/
namespace Low.X02GL
open Low.Extras Low.MapM

theorem toStrings_succ {N L} (t : TreeI N L) (fuel : Nat) (inb : Option L) (n : N) :
    toStrings t (fuel + 1) inb n
      = ((t.labels n).mapM fun b => toStrings t fuel (some b) (t.child n b)).map fun subs =>
          (nodeStr t inb n).1 :: subs.flatten.map (spaces (nodeStr t inb n).2 ++ ·) := by
  rw [toStrings]
  cases (t.labels n).mapM fun b => toStrings t fuel (some b) (t.child n b) <;> rfl

theorem depthFirst_succ {N L} (t : TreeI N L) (fuel : Nat) (p : Option N) (l : Option L) (n : N) :
    depthFirst t (fuel + 1) p l n
      = ((t.labels n).mapM fun b => depthFirst t fuel (some n) (some b) (t.child n b)).map fun subs =>
          subs.flatten ++ [(p, l, n)] := by
  rw [depthFirst]
  cases (t.labels n).mapM fun b => depthFirst t fuel (some n) (some b) (t.child n b) <;> rfl

theorem toStrings_mono {N L} (t : TreeI N L) (k : Nat) : ∀ (fuel : Nat) (inb : Option L) (n : N) (r : List Bytes),
    toStrings t fuel inb n = some r → toStrings t (fuel + k) inb n = some r
  | 0, _, _, _, h => by rw [toStrings] at h; cases h
  | fuel + 1, inb, n, r, h => by
    rw [Nat.add_right_comm, toStrings_succ]
    rw [toStrings_succ] at h
    obtain ⟨subs, hs, hr⟩ := Option.map_eq_some_iff.1 h
    rw [mapM_mono _ _ (t.labels n) subs (fun b _ x hx => toStrings_mono t k fuel (some b) (t.child n b) x hx) hs]
    rw [Option.map_some, hr]

theorem depthFirst_mono {N L} (t : TreeI N L) (k : Nat) : ∀ (fuel : Nat) (p : Option N) (l : Option L) (n : N)
    (r : List (Visit N L)), depthFirst t fuel p l n = some r → depthFirst t (fuel + k) p l n = some r
  | 0, _, _, _, _, h => by rw [depthFirst] at h; cases h
  | fuel + 1, p, l, n, r, h => by
    rw [Nat.add_right_comm, depthFirst_succ]
    rw [depthFirst_succ] at h
    obtain ⟨subs, hs, hr⟩ := Option.map_eq_some_iff.1 h
    rw [mapM_mono _ _ (t.labels n) subs
      (fun b _ x hx => depthFirst_mono t k fuel (some n) (some b) (t.child n b) x hx) hs]
    rw [Option.map_some, hr]

theorem together {N L} (t : TreeI N L) : ∀ (fuel : Nat) (inb : Option L) (p : Option N) (l : Option L) (n : N),
    (toStrings t fuel inb n).isSome = (depthFirst t fuel p l n).isSome
  | 0, _, _, _, _ => by rw [toStrings, depthFirst]; rfl
  | fuel + 1, inb, p, l, n => by
    rw [toStrings_succ, depthFirst_succ, Option.isSome_map, Option.isSome_map]
    exact mapM_isSome_congr _ _ _ fun b _ => together t fuel (some b) (some n) (some b) (t.child n b)

theorem lengths {N L} (t : TreeI N L) : ∀ (fuel : Nat) (inb : Option L) (p : Option N) (l : Option L) (n : N)
    (ls : List Bytes) (vs : List (Visit N L)),
    toStrings t fuel inb n = some ls → depthFirst t fuel p l n = some vs → ls.length = vs.length
  | 0, _, _, _, _, _, _, h, _ => by rw [toStrings] at h; cases h
  | fuel + 1, inb, p, l, n, ls, vs, h1, h2 => by
    rw [toStrings_succ] at h1
    rw [depthFirst_succ] at h2
    obtain ⟨xs, hx, rfl⟩ := Option.map_eq_some_iff.1 h1
    obtain ⟨ys, hy, rfl⟩ := Option.map_eq_some_iff.1 h2
    have := mapM_flatten_length _ _ (t.labels n) xs ys
      (fun b _ x y hx hy => lengths t fuel (some b) (some n) (some b) (t.child n b) x y hx hy) hx hy
    simp only [List.length_cons, List.length_map, List.length_append, List.length_nil, this]

theorem df_last {N L} (t : TreeI N L) (fuel : Nat) (p : Option N) (l : Option L) (n : N) (vs : List (Visit N L))
    (h : depthFirst t fuel p l n = some vs) : vs.getLast? = some (p, l, n) := by
  cases fuel with
  | zero => rw [depthFirst] at h; cases h
  | succ fuel =>
    rw [depthFirst_succ] at h
    obtain ⟨ys, _, rfl⟩ := Option.map_eq_some_iff.1 h
    exact List.getLast?_concat

theorem df_edges {N L} (t : TreeI N L) : ∀ (fuel : Nat) (p : Option N) (l : Option L) (n : N) (vs : List (Visit N L)),
    depthFirst t fuel p l n = some vs →
    ∀ v ∈ vs.dropLast, ∃ q b, v = (some q, some b, t.child q b) ∧ b ∈ t.labels q
  | 0, _, _, _, _, h => by rw [depthFirst] at h; cases h
  | fuel + 1, p, l, n, vs, h => by
    rw [depthFirst_succ] at h
    obtain ⟨ys, hy, rfl⟩ := Option.map_eq_some_iff.1 h
    intro v hv
    rw [List.dropLast_concat] at hv
    obtain ⟨sub, hsub, hvs⟩ := List.mem_flatten.1 hv
    obtain ⟨b, hb, hf⟩ := mapM_mem _ _ _ hy sub hsub
    have hlast := df_last t fuel _ _ _ sub hf
    obtain ⟨pre, hpre⟩ := List.getLast?_eq_some_iff.1 hlast
    have hd : sub.dropLast = pre := by rw [hpre, List.dropLast_concat]
    rw [hpre] at hvs
    rcases List.mem_append.1 hvs with hv' | hv'
    · exact df_edges t fuel _ _ _ sub hf v (by rw [hd]; exact hv')
    · rw [List.mem_singleton] at hv'
      exact ⟨n, b, hv', hb⟩

end Low.X02GL

namespace Low
open Low.Extras

namespace X02GL
/-- the complete binary tree on the node numbers 0..6 (`n ↦ 2n+1, 2n+2`), labels 0 and 1, node id = the number -/
def binT : TreeI Nat Nat where
  nilNode := 0
  root := 0
  child := fun n b => 2 * n + 1 + b
  labels := fun n => if n < 3 then [0, 1] else []
  nodeID := fun n => dec n
  labelInfo := fun b => dec b
  nodeInfo := fun _ => []
  leafVal := fun n => if n < 3 then none else some [118]
/-- a cyclic implementation: the only child of every node is the node itself -/
def cycT : TreeI Nat Nat where
  nilNode := 0
  root := 0
  child := fun n _ => n
  labels := fun _ => [0]
  nodeID := fun _ => []
  labelInfo := fun _ => []
  nodeInfo := fun _ => []
  leafVal := fun _ => none
end X02GL
open X02GL

/-- more fuel never changes an answer: once `toStrings` terminates within `fuel`, every larger fuel gives the same lines -/
theorem X02_toStrings_fuel_mono {N L} (t : TreeI N L) (fuel k : Nat) (inb : Option L) (n : N) (r : List Bytes)
    (h : toStrings t fuel inb n = some r) : toStrings t (fuel + k) inb n = some r :=
  X02GL.toStrings_mono t k fuel inb n r h

example : toStrings binT 2 (some 0) 1 = some [[45, 48, 45, 62, 35, 49, 42, 50],
      [32, 32, 32, 32, 32, 32, 45, 48, 45, 62, 35, 51, 61, 118], [32, 32, 32, 32, 32, 32, 45, 49, 45, 62, 35, 52, 61, 118]]
    ∧ toStrings binT (2 + 3) (some 0) 1 = toStrings binT 2 (some 0) 1 ∧ toStrings binT 1 (some 0) 1 = none := by
  decide +kernel

/-- the same for `depthFirst` -/
theorem X02_depthFirst_fuel_mono {N L} (t : TreeI N L) (fuel k : Nat) (p : Option N) (l : Option L) (n : N)
    (r : List (Visit N L)) (h : depthFirst t fuel p l n = some r) : depthFirst t (fuel + k) p l n = some r :=
  X02GL.depthFirst_mono t k fuel p l n r h

example : depthFirst binT 3 none none 0 = some [(some 1, some 0, 3), (some 1, some 1, 4), (some 0, some 0, 1),
      (some 2, some 0, 5), (some 2, some 1, 6), (some 0, some 1, 2), (none, none, 0)]
    ∧ depthFirst binT (3 + 4) none none 0 = depthFirst binT 3 none none 0 ∧ depthFirst binT 2 none none 0 = none := by
  decide +kernel

/-- both walks follow the same `Labels`/`Child` structure: one terminates within `fuel` iff the other does -/
theorem X02_walks_terminate_together {N L} (t : TreeI N L) (fuel : Nat) (inb : Option L) (p : Option N) (l : Option L)
    (n : N) : (toStrings t fuel inb n).isSome = (depthFirst t fuel p l n).isSome :=
  X02GL.together t fuel inb p l n

example : (toStrings binT 3 none 0).isSome = true ∧ (depthFirst binT 3 none none 0).isSome = true
    ∧ (toStrings binT 2 none 0).isSome = false ∧ (depthFirst binT 2 none none 0).isSome = false := by decide +kernel

/-- a cyclic implementation never terminates in the model: `none` for every fuel (so the hypotheses `… = some _` of
    the other theorems are genuine) -/
theorem X02_cyclic_none : ∀ fuel : Nat, toStrings cycT fuel none 0 = none ∧ depthFirst cycT fuel none none 0 = none := by
  have h1 : ∀ (fuel : Nat) (inb : Option Nat), toStrings cycT fuel inb 0 = none := by
    intro fuel
    induction fuel with
    | zero => intro inb; rfl
    | succ f ih =>
      intro inb
      rw [X02GL.toStrings_succ]
      show Option.map _ (List.mapM _ [0]) = none
      show Option.map _ (Option.bind (toStrings cycT f (some 0) 0) _) = none
      rw [ih]; rfl
  intro fuel
  refine ⟨h1 fuel none, ?_⟩
  have := X02_walks_terminate_together cycT fuel none none none 0
  rw [h1] at this
  cases h : depthFirst cycT fuel none none 0 with
  | none => rfl
  | some x => rw [h] at this; cases this

example : toStrings cycT 50 none 0 = none := (X02_cyclic_none 50).1

/-- … and then there are as many lines as callback calls (one per node visited) -/
theorem X02_lines_eq_calls {N L} (t : TreeI N L) (fuel : Nat) (inb : Option L) (p : Option N) (l : Option L) (n : N)
    (ls : List Bytes) (vs : List (Visit N L))
    (h1 : toStrings t fuel inb n = some ls) (h2 : depthFirst t fuel p l n = some vs) : ls.length = vs.length :=
  X02GL.lengths t fuel inb p l n ls vs h1 h2

example : (toStrings binT 3 none 0).map List.length = some 7 ∧ (depthFirst binT 3 none none 0).map List.length = some 7 := by
  decide +kernel

/-- the first line is the node's own `nodeStr` text -/
theorem X02_toStrings_head {N L} (t : TreeI N L) (fuel : Nat) (inb : Option L) (n : N) (ls : List Bytes)
    (h : toStrings t fuel inb n = some ls) : ls.head? = some (nodeStr t inb n).1 := by
  cases fuel with
  | zero => rw [toStrings] at h; cases h
  | succ fuel =>
    rw [X02GL.toStrings_succ] at h
    obtain ⟨xs, _, rfl⟩ := Option.map_eq_some_iff.1 h
    rfl

example : (toStrings binT 3 none 0).map List.head? = some (some [35, 48, 42, 50])
    ∧ (nodeStr binT none 0).1 = [35, 48, 42, 50] := by decide +kernel

/-- the last call is the node itself with the parent and label it was reached by -/
theorem X02_depthFirst_last {N L} (t : TreeI N L) (fuel : Nat) (p : Option N) (l : Option L) (n : N)
    (vs : List (Visit N L)) (h : depthFirst t fuel p l n = some vs) : vs.getLast? = some (p, l, n) :=
  X02GL.df_last t fuel p l n vs h

example : (depthFirst binT 2 (some 0) (some 1) 2).map List.getLast? = some (some (some 0, some 1, 2)) := by
  decide +kernel

/-- every call other than the last has a non-nil parent `q` and a non-nil label `b`, `b` is one of `Labels(q)` and the
    node of the call is `Child(q, b)` -/
theorem X02_depthFirst_edges {N L} (t : TreeI N L) (fuel : Nat) (p : Option N) (l : Option L) (n : N)
    (vs : List (Visit N L)) (h : depthFirst t fuel p l n = some vs) :
    ∀ v ∈ vs.dropLast, ∃ q b, v = (some q, some b, t.child q b) ∧ b ∈ t.labels q :=
  X02GL.df_edges t fuel p l n vs h

example : (depthFirst binT 3 none none 0).map List.dropLast = some [(some 1, some 0, 3), (some 1, some 1, 4),
    (some 0, some 0, 1), (some 2, some 0, 5), (some 2, some 1, 6), (some 0, some 1, 2)] := by decide +kernel

/-- a leaf of the implementation (no labels): one line, one call, with any positive fuel -/
theorem X02_leaf {N L} (t : TreeI N L) (fuel : Nat) (inb : Option L) (p : Option N) (l : Option L) (n : N)
    (h : t.labels n = []) :
    toStrings t (fuel + 1) inb n = some [(nodeStr t inb n).1] ∧ depthFirst t (fuel + 1) p l n = some [(p, l, n)] := by
  rw [X02GL.toStrings_succ, X02GL.depthFirst_succ, h]
  exact ⟨rfl, rfl⟩

example : binT.labels 5 = [] ∧ toStrings binT 1 (some 0) 5 = some [[45, 48, 45, 62, 35, 53, 61, 118]]
    ∧ depthFirst binT 1 (some 2) (some 0) 5 = some [(some 2, some 0, 5)] := by decide +kernel

end Low
