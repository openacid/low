import LowProofs.Extras.X04Lemmas
/-
  X04 -- size.stat (the lines `size.Stat` prints): panics only where `sizeof` does, the header carries sizeof(v),
  `depth` cuts lines off by indentation (and never changes one), a negative depth never cuts, `maxItem` limits the
  elements of slices, arrays and maps but not struct fields, nil pointers / nil interfaces / unfound map entries.
-/
namespace Low
open Low.Extras

/-- []struct{ P *int32; S string }{{nil, "ab"}, {new(int32), ""}} with field names "P", "S" -/
def X04_ex : SV :=
  .slice [.struct [([80], .ptr none), ([83], .str 2)], .struct [([80], .ptr (some (.scalar 4))), ([83], .str 0)]]

/-- panics exactly when sizeof panics on the whole value (an unsupported kind anywhere), whatever depth and maxItem -/
theorem X04_panic (v : SV) (d m : Int) : stat v d m = none ↔ sizeOf v.erase = none := by
  constructor
  · intro h
    cases hs : sizeOf v.erase with
    | none => rfl
    | some sz =>
      have := X04L.stat_isSome v d m (by rw [hs]; rfl)
      rw [h] at this; cases this
  · intro h; rw [X04L.stat_eq, h]; rfl

example : stat (.slice [.scalar 4, .ptr (some .unsupported)]) 1 0 = none := by decide +kernel
example : stat X04_ex 5 1 ≠ none := by decide +kernel

/-- first line: no indentation, no label, the number is sizeof(v) (the number C20_stat speaks about) -/
theorem X04_head (v : SV) (d m : Int) (ls) (h : stat v d m = some ls) :
    ∃ sz, sizeOf v.erase = some sz ∧ ls.head? = some ⟨0, none, some sz⟩ := by
  obtain ⟨sz, subs, hs, rfl, _, _⟩ := X04L.stat_shape v d m ls h
  exact ⟨sz, hs, rfl⟩

example : ∃ ls, stat X04_ex 2 7 = some ls ∧ ls.head? = some ⟨0, none, some 78⟩ := by decide +kernel

/-- depth 0: exactly the header -/
theorem X04_depth0 (v : SV) (m : Int) : stat v 0 m = (sizeOf v.erase).map fun sz => [⟨0, none, some sz⟩] := by
  rw [X04L.stat_eq]; cases sizeOf v.erase <;> rfl

example : stat X04_ex 0 7 = some [⟨0, none, some 78⟩] := by decide +kernel

/-- a negative depth never cuts: all negative depths agree -/
theorem X04_neg_depth (v : SV) (d m : Int) (h : d < 0) : stat v d m = stat v (-1) m :=
  X04L.stat_neg v d m h

example : stat X04_ex (-5) 7 = stat X04_ex (-1) 7 ∧ (stat X04_ex (-1) 7).map List.length = some 8 := by decide +kernel

/-- depth d ≥ 0 shows no line deeper than d … -/
theorem X04_indent_le (v : SV) (d m : Int) (hd : 0 ≤ d) (ls) (h : stat v d m = some ls) :
    ∀ l ∈ ls, (l.indent : Int) ≤ d :=
  X04L.stat_le v d m hd ls h

example : (stat X04_ex 2 7).map (fun ls => ls.map (·.indent)) = some [0, 1, 2, 2, 1, 2, 2] := by decide +kernel

/-- … and exactly the lines of the unlimited output whose indentation is at most d (the cut-off removes lines, it
    never changes one) -/
theorem X04_depth_filter (v : SV) (d m : Int) (hd : 0 ≤ d) :
    stat v d m = (stat v (-1) m).map fun ls => ls.filter fun l => decide ((l.indent : Int) ≤ d) :=
  X04L.stat_filter v d m hd

example : (stat X04_ex 2 7).map List.length = some 7 ∧ (stat X04_ex (-1) 7).map List.length = some 8 := by
  decide +kernel

/-- only the header has indentation 0 -/
theorem X04_indent_pos (v : SV) (d m : Int) (ls) (h : stat v d m = some ls) : ∀ l ∈ ls.tail, 0 < l.indent := by
  obtain ⟨s, t, rfl, ht⟩ := X04L.stat_headed v d m ls h
  exact ht

example : ∃ ls, stat X04_ex 2 7 = some ls ∧ ls.tail.length = 6 ∧ ∀ l ∈ ls.tail, 0 < l.indent := by decide +kernel

/-- maxItem: a slice shows min(len, maxItem) elements (the lines at indentation 1), labelled 0,1,2,… in order;
    maxItem ≤ 0 shows none (`m.toNat = 0`) -/
theorem X04_maxItem_slice (es : List SV) (d m : Int) (hd : d ≠ 0) (ls) (h : stat (.slice es) d m = some ls) :
    (ls.filter fun l => decide (l.indent = 1)).map (·.label)
      = (List.range (min es.length m.toNat)).map fun i => some (dec i) := by
  rw [X04L.elem_lines1 hd h rfl, List.map_map]
  exact X04L.map_dec_zipIdx es m.toNat

example : (stat X04_ex 1 1).map (fun ls => (ls.filter fun l => decide (l.indent = 1)).map (·.label)) = some [some [48]] := by
  decide +kernel
example : (stat X04_ex 1 (-3)).map (fun ls => (ls.filter fun l => decide (l.indent = 1)).map (·.label)) = some [] := by
  decide +kernel

/-- the same for an array -/
theorem X04_maxItem_arr (es : List SV) (d m : Int) (hd : d ≠ 0) (ls) (h : stat (.arr es) d m = some ls) :
    (ls.filter fun l => decide (l.indent = 1)).map (·.label)
      = (List.range (min es.length m.toNat)).map fun i => some (dec i) := by
  rw [X04L.elem_lines1 hd h rfl, List.map_map]
  exact X04L.map_dec_zipIdx es m.toNat

example : (stat (.arr [.scalar 1, .str 3, .scalar 2]) (-1) 2).map
    (fun ls => (ls.filter fun l => decide (l.indent = 1)).map (·.label)) = some [some [48], some [49]] := by
  decide +kernel

/-- stronger: the element lines of a slice in full -- line `i` (of the first min(len, maxItem)) is at indentation 1,
    labelled `i`, and its number is sizeof(es[i]) -/
theorem X04_elem_lines (es : List SV) (d m : Int) (hd : d ≠ 0) (ls) (h : stat (.slice es) d m = some ls) :
    ls.filter (fun l => decide (l.indent = 1))
      = ((es.take m.toNat).zipIdx).map fun p => ⟨1, some (dec p.2), sizeOf p.1.erase⟩ :=
  X04L.elem_lines1 hd h rfl

/-- the same for an array -/
theorem X04_elem_lines_arr (es : List SV) (d m : Int) (hd : d ≠ 0) (ls) (h : stat (.arr es) d m = some ls) :
    ls.filter (fun l => decide (l.indent = 1))
      = ((es.take m.toNat).zipIdx).map fun p => ⟨1, some (dec p.2), sizeOf p.1.erase⟩ :=
  X04L.elem_lines1 hd h rfl

example : (stat X04_ex (-1) 7).map (fun ls => ls.filter fun l => decide (l.indent = 1))
    = some [⟨1, some [48], some 26⟩, ⟨1, some [49], some 28⟩] := by decide +kernel

/-- a map shows its first min(len, maxItem) entries (in `MapKeys` order), each labelled with its key -/
theorem X04_maxItem_map (ps : List (Bytes × SV × SV × Bool)) (d m : Int) (hd : d ≠ 0) (ls)
    (h : stat (.map ps) d m = some ls) :
    (ls.filter fun l => decide (l.indent = 1)).map (·.label) = (ps.take m.toNat).map fun p => some p.1 := by
  rw [X04L.lines1_of_loop hd h (X04L.statEntries_eq (d-1) m ps 0) fun _ _ _ ha => X04L.entryLines_head ha, List.map_map]
  rfl

example : (stat (.map [([97], .str 1, .scalar 4, true), ([98], .str 1, .ptr none, true), ([99], .str 1, .scalar 4, false)]) 2 2).map
    (fun ls => (ls.filter fun l => decide (l.indent = 1)).map (·.label)) = some [some [97], some [98]] := by
  decide +kernel

/-- struct fields are never cut by maxItem: one indentation-1 line per field, labelled with the field names -/
theorem X04_struct_fields (fs : List (Bytes × SV)) (d m : Int) (hd : d ≠ 0) (ls) (h : stat (.struct fs) d m = some ls) :
    (ls.filter fun l => decide (l.indent = 1)).map (·.label) = fs.map fun f => some f.1 := by
  rw [X04L.lines1_of_loop hd h (X04L.statFields_eq (d-1) m fs) fun _ _ _ ha => X04L.stat_head ha, List.map_map]
  rfl

example : (stat (.struct [([80], .ptr none), ([83], .str 2)]) 1 0).map
    (fun ls => (ls.filter fun l => decide (l.indent = 1)).map (·.label)) = some [some [80], some [83]] := by
  decide +kernel

/-- a nil pointer has no further line -/
theorem X04_nil_ptr (d m : Int) : stat (.ptr none) d m = some [⟨0, none, some 8⟩] := by
  rw [X04L.stat_eq, X04L.erase_ptr_nil, Option.bind_some]; split <;> rfl

example : stat (.ptr none) 3 3 = some [⟨0, none, some 8⟩] := by decide +kernel

/-- a nil interface (as a field or element) has the line `<nil>` -/
theorem X04_nil_iface (d m : Int) (hd : d ≠ 0) :
    stat (.iface none) d m = some [⟨0, none, some 16⟩, ⟨1, none, none⟩] := by
  rw [X04L.stat_eq, X04L.erase_iface_nil, Option.bind_some, if_neg hd]; rfl

example : stat (.iface none) (-1) 0 = some [⟨0, none, some 16⟩, ⟨1, none, none⟩] := by decide +kernel

/-- a map entry that MapIndex does not find (NaN key) shows `<nil>` under its label -/
theorem X04_map_notfound (lbl : Bytes) (k v : SV) (d m : Int) (hd : d ≠ 0) (hm : 0 < m) (sz : Nat)
    (h : sizeOf (SV.map [(lbl, k, v, false)]).erase = some sz) :
    stat (.map [(lbl, k, v, false)]) d m = some [⟨0, none, some sz⟩, ⟨1, some lbl, none⟩] := by
  have hm' : ((0 : Nat) : Int) < m := by omega
  rw [X04L.stat_eq, h, Option.bind_some, if_neg hd, X04L.kids, X04L.statEntries_cons, if_pos hm',
    X04L.statEntries_nil, X04L.entryLines]
  simp [X04L.setLabel_hdr, X04L.hdr, X04L.bump]

example : stat (.map [([78, 97, 78], .scalar 8, .scalar 4, false)]) 1 1
    = some [⟨0, none, some 20⟩, ⟨1, some [78, 97, 78], none⟩] := by decide +kernel

/-- every number printed on a line is sizeof of the value or of a part of it that `stat` walks into
    (`X04_Part`, defined in X04Lemmas.lean), for every depth and maxItem -/
theorem X04_sizes (v : SV) (d m : Int) (ls) (h : stat v d m = some ls) :
    ∀ l ∈ ls, ∀ n, l.size = some n → ∃ w, X04_Part w v ∧ sizeOf w.erase = some n :=
  X04L.stat_sz v d m ls h

example : (stat X04_ex (-1) 7).map (fun ls => ls.map (·.size))
    = some [some 78, some 26, some 8, some 18, some 28, some 12, some 4, some 16] := by decide +kernel
example : X04_Part (.scalar 4) X04_ex :=
  .slice (e := .struct [([80], .ptr (some (.scalar 4))), ([83], .str 0)]) (by simp)
    (.field (n := [80]) (x := .ptr (some (.scalar 4))) (by simp) (.ptr (.refl _)))

end Low
