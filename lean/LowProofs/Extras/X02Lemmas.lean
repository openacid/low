import LowProofs.Extras.X02Generic
import LowModel.Extras.Tree
/-
  X02 helper lemmas: package tree (`nodeStr`, `toStrings`, `depthFirst`) over the finite-tree implementation
  `FTree.iface`.
-/
namespace Low.X02L
open Low.Extras Low.MapM

theorem spaces_add (a b : Nat) : spaces (a + b) = spaces a ++ spaces b := by
  simp [spaces]

theorem iface_labels (nilT root : FTree) (n : Option FTree) :
    (FTree.iface nilT root).labels n = ((n.getD nilT).branches.zipIdx).map fun x => (x.2, x.1.1) := rfl

theorem labels_length (nilT root : FTree) (n : Option FTree) :
    ((FTree.iface nilT root).labels n).length = (n.getD nilT).branches.length := by
  simp [iface_labels]

theorem iface_child (nilT root : FTree) (n : Option FTree) (pre r : List (Bytes × FTree)) (lbl lbl' : Bytes)
    (c : FTree) (h : (n.getD nilT).branches = pre ++ (lbl, c) :: r) :
    (FTree.iface nilT root).child n (pre.length, lbl') = some c := by
  simp [FTree.iface, h]

/-- `nodeStr` through the interface, for any node value (`none` stands for `nilT`) -/
theorem nodeStr_eq (nilT root : FTree) (n : Option FTree) (inb : Option (Nat × Bytes)) :
    nodeStr (FTree.iface nilT root) inb n = FTree.lineOf (inb.map (·.2)) (n.getD nilT) := by
  have hl := labels_length nilT root n
  generalize hI : FTree.iface nilT root = I at hl
  have h1 : I.nodeID n = (n.getD nilT).id := by subst hI; rfl
  have h2 : I.nodeInfo n = (n.getD nilT).info := by subst hI; rfl
  have h3 : I.leafVal n = (n.getD nilT).leaf := by subst hI; rfl
  have h4 : ∀ b, I.labelInfo b = b.2 := by subst hI; intro b; rfl
  simp only [nodeStr, FTree.lineOf, h1, h2, h3, h4, hl]
  generalize (n.getD nilT) = t
  cases inb <;> cases hleaf : t.leaf <;> by_cases hid : t.id = [] <;>
    by_cases hb : t.branches.length > 1 <;> simp [hid, hb]

mutual
theorem lines_add : ∀ (t : FTree) (a b : Nat) (inb : Option Bytes),
    FTree.lines (a + b) inb t = (FTree.lines b inb t).map (spaces a ++ ·)
  | .node i f l bs, a, b, inb => by
    simp only [FTree.lines, List.map_cons, spaces_add, List.append_assoc]
    rw [Nat.add_assoc, linesList_add bs a]
theorem linesList_add : ∀ (bs : List (Bytes × FTree)) (a b : Nat),
    FTree.linesList (a + b) bs = (FTree.linesList b bs).map (spaces a ++ ·)
  | [], a, b => by simp [FTree.linesList]
  | (lbl, c) :: r, a, b => by
    simp only [FTree.linesList, List.map_append]
    rw [lines_add c a b, linesList_add r a b]
end

theorem linesList_eq_flatten : ∀ (bs : List (Bytes × FTree)) (ind : Nat),
    FTree.linesList ind bs
      = ((bs.map fun x => FTree.lines 0 (some x.1) x.2).flatten).map (spaces ind ++ ·)
  | [], ind => by simp [FTree.linesList]
  | (lbl, c) :: r, ind => by
    have h := lines_add c ind 0 (some lbl)
    simp only [Nat.add_zero] at h
    simp [FTree.linesList, linesList_eq_flatten r ind, h]

mutual
theorem lines_length : ∀ (t : FTree) (off : Nat) (inb : Option Bytes), (FTree.lines off inb t).length = t.size
  | .node i f l bs, off, inb => by
    simp [FTree.lines, FTree.size, linesList_length bs]; omega
theorem linesList_length : ∀ (bs : List (Bytes × FTree)) (off : Nat), (FTree.linesList off bs).length = FTree.sizeList bs
  | [], off => by simp [FTree.linesList, FTree.sizeList]
  | (lbl, c) :: r, off => by
    simp [FTree.linesList, FTree.sizeList, lines_length c, linesList_length r]
end

/-- the loop over the labels: one recursive call per branch, in branch order (`pre` = the branches already done) -/
theorem toStrings_mapM (nilT root : FTree) (fuel : Nat) (n : Option FTree)
    (ih : ∀ (t : FTree) (inb : Option (Nat × Bytes)) (m : Option FTree), m.getD nilT = t → t.height ≤ fuel →
        toStrings (FTree.iface nilT root) fuel inb m = some (FTree.lines 0 (inb.map (·.2)) t)) :
    ∀ (bs pre : List (Bytes × FTree)), (n.getD nilT).branches = pre ++ bs → FTree.heightList bs ≤ fuel →
      ((bs.zipIdx pre.length).map fun x => (x.2, x.1.1)).mapM
          (fun b => toStrings (FTree.iface nilT root) fuel (some b) ((FTree.iface nilT root).child n b))
        = some (bs.map fun x => FTree.lines 0 (some x.1) x.2)
  | [], pre, _, _ => by simp
  | (lbl, c) :: r, pre, hb, hh => by
    simp only [FTree.heightList] at hh
    have hc := iface_child nilT root n pre r lbl lbl c hb
    have h1 := ih c (some (pre.length, lbl)) (some c) rfl (by omega)
    have h2 := toStrings_mapM nilT root fuel n ih r (pre ++ [(lbl, c)]) (by simp [hb]) (by omega)
    simp only [List.length_append, List.length_cons, List.length_nil, Nat.zero_add] at h2
    simp only [List.zipIdx_cons, List.map_cons, List.mapM_cons, hc, h1, h2]
    rfl

theorem toStrings_eq (nilT root : FTree) : ∀ (fuel : Nat) (t : FTree) (inb : Option (Nat × Bytes)) (m : Option FTree),
    m.getD nilT = t → t.height ≤ fuel →
    toStrings (FTree.iface nilT root) fuel inb m = some (FTree.lines 0 (inb.map (·.2)) t)
  | 0, .node .., _, _, _, h => by simp [FTree.height] at h
  | fuel + 1, .node i f l bs, inb, m, hm, h => by
    have hh : FTree.heightList bs ≤ fuel := by simp only [FTree.height] at h; omega
    have hbs : (m.getD nilT).branches = [] ++ bs := by rw [hm]; rfl
    have hM := toStrings_mapM nilT root fuel m (toStrings_eq nilT root fuel) bs [] hbs hh
    have hN := nodeStr_eq nilT root m inb
    rw [hm] at hN
    simp only [toStrings, iface_labels, hbs, List.nil_append, hN]
    simp only [List.length_nil] at hM
    rw [hM]
    simp only [FTree.lines, spaces, List.replicate_zero, List.nil_append, Nat.zero_add]
    rw [linesList_eq_flatten]; rfl

theorem toStrings_mapM_none (nilT root : FTree) (fuel : Nat) (n : Option FTree)
    (ih : ∀ (t : FTree) (inb : Option (Nat × Bytes)) (m : Option FTree), m.getD nilT = t → fuel < t.height →
        toStrings (FTree.iface nilT root) fuel inb m = none) :
    ∀ (bs pre : List (Bytes × FTree)), (n.getD nilT).branches = pre ++ bs → fuel < FTree.heightList bs →
      ((bs.zipIdx pre.length).map fun x => (x.2, x.1.1)).mapM
          (fun b => toStrings (FTree.iface nilT root) fuel (some b) ((FTree.iface nilT root).child n b))
        = none
  | [], pre, _, hh => by simp [FTree.heightList] at hh
  | (lbl, c) :: r, pre, hb, hh => by
    simp only [FTree.heightList] at hh
    have hc := iface_child nilT root n pre r lbl lbl c hb
    simp only [List.zipIdx_cons, List.map_cons]
    by_cases h : fuel < c.height
    · apply mapM_cons_none_left
      simp only [hc]
      exact ih c _ (some c) rfl h
    · apply mapM_cons_none_right
      have h2 := toStrings_mapM_none nilT root fuel n ih r (pre ++ [(lbl, c)]) (by simp [hb]) (by omega)
      simpa only [List.length_append, List.length_cons, List.length_nil, Nat.zero_add] using h2

theorem toStrings_none (nilT root : FTree) : ∀ (fuel : Nat) (t : FTree) (inb : Option (Nat × Bytes)) (m : Option FTree),
    m.getD nilT = t → fuel < t.height → toStrings (FTree.iface nilT root) fuel inb m = none
  | 0, _, _, _, _, _ => rfl
  | fuel + 1, .node i f l bs, inb, m, hm, h => by
    have hh : fuel < FTree.heightList bs := by simp only [FTree.height] at h; omega
    have hbs : (m.getD nilT).branches = [] ++ bs := by rw [hm]; rfl
    have hM := toStrings_mapM_none nilT root fuel m (toStrings_none nilT root fuel) bs [] hbs hh
    simp only [List.length_nil] at hM
    simp only [toStrings, iface_labels, hbs, List.nil_append]
    rw [hM]

mutual
theorem post_length : ∀ (t : FTree) (p : Option FTree) (l : Option (Nat × Bytes)), (FTree.post p l t).length = t.size
  | .node i f l bs, p, lb => by
    simp [FTree.post, FTree.size, postList_length bs]; omega
theorem postList_length : ∀ (bs : List (Bytes × FTree)) (p : FTree) (k : Nat),
    (FTree.postList p k bs).length = FTree.sizeList bs
  | [], p, k => by simp [FTree.postList, FTree.sizeList]
  | (lbl, c) :: r, p, k => by
    simp [FTree.postList, FTree.sizeList, post_length c, postList_length r]
end

theorem depthFirst_mapM (nilT root : FTree) (fuel : Nat) (t : FTree)
    (ih : ∀ (c : FTree) (p : Option FTree) (l : Option (Nat × Bytes)), c.height ≤ fuel →
        depthFirst (FTree.iface nilT root) fuel (p.map some) l (some c) = some (FTree.post p l c)) :
    ∀ (bs pre : List (Bytes × FTree)), t.branches = pre ++ bs → FTree.heightList bs ≤ fuel →
      (((bs.zipIdx pre.length).map fun x => (x.2, x.1.1)).mapM
          (fun b => depthFirst (FTree.iface nilT root) fuel (some (some t)) (some b)
                      ((FTree.iface nilT root).child (some t) b))).map List.flatten
        = some (FTree.postList t pre.length bs)
  | [], pre, _, _ => by simp [FTree.postList]
  | (lbl, c) :: r, pre, hb, hh => by
    simp only [FTree.heightList] at hh
    have hc := iface_child nilT root (some t) pre r lbl lbl c hb
    have h1 := ih c (some t) (some (pre.length, lbl)) (by omega)
    have h2 := depthFirst_mapM nilT root fuel t ih r (pre ++ [(lbl, c)]) (by simp [hb]) (by omega)
    simp only [List.length_append, List.length_cons, List.length_nil, Nat.zero_add] at h2
    obtain ⟨subs, hs, hf⟩ := Option.map_eq_some_iff.mp h2
    simp only [Option.map_some] at h1
    simp only [List.zipIdx_cons, List.map_cons, List.mapM_cons, hc, h1, hs, FTree.postList]
    simp [← hf]

theorem depthFirst_eq (nilT root : FTree) : ∀ (fuel : Nat) (t : FTree) (p : Option FTree) (l : Option (Nat × Bytes)),
    t.height ≤ fuel → depthFirst (FTree.iface nilT root) fuel (p.map some) l (some t) = some (FTree.post p l t)
  | 0, .node .., _, _, h => by simp [FTree.height] at h
  | fuel + 1, .node i f lf bs, p, l, h => by
    have hh : FTree.heightList bs ≤ fuel := by simp only [FTree.height] at h; omega
    have hM := depthFirst_mapM nilT root fuel (.node i f lf bs) (depthFirst_eq nilT root fuel) bs [] rfl hh
    simp only [List.length_nil] at hM
    obtain ⟨subs, hs, hf⟩ := Option.map_eq_some_iff.mp hM
    simp only [depthFirst, iface_labels, Option.getD_some, FTree.branches]
    rw [hs]
    simp [FTree.post, hf]

/-- both walks run out of fuel together (`X02GL.together`) -/
theorem depthFirst_none (nilT root : FTree) (fuel : Nat) (t : FTree) (p : Option (Option FTree))
    (l : Option (Nat × Bytes)) (h : fuel < t.height) : depthFirst (FTree.iface nilT root) fuel p l (some t) = none := by
  have ht := X02GL.together (FTree.iface nilT root) fuel none p l (some t)
  rw [toStrings_none nilT root fuel t none (some t) rfl h] at ht
  exact Option.not_isSome_iff_eq_none.1 (by rw [← ht]; exact Bool.false_ne_true)

end Low.X02L
