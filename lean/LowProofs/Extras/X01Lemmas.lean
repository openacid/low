import LowModel.Extras.Fmt
/-
  Helper lemmas for X01 (bitmap.Fmt): `joinSep` of chunks, bit sums, residues.
-/
namespace Low.X01L
open Low.Extras

theorem joinSep_cons2 {α} (sep x y : List α) (r : List (List α)) :
    joinSep sep (x :: y :: r) = x ++ sep ++ joinSep sep (y :: r) := rfl

theorem js_length_sum {α} (s : α) : ∀ (L : List (List α)), L ≠ [] →
    (joinSep [s] L).length + 1 = (L.map fun x => x.length + 1).sum
  | [], h => absurd rfl h
  | [x], _ => by simp [joinSep]
  | x :: y :: r, _ => by
    have ih := js_length_sum s (y :: r) (by simp)
    rw [joinSep_cons2]
    simp only [List.length_append, List.length_cons, List.length_nil, List.map_cons, List.sum_cons] at ih ⊢
    omega

theorem sum_map_const {α} (c : Nat) (f : α → Nat) : ∀ (L : List α), (∀ x ∈ L, f x = c) →
    (L.map f).sum = L.length * c
  | [], _ => by simp
  | x :: r, h => by
    have ih := sum_map_const c f r (fun y hy => h y (List.mem_cons_of_mem _ hy))
    have hx := h x (List.mem_cons_self)
    simp only [List.map_cons, List.sum_cons, List.length_cons, ih, hx, Nat.add_mul]
    omega

theorem js_length {α} (s : α) (c : Nat) (L : List (List α)) (hL : ∀ x ∈ L, x.length = c) (hne : L ≠ []) :
    (joinSep [s] L).length + 1 = L.length * (c + 1) := by
  rw [js_length_sum s L hne]
  exact sum_map_const (c + 1) _ L (fun x hx => by simp [hL x hx])

theorem joinSep_cons {α} (s : α) (y : List α) (t : List (List α)) :
    joinSep [s] (y :: t) = y ++ (if t = [] then [] else s :: joinSep [s] t) := by
  cases t with
  | nil => rw [if_pos rfl, List.append_nil]; rfl
  | cons z u => rw [joinSep_cons2, List.append_assoc]; rfl

theorem js_get {α} (s : α) (c : Nat) : ∀ (L : List (List α)) (e i : Nat), (∀ x ∈ L, x.length = c) →
    (he : e < L.length) → i < c → (joinSep [s] L)[e * (c + 1) + i]? = (L[e]'he)[i]?
  | x :: r, 0, i, hL, _, hi => by
    rw [joinSep_cons, Nat.zero_mul, Nat.zero_add, List.getElem?_append_left (by rw [hL x List.mem_cons_self]; exact hi)]
    rfl
  | x :: r, e + 1, i, hL, he, hi => by
    have he' : e < r.length := Nat.lt_of_succ_lt_succ he
    have hr : r ≠ [] := fun h => by rw [h] at he'; exact Nat.not_lt_zero _ he'
    have hx := hL x List.mem_cons_self
    rw [joinSep_cons, if_neg hr, List.getElem?_append_right (by rw [hx, Nat.succ_mul]; omega),
      show (e + 1) * (c + 1) + i - x.length = e * (c + 1) + i + 1 by rw [hx, Nat.succ_mul]; omega,
      List.getElem?_cons_succ, js_get s c r e i (fun z hz => hL z (List.mem_cons_of_mem _ hz)) he' hi]
    rfl

theorem js_sep {α} (s : α) (c : Nat) : ∀ (L : List (List α)) (e : Nat), (∀ x ∈ L, x.length = c) →
    e + 1 < L.length → (joinSep [s] L)[e * (c + 1) + c]? = some s
  | x :: r, 0, hL, he => by
    have hr : r ≠ [] := fun h => by rw [h] at he; exact Nat.lt_irrefl _ he
    rw [joinSep_cons, if_neg hr, Nat.zero_mul, Nat.zero_add,
      List.getElem?_append_right (Nat.le_of_eq (hL x List.mem_cons_self)), hL x List.mem_cons_self, Nat.sub_self]
    rfl
  | x :: r, e + 1, hL, he => by
    have he' : e + 1 < r.length := Nat.lt_of_succ_lt_succ he
    have hr : r ≠ [] := fun h => by rw [h] at he'; exact Nat.not_lt_zero _ he'
    have hx := hL x List.mem_cons_self
    rw [joinSep_cons, if_neg hr, List.getElem?_append_right (by rw [hx, Nat.succ_mul]; omega),
      show (e + 1) * (c + 1) + c - x.length = e * (c + 1) + c + 1 by rw [hx, Nat.succ_mul]; omega,
      List.getElem?_cons_succ, js_sep s c r e (fun z hz => hL z (List.mem_cons_of_mem _ hz)) he']

theorem js_inj {α} (s : α) (c : Nat) (hc : 0 < c) : ∀ (L L' : List (List α)),
    (∀ x ∈ L, x.length = c) → (∀ x ∈ L', x.length = c) → joinSep [s] L = joinSep [s] L' → L = L'
  | [], [], _, _, _ => rfl
  | [], x' :: r', _, hL', h => by
    have hl := congrArg List.length h
    rw [joinSep_cons, List.length_append, hL' x' List.mem_cons_self] at hl
    exact absurd hl (Nat.ne_of_lt (Nat.lt_of_lt_of_le hc (Nat.le_add_right c _)))
  | x :: r, [], hL, _, h => by
    have hl := congrArg List.length h
    rw [joinSep_cons, List.length_append, hL x List.mem_cons_self] at hl
    exact absurd hl.symm (Nat.ne_of_lt (Nat.lt_of_lt_of_le hc (Nat.le_add_right c _)))
  | x :: r, x' :: r', hL, hL', h => by
    rw [joinSep_cons, joinSep_cons] at h
    obtain ⟨hx, ht⟩ := List.append_inj h ((hL x List.mem_cons_self).trans (hL' x' List.mem_cons_self).symm)
    subst hx
    by_cases e : r = [] <;> by_cases e' : r' = [] <;> simp only [e, e', if_true, if_false, reduceCtorEq] at ht
    · rw [e, e']
    · rw [js_inj s c hc r r' (fun z hz => hL z (List.mem_cons_of_mem _ hz))
        (fun z hz => hL' z (List.mem_cons_of_mem _ hz)) (List.cons.inj ht).2]

def bitSum (f : Nat → Bool) (n : Nat) : Nat :=
  (List.range n).foldl (fun acc i => acc + (if f i then 2 ^ i else 0)) 0

theorem bitSum_succ (f : Nat → Bool) (n : Nat) :
    bitSum f (n + 1) = bitSum f n + (if f n then 2 ^ n else 0) := by
  simp [bitSum, List.range_succ, List.foldl_append]

theorem bitSum_testBit (x : Nat) : ∀ n, bitSum x.testBit n = x % 2 ^ n
  | 0 => by simp [bitSum, Nat.mod_one]
  | n + 1 => by
    rw [bitSum_succ, bitSum_testBit x n, Nat.mod_pow_succ, Nat.testBit_eq_decide_div_mod_eq]
    have : x / 2 ^ n % 2 = 0 ∨ x / 2 ^ n % 2 = 1 := by omega
    rcases this with h | h <;> simp [h]

theorem bitSum_congr (f g : Nat → Bool) : ∀ n, (∀ i, i < n → f i = g i) → bitSum f n = bitSum g n
  | 0, _ => rfl
  | n + 1, h => by
    rw [bitSum_succ, bitSum_succ, bitSum_congr f g n (fun i hi => h i (by omega)), h n (by omega)]

end Low.X01L
