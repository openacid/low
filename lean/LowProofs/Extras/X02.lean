import LowProofs.Extras.X02Lemmas
/-
  X02 -- package tree (`tree/tree.go`): `nodeStr`, `toStrings`, `String`, `depthFirst`, `DepthFirst` run over a
  finite tree through the interface (`FTree.iface`) give the specified rendering (`FTree.lines`, pre-order, one line per
  node, indentation = sum of the prefix widths of the proper ancestors) and the specified callback sequence
  (`FTree.post`, post-order, every node exactly once with its parent and branch label).
  The second half says the same by positions (a path = the branch numbers from the root): the calls are `visitAt` over
  `postPaths`, the lines are `lineAt` over `prePaths` (`X02_post_paths`, `X02_lines_paths`); each list holds every position
  of the tree once (`X02_*_complete`, `X02_*_nodup`) in the order `postBefore` resp. `preBefore` (`X02_*_sorted`,
  `X02_post_order`).
-/
namespace Low
open Low.Extras

namespace X02L
def b (s : String) : Bytes := s.toList.map Char.toNat
/-- a literal is `String.ofList` of its characters by unfolding alone, while the kernel evaluates `toList` of a literal by
    decoding its UTF-8 bytes position by position (quadratic): rewrite with this before evaluating -/
theorem b_ofList (l : List Char) : b (String.ofList l) = l.map Char.toNat := by
  rw [b, String.toList_ofList]
def leafT (id : String) : FTree := .node (b id) (b "(foo)") (some (b "leaf")) []
/-- the tree of `tree_test.go` (`0 -> 1 -> 3 -> {5, 6}`, `0 -> 2 -> 4`): ids "00".."06", info "(foo)", label = branch
    number, leaves have the value "leaf" -/
def exT : FTree :=
  .node (b "00") (b "(foo)") none
    [(b "0", .node (b "01") (b "(foo)") none
        [(b "0", .node (b "03") (b "(foo)") none [(b "0", leafT "05"), (b "1", leafT "06")])]),
     (b "1", .node (b "02") (b "(foo)") none [(b "0", leafT "04")])]
/-- the subtree "03" of `exT` -/
def exT3 : FTree := .node (b "03") (b "(foo)") none [(b "0", leafT "05"), (b "1", leafT "06")]
end X02L
open X02L

/-- nodeStr through the interface = the specified line and prefix width -/
theorem X02_nodeStr (nilT root t : FTree) (inb : Option (Nat × Bytes)) :
    nodeStr (FTree.iface nilT root) inb (some t) = FTree.lineOf (inb.map (·.2)) t :=
  X02L.nodeStr_eq nilT root (some t) inb

/-- the same for the nil node, which stands for `nilT` -/
theorem X02_nodeStr_nil (nilT root : FTree) (inb : Option (Nat × Bytes)) :
    nodeStr (FTree.iface nilT root) inb none = FTree.lineOf (inb.map (·.2)) nilT :=
  X02L.nodeStr_eq nilT root none inb

example : nodeStr (FTree.iface exT exT) (some (1, b "1")) (some exT3) = (b "-1->#03(foo)*2", 7) := by
  rw [b_ofList, b_ofList]
  decide +kernel

/-- toStrings = the pre-order rendering, for every fuel ≥ height -/
theorem X02_toStrings (nilT root t : FTree) (inb : Option (Nat × Bytes)) (fuel : Nat) (h : t.height ≤ fuel) :
    toStrings (FTree.iface nilT root) fuel inb (some t) = some (FTree.lines 0 (inb.map (·.2)) t) :=
  X02L.toStrings_eq nilT root fuel t inb (some t) rfl h

example : toStrings (FTree.iface exT exT) 2 (some (0, b "0")) (some exT3)
    = some [b "-0->#03(foo)*2", b "       -0->#05(foo)=leaf", b "       -1->#06(foo)=leaf"] := by
  rw [b_ofList, b_ofList, b_ofList, b_ofList]
  decide +kernel

/-- too little fuel is reported, never a wrong answer -/
theorem X02_toStrings_fuel (nilT root t : FTree) (inb : Option (Nat × Bytes)) (fuel : Nat) (h : fuel < t.height) :
    toStrings (FTree.iface nilT root) fuel inb (some t) = none :=
  X02L.toStrings_none nilT root fuel t inb (some t) rfl h

example : exT3.height = 2 ∧ toStrings (FTree.iface exT exT) 1 none (some exT3) = none := by decide +kernel

/-- String(t): starts at the nil node (rendered as nilT), joined by '\n' -/
theorem X02_string (nilT root : FTree) (fuel : Nat) (h : nilT.height ≤ fuel) :
    treeString (FTree.iface nilT root) fuel = some (joinSep [10] (FTree.lines 0 none nilT)) := by
  have := X02L.toStrings_eq nilT root fuel nilT none none rfl h
  show Option.map _ (toStrings (FTree.iface nilT root) fuel none none) = _
  rw [this]; rfl

/-- the expected string of `TestToString` -/
example : treeString (FTree.iface exT exT) 4 = some (b
"#00(foo)*2
   -0->#01(foo)
          -0->#03(foo)*2
                 -0->#05(foo)=leaf
                 -1->#06(foo)=leaf
   -1->#02(foo)
          -0->#04(foo)=leaf") := by
  rw [b_ofList]
  decide +kernel

/-- too little fuel is reported, never a wrong answer -/
theorem X02_string_fuel (nilT root : FTree) (fuel : Nat) (h : fuel < nilT.height) :
    treeString (FTree.iface nilT root) fuel = none := by
  have := X02L.toStrings_none nilT root fuel nilT none none rfl h
  show Option.map _ (toStrings (FTree.iface nilT root) fuel none none) = _
  rw [this]; rfl

example : exT.height = 4 ∧ treeString (FTree.iface exT exT) 3 = none := by decide +kernel

/-- one line per node -/
theorem X02_lines_count (off : Nat) (inb : Option Bytes) (t : FTree) : (FTree.lines off inb t).length = t.size :=
  X02L.lines_length t off inb

example : (FTree.lines 0 none exT).length = 7 ∧ exT.size = 7 := by decide +kernel

/-- indentation: a shift of the offset is a prefix of spaces on every line (so `lines off` = `lines 0` indented by
    `off`) -/
theorem X02_lines_shift (off : Nat) (inb : Option Bytes) (t : FTree) :
    FTree.lines off inb t = (FTree.lines 0 inb t).map (spaces off ++ ·) := by
  have := X02L.lines_add t off 0 inb
  simpa only [Nat.add_zero] using this

example : FTree.lines 3 (some (b "1")) exT3
    = [b "   -1->#03(foo)*2", b "          -0->#05(foo)=leaf", b "          -1->#06(foo)=leaf"] := by
  rw [b_ofList, b_ofList, b_ofList, b_ofList]
  decide +kernel

/-- the first line is the node's own text -/
theorem X02_lines_head (off : Nat) (inb : Option Bytes) (t : FTree) :
    (FTree.lines off inb t).head? = some (spaces off ++ (FTree.lineOf inb t).1) := by
  cases t; simp [FTree.lines]

/-- the lines after the first are those of the children, in branch order, each child's block at offset
    `off + prefix width of the node` (`linesList` is the concatenation of the children's `lines`) -/
theorem X02_lines_tail (off : Nat) (inb : Option Bytes) (t : FTree) :
    (FTree.lines off inb t).tail = FTree.linesList (off + (FTree.lineOf inb t).2) t.branches := by
  cases t; simp [FTree.lines, FTree.branches]

theorem X02_linesList_flatten (off : Nat) (bs : List (Bytes × FTree)) :
    FTree.linesList off bs = (bs.map fun x => FTree.lines off (some x.1) x.2).flatten := by
  induction bs with
  | nil => simp [FTree.linesList]
  | cons x r ih => obtain ⟨lbl, c⟩ := x; simp [FTree.linesList, ih]

example : (FTree.lines 3 (some (b "1")) exT3).head? = some (b "   -1->#03(foo)*2") ∧
    (FTree.lineOf (some (b "1")) exT3).2 = 7 ∧
    (FTree.lines 3 (some (b "1")) exT3).tail = FTree.lines 10 (some (b "0")) (leafT "05") ++
      FTree.lines 10 (some (b "1")) (leafT "06") := by
  rw [b_ofList, b_ofList, b_ofList]
  decide +kernel

/-- DepthFirst = post-order of the tree that Child(nil,nil) returns -/
theorem X02_depthFirst (nilT root : FTree) (fuel : Nat) (h : root.height ≤ fuel) :
    depthFirstTop (FTree.iface nilT root) fuel = some (FTree.post none none root) :=
  X02L.depthFirst_eq nilT root fuel root none none h

/-- too little fuel is reported, never a wrong answer -/
theorem X02_depthFirst_fuel (nilT root : FTree) (fuel : Nat) (h : fuel < root.height) :
    depthFirstTop (FTree.iface nilT root) fuel = none :=
  X02L.depthFirst_none nilT root fuel root none none h

/-- the expected calls of `TestDepthFirst` (parent id, branch number, node id) -/
example : (depthFirstTop (FTree.iface exT exT) 4).map (fun vs => vs.map fun (p, l, n) =>
      (((p.getD none).getD exT).id, (l.map (·.1)).getD 0, (n.getD exT).id))
    = some [(b "03", 0, b "05"), (b "03", 1, b "06"), (b "01", 0, b "03"), (b "00", 0, b "01"),
            (b "02", 0, b "04"), (b "00", 1, b "02"), (b "00", 0, b "00")] ∧
    depthFirstTop (FTree.iface exT exT) 3 = none := by decide +kernel

/-- one callback call per node -/
theorem X02_post_count (p : Option FTree) (l : Option (Nat × Bytes)) (t : FTree) :
    (FTree.post p l t).length = t.size :=
  X02L.post_length t p l

/-- the node itself comes last (after everything below it) -/
theorem X02_post_last (p : Option FTree) (l : Option (Nat × Bytes)) (t : FTree) :
    (FTree.post p l t).getLast? = some (p.map some, l, some t) := by
  cases t; simp [FTree.post]

example : (FTree.post none none exT).length = 7 ∧
    (FTree.post (some exT) (some (0, b "0")) exT3).getLast? = some (some (some exT), some (0, b "0"), some exT3) :=
  ⟨by decide +kernel, rfl⟩

namespace Extras
namespace FTree
/-- the node at a path; a path is the list of branch numbers from the root (`[]` = the root itself);
    `none` when the path leaves the tree -/
def sub : FTree → List Nat → Option FTree
  | t, [] => some t
  | t, k :: p => (t.branches[k]?).bind fun x => sub x.2 p

mutual
/-- the paths of all nodes, in post-order (same recursion as `post`) -/
def postPaths : FTree → List (List Nat)
  | .node _ _ _ bs => postPathsList 0 bs ++ [[]]
/-- the paths (relative to the parent) of all nodes below the branches `bs`, the first of which has number `k` -/
def postPathsList (k : Nat) : List (Bytes × FTree) → List (List Nat)
  | [] => []
  | (_, c) :: r => (postPaths c).map (k :: ·) ++ postPathsList (k + 1) r
end

/-- the callback call for the node at `path` below `t`, where `t` itself is called with `parent`, `label`: walk down
    the path remembering the last node and branch passed (`(none, none, none)` when the path leaves the tree) -/
def visitFrom (parent : Option FTree) (label : Option (Nat × Bytes)) :
    FTree → List Nat → Visit (Option FTree) (Nat × Bytes)
  | t, [] => (parent.map some, label, some t)
  | t, k :: p => match t.branches[k]? with
    | some x => visitFrom (some t) (some (k, x.1)) x.2 p
    | none => (none, none, none)

/-- the callback call `DepthFirst` owes to the node at `path` of `t`; characterised by `X02_visitAt_root` and
    `X02_visitAt_snoc` -/
def visitAt (t : FTree) (path : List Nat) : Visit (Option FTree) (Nat × Bytes) := visitFrom none none t path
end FTree

/-- `postBefore a b`: position `a` comes before position `b` in post-order: `b` is a proper prefix of `a` (`a` lies
    below `b`), or at the first place where they differ `a` takes the smaller branch number -/
def postBefore : List Nat → List Nat → Prop
  | [], _ => False
  | _ :: _, [] => True
  | i :: a, j :: b => i < j ∨ (i = j ∧ postBefore a b)
end Extras

namespace X02L
open FTree

theorem sub_append : ∀ (p q : List Nat) (t : FTree), sub t (p ++ q) = (sub t p).bind fun c => sub c q
  | [], q, t => by simp [sub]
  | k :: p, q, t => by
    simp only [List.cons_append, sub]
    cases t.branches[k]? with
    | none => rfl
    | some x => simp [sub_append p q x.2]

theorem visitFrom_snoc : ∀ (p : List Nat) (t : FTree) (P : Option FTree) (L : Option (Nat × Bytes)) (k : Nat)
    (parent : FTree) (x : Bytes × FTree), sub t p = some parent → parent.branches[k]? = some x →
    visitFrom P L t (p ++ [k]) = (some (some parent), some (k, x.1), some x.2)
  | [], t, P, L, k, parent, x, h1, h2 => by
    simp only [sub, Option.some.injEq] at h1; subst h1
    simp [visitFrom, h2]
  | j :: p, t, P, L, k, parent, x, h1, h2 => by
    simp only [sub] at h1
    cases hb : t.branches[j]? with
    | none => simp [hb] at h1
    | some y =>
      simp only [hb, Option.bind_some] at h1
      simp only [List.cons_append, visitFrom, hb]
      exact visitFrom_snoc p y.2 _ _ k parent x h1 h2

mutual
theorem post_eq_map : ∀ (t : FTree) (P : Option FTree) (L : Option (Nat × Bytes)),
    post P L t = (postPaths t).map (visitFrom P L t)
  | .node i f l bs, P, L => by
    simp only [post, postPaths, List.map_append, List.map_cons, List.map_nil]
    have h := postList_eq_map bs [] (.node i f l bs) P L rfl
    simp only [List.length_nil] at h
    rw [h]
    simp [visitFrom]
theorem postList_eq_map : ∀ (bs pre : List (Bytes × FTree)) (t : FTree) (P : Option FTree) (L : Option (Nat × Bytes)),
    t.branches = pre ++ bs → postList t pre.length bs = (postPathsList pre.length bs).map (visitFrom P L t)
  | [], pre, t, P, L, _ => by simp [postList, postPathsList]
  | (lbl, c) :: r, pre, t, P, L, hb => by
    have h2 := postList_eq_map r (pre ++ [(lbl, c)]) t P L (by simp [hb])
    simp only [List.length_append, List.length_cons, List.length_nil, Nat.zero_add] at h2
    simp only [postList, postPathsList, List.map_append, List.map_map, h2, post_eq_map c]
    congr 1
    apply List.map_congr_left
    intro q _
    simp [visitFrom, hb]
end

mutual
theorem mem_postPaths : ∀ (t : FTree) (p : List Nat), p ∈ postPaths t ↔ (sub t p).isSome
  | .node i f l bs, p => by
    simp only [postPaths, List.mem_append, List.mem_singleton, mem_postPathsList bs 0 p]
    cases p with
    | nil => simp [sub]
    | cons k q =>
      simp only [sub, branches, Nat.zero_add, List.cons.injEq, reduceCtorEq, or_false]
      constructor
      · rintro ⟨j, q', ⟨rfl, rfl⟩, x, hx, hs⟩; simp [hx, hs]
      · intro h
        cases hx : bs[k]? with
        | none => simp [hx] at h
        | some x => exact ⟨k, q, ⟨rfl, rfl⟩, x, hx, by simpa [hx] using h⟩
theorem mem_postPathsList : ∀ (bs : List (Bytes × FTree)) (k : Nat) (p : List Nat),
    p ∈ postPathsList k bs ↔ ∃ j q, p = (k + j) :: q ∧ ∃ x, bs[j]? = some x ∧ (sub x.2 q).isSome
  | [], k, p => by simp [postPathsList]
  | (lbl, c) :: r, k, p => by
    simp only [postPathsList, List.mem_append, List.mem_map, mem_postPaths c, mem_postPathsList r (k + 1) p]
    constructor
    · rintro (⟨q, hq, rfl⟩ | ⟨j, q, rfl, x, hx, hs⟩)
      · exact ⟨0, q, rfl, (lbl, c), rfl, hq⟩
      · exact ⟨j + 1, q, by simp; omega, x, by simpa using hx, hs⟩
    · rintro ⟨j, q, rfl, x, hx, hs⟩
      cases j with
      | zero =>
        simp only [List.getElem?_cons_zero, Option.some.injEq] at hx; subst hx
        exact Or.inl ⟨q, hs, rfl⟩
      | succ j => exact Or.inr ⟨j, q, by simp; omega, x, by simpa using hx, hs⟩
end

theorem postBefore_cons (k : Nat) {a b : List Nat} (h : postBefore a b) : postBefore (k :: a) (k :: b) := by
  simp [postBefore, h]

theorem postBefore_asymm : ∀ (a b : List Nat), postBefore a b → ¬ postBefore b a
  | [], _, h => by simp [postBefore] at h
  | _ :: _, [], _ => by simp [postBefore]
  | i :: a, j :: b, h => by
    simp only [postBefore] at h ⊢
    rintro (h' | ⟨rfl, h'⟩)
    · omega
    · rcases h with h | ⟨_, h⟩
      · omega
      · exact postBefore_asymm a b h h'

theorem postBefore_irrefl (a : List Nat) : ¬ postBefore a a := fun h => postBefore_asymm a a h h

theorem postBefore_below : ∀ (p s : List Nat), s ≠ [] → postBefore (p ++ s) p
  | [], s, hs => by cases s with | nil => simp at hs | cons => simp [postBefore]
  | k :: p, s, hs => postBefore_cons k (postBefore_below p s hs)

theorem postBefore_sibling : ∀ (p s s' : List Nat) (k k' : Nat), k < k' → postBefore (p ++ k :: s) (p ++ k' :: s')
  | [], s, s', k, k', h => by simp [postBefore, h]
  | j :: p, s, s', k, k', h => postBefore_cons j (postBefore_sibling p s s' k k' h)

mutual
theorem postPaths_sorted : ∀ t : FTree, (postPaths t).Pairwise postBefore
  | .node i f l bs => by
    simp only [postPaths]
    rw [List.pairwise_append]
    refine ⟨postPathsList_sorted bs 0, by simp, ?_⟩
    intro a ha b hb
    simp only [List.mem_singleton] at hb; subst hb
    obtain ⟨j, q, rfl, _⟩ := (mem_postPathsList bs 0 a).mp ha
    simp [postBefore]
theorem postPathsList_sorted : ∀ (bs : List (Bytes × FTree)) (k : Nat), (postPathsList k bs).Pairwise postBefore
  | [], k => by simp [postPathsList]
  | (lbl, c) :: r, k => by
    simp only [postPathsList]
    rw [List.pairwise_append, List.pairwise_map]
    refine ⟨(postPaths_sorted c).imp (fun h => postBefore_cons k h), postPathsList_sorted r (k + 1), ?_⟩
    intro a ha b hb
    obtain ⟨q, _, rfl⟩ := List.mem_map.mp ha
    obtain ⟨j, q', rfl, _⟩ := (mem_postPathsList r (k + 1) b).mp hb
    simp only [postBefore]; omega
end

theorem nodup_of_pairwise {α} {R : α → α → Prop} (hR : ∀ a, ¬ R a a) {l : List α} (h : l.Pairwise R) : l.Nodup :=
  h.imp fun {a b} (hab : R a b) (e : a = b) => hR b (e ▸ hab)

theorem idxOf_lt_of_pairwise {α} [BEq α] [LawfulBEq α] {R : α → α → Prop} (hR : ∀ a b, R a b → ¬ R b a) :
    ∀ (l : List α) (a b : α), l.Pairwise R → a ∈ l → b ∈ l → R a b → l.idxOf a < l.idxOf b
  | [], _, _, _, ha, _, _ => by simp at ha
  | x :: l, a, b, hp, ha, hb, hab => by
    rw [List.pairwise_cons] at hp
    have hne : a ≠ b := fun h => by subst h; exact hR a a hab hab
    rw [List.idxOf_cons, List.idxOf_cons]
    by_cases hxa : x = a
    · subst hxa
      have : (x == b) = false := by simpa using hne
      simp [this]
    · have hxa' : (x == a) = false := by simpa using hxa
      have ha' : a ∈ l := by simpa [Ne.symm hxa] using ha
      by_cases hxb : x = b
      · subst hxb; exact absurd (hp.1 a ha') (hR _ _ hab)
      · have hxb' : (x == b) = false := by simpa using hxb
        have hb' : b ∈ l := by simpa [Ne.symm hxb] using hb
        simp only [hxa', hxb', cond_false]
        exact Nat.succ_lt_succ (idxOf_lt_of_pairwise hR l a b hp.2 ha' hb' hab)

end X02L
open Extras.FTree

/-- the call for the root: nil parent, nil label -/
theorem X02_visitAt_root (t : FTree) : visitAt t [] = (none, none, some t) := rfl

/-- the call for the node on branch `k` of the node `parent` at path `p`: parent, (branch number, label), child -/
theorem X02_visitAt_snoc (t : FTree) (p : List Nat) (k : Nat) (parent child : FTree) (label : Bytes)
    (hp : sub t p = some parent) (hk : parent.branches[k]? = some (label, child)) :
    visitAt t (p ++ [k]) = (some (some parent), some (k, label), some child) :=
  X02L.visitFrom_snoc p t none none k parent (label, child) hp hk

/-- the calls of `DepthFirst` are, in order, the calls owed to the positions `postPaths t` -/
theorem X02_post_paths (t : FTree) : FTree.post none none t = (postPaths t).map (visitAt t) :=
  X02L.post_eq_map t none none

example : postPaths exT = [[0, 0, 0], [0, 0, 1], [0, 0], [0], [1, 0], [1], []] ∧ sub exT [0, 0] = some exT3 ∧
    visitAt exT [0, 0, 1] = (some (some exT3), some (1, b "1"), some (leafT "06")) ∧ sub exT [1, 1] = none :=
  ⟨by decide +kernel, rfl, rfl, rfl⟩

/-- positions are visited in the post-order of positions: below before above, smaller branch first -/
theorem X02_postPaths_sorted (t : FTree) : (postPaths t).Pairwise postBefore := X02L.postPaths_sorted t

/-- no position twice: each node gets exactly one call -/
theorem X02_postPaths_nodup (t : FTree) : (postPaths t).Nodup :=
  X02L.nodup_of_pairwise X02L.postBefore_irrefl (X02L.postPaths_sorted t)

/-- every position of the tree, and nothing else -/
theorem X02_postPaths_complete (t : FTree) (p : List Nat) : p ∈ postPaths t ↔ (sub t p).isSome :=
  X02L.mem_postPaths t p

example : (postPaths exT).Nodup ∧ ([0, 0] ∈ postPaths exT ↔ (sub exT [0, 0]).isSome) ∧ [0, 1] ∉ postPaths exT := by
  refine ⟨X02_postPaths_nodup _, X02_postPaths_complete _ _, ?_⟩
  rw [X02_postPaths_complete]; decide +kernel

/-- children before parents (everything below a position comes before it), and siblings in branch order (everything
    on a smaller branch of a node comes before everything on a larger one); `idxOf` = position in the call sequence -/
theorem X02_post_order (t : FTree) (p : List Nat) :
    (∀ s, s ≠ [] → p ++ s ∈ postPaths t → (postPaths t).idxOf (p ++ s) < (postPaths t).idxOf p) ∧
    (∀ k k' s s', k < k' → p ++ k :: s ∈ postPaths t → p ++ k' :: s' ∈ postPaths t →
      (postPaths t).idxOf (p ++ k :: s) < (postPaths t).idxOf (p ++ k' :: s')) := by
  constructor
  · intro s hs hm
    have hp : p ∈ postPaths t := by
      rw [X02L.mem_postPaths] at hm ⊢
      rw [X02L.sub_append] at hm
      cases h : sub t p with
      | none => simp [h] at hm
      | some c => rfl
    exact X02L.idxOf_lt_of_pairwise X02L.postBefore_asymm _ _ _ (X02L.postPaths_sorted t) hm hp
      (X02L.postBefore_below p s hs)
  · intro k k' s s' hk h1 h2
    exact X02L.idxOf_lt_of_pairwise X02L.postBefore_asymm _ _ _ (X02L.postPaths_sorted t) h1 h2
      (X02L.postBefore_sibling p s s' k k' hk)

/-- the form asked for: `p ++ [k]` before `p`, and `p ++ [k]` before `p ++ [k + 1]` -/
theorem X02_post_order_child (t : FTree) (p : List Nat) (k : Nat) :
    (p ++ [k] ∈ postPaths t → (postPaths t).idxOf (p ++ [k]) < (postPaths t).idxOf p) ∧
    (p ++ [k + 1] ∈ postPaths t → (postPaths t).idxOf (p ++ [k]) < (postPaths t).idxOf (p ++ [k + 1])) := by
  refine ⟨(X02_post_order t p).1 [k] (by simp), fun h => (X02_post_order t p).2 k (k + 1) [] [] (by omega) ?_ h⟩
  rw [X02L.mem_postPaths, X02L.sub_append] at h ⊢
  cases hs : sub t p with
  | none => simp [hs] at h
  | some c =>
    simp only [hs, Option.bind_some, sub] at h ⊢
    cases hk1 : c.branches[k + 1]? with
    | none => simp [hk1] at h
    | some x =>
      have hlt : k + 1 < c.branches.length := by
        rcases Nat.lt_or_ge (k + 1) c.branches.length with h' | h'
        · exact h'
        · rw [List.getElem?_eq_none h'] at hk1; cases hk1
      rw [List.getElem?_eq_getElem (by omega : k < c.branches.length)]; rfl

example : (postPaths exT).idxOf [0, 0, 1] = 1 ∧ (postPaths exT).idxOf [0, 0] = 2 ∧ (postPaths exT).idxOf [0] = 3 ∧
    (postPaths exT).idxOf [1] = 5 ∧ [0, 0] ++ [1] ∈ postPaths exT := by
  refine ⟨by decide +kernel, by decide +kernel, by decide +kernel, by decide +kernel, ?_⟩
  rw [X02_postPaths_complete]; decide +kernel

namespace Extras
namespace FTree
mutual
/-- the paths of all nodes, in pre-order (same recursion as `lines`) -/
def prePaths : FTree → List (List Nat)
  | .node _ _ _ bs => [] :: prePathsList 0 bs
/-- the paths (relative to the parent) of all nodes below the branches `bs`, the first of which has number `k` -/
def prePathsList (k : Nat) : List (Bytes × FTree) → List (List Nat)
  | [] => []
  | (_, c) :: r => (prePaths c).map (k :: ·) ++ prePathsList (k + 1) r
end

/-- the node at a path together with the label of the branch it hangs on (`inb` for the root) -/
def nodeAt (inb : Option Bytes) : FTree → List Nat → Option (Option Bytes × FTree)
  | t, [] => some (inb, t)
  | t, k :: p => (t.branches[k]?).bind fun x => nodeAt (some x.1) x.2 p

/-- the prefix width (`lineOf … .2`: the part `-label->#id` of the line) of the node at a path; 0 outside the tree -/
def widthAt (inb : Option Bytes) (t : FTree) (path : List Nat) : Nat :=
  match nodeAt inb t path with
  | some (l, c) => (lineOf l c).2
  | none => 0

/-- the sum of the prefix widths of the proper ancestors (= the proper prefixes `path.take n`, `n < path.length`) -/
def indentAt (inb : Option Bytes) (t : FTree) (path : List Nat) : Nat :=
  ((List.range path.length).map fun n => widthAt inb t (path.take n)).sum

/-- the line owed to the node at `path`, when the root is rendered at offset `off` with in-label `inb`:
    its own text, indented by `off` + the prefix widths of its proper ancestors -/
def lineAt (off : Nat) (inb : Option Bytes) (t : FTree) (path : List Nat) : Bytes :=
  match nodeAt inb t path with
  | some (l, c) => spaces (off + indentAt inb t path) ++ (lineOf l c).1
  | none => []
end FTree

/-- `preBefore a b`: position `a` comes before position `b` in pre-order: `a` is a proper prefix of `b` (`a` lies
    above `b`), or at the first place where they differ `a` takes the smaller branch number -/
def preBefore : List Nat → List Nat → Prop
  | _, [] => False
  | [], _ :: _ => True
  | i :: a, j :: b => i < j ∨ (i = j ∧ preBefore a b)
end Extras

namespace X02L

theorem nodeAt_sub : ∀ (p : List Nat) (t : FTree) (inb : Option Bytes), (nodeAt inb t p).map (·.2) = sub t p
  | [], t, inb => rfl
  | k :: p, t, inb => by
    simp only [nodeAt, sub]
    cases t.branches[k]? with
    | none => rfl
    | some x => simp [nodeAt_sub p x.2]

theorem indentAt_cons (inb : Option Bytes) (t : FTree) (k : Nat) (q : List Nat) (x : Bytes × FTree)
    (h : t.branches[k]? = some x) :
    indentAt inb t (k :: q) = (lineOf inb t).2 + indentAt (some x.1) x.2 q := by
  simp only [indentAt, List.length_cons, List.range_succ_eq_map, List.map_cons, List.take_zero, List.sum_cons,
    List.map_map]
  congr 2
  apply List.map_congr_left
  intro n _
  simp [widthAt, nodeAt, h]

theorem lineAt_cons (off : Nat) (inb : Option Bytes) (t : FTree) (k : Nat) (q : List Nat) (x : Bytes × FTree)
    (h : t.branches[k]? = some x) :
    lineAt off inb t (k :: q) = lineAt (off + (lineOf inb t).2) (some x.1) x.2 q := by
  simp only [lineAt, nodeAt, h, Option.bind_some, indentAt_cons inb t k q x h, Nat.add_assoc]

mutual
theorem lines_eq_map : ∀ (t : FTree) (off : Nat) (inb : Option Bytes),
    FTree.lines off inb t = (prePaths t).map (lineAt off inb t)
  | .node i f l bs, off, inb => by
    have h := linesList_eq_map bs [] (.node i f l bs) off inb rfl
    simp only [List.length_nil] at h
    simp only [FTree.lines, prePaths, List.map_cons, h]
    simp [lineAt, nodeAt, indentAt]
theorem linesList_eq_map : ∀ (bs pre : List (Bytes × FTree)) (t : FTree) (off : Nat) (inb : Option Bytes),
    t.branches = pre ++ bs →
    FTree.linesList (off + (lineOf inb t).2) bs = (prePathsList pre.length bs).map (lineAt off inb t)
  | [], pre, t, off, inb, _ => by simp [FTree.linesList, prePathsList]
  | (lbl, c) :: r, pre, t, off, inb, hb => by
    have h2 := linesList_eq_map r (pre ++ [(lbl, c)]) t off inb (by simp [hb])
    simp only [List.length_append, List.length_cons, List.length_nil, Nat.zero_add] at h2
    simp only [FTree.linesList, prePathsList, List.map_append, List.map_map, h2, lines_eq_map c]
    congr 1
    apply List.map_congr_left
    intro q _
    have hk : t.branches[pre.length]? = some (lbl, c) := by simp [hb]
    simp [lineAt_cons off inb t pre.length q (lbl, c) hk]
end

mutual
theorem mem_prePaths_iff_post : ∀ (t : FTree) (p : List Nat), p ∈ prePaths t ↔ p ∈ postPaths t
  | .node i f l bs, p => by
    rw [prePaths, postPaths, List.mem_cons, List.mem_append, List.mem_singleton, mem_prePathsList_iff_post bs 0 p]
    exact Or.comm
theorem mem_prePathsList_iff_post : ∀ (bs : List (Bytes × FTree)) (k : Nat) (p : List Nat),
    p ∈ prePathsList k bs ↔ p ∈ postPathsList k bs
  | [], k, p => by rw [prePathsList, postPathsList]
  | (lbl, c) :: r, k, p => by
    simp only [prePathsList, postPathsList, List.mem_append, List.mem_map, mem_prePaths_iff_post c,
      mem_prePathsList_iff_post r (k + 1) p]
end

theorem mem_prePaths (t : FTree) (p : List Nat) : p ∈ prePaths t ↔ (sub t p).isSome :=
  (mem_prePaths_iff_post t p).trans (mem_postPaths t p)

theorem mem_prePathsList (bs : List (Bytes × FTree)) (k : Nat) (p : List Nat) :
    p ∈ prePathsList k bs ↔ ∃ j q, p = (k + j) :: q ∧ ∃ x, bs[j]? = some x ∧ (sub x.2 q).isSome :=
  (mem_prePathsList_iff_post bs k p).trans (mem_postPathsList bs k p)

theorem preBefore_cons (k : Nat) {a b : List Nat} (h : preBefore a b) : preBefore (k :: a) (k :: b) := by
  simp [preBefore, h]

theorem preBefore_irrefl : ∀ a : List Nat, ¬ preBefore a a
  | [] => by simp [preBefore]
  | i :: a => by simp [preBefore, preBefore_irrefl a]

mutual
theorem prePaths_sorted : ∀ t : FTree, (prePaths t).Pairwise preBefore
  | .node i f l bs => by
    simp only [prePaths, List.pairwise_cons]
    refine ⟨?_, prePathsList_sorted bs 0⟩
    intro a ha
    obtain ⟨j, q, rfl, _⟩ := (mem_prePathsList bs 0 a).mp ha
    simp [preBefore]
theorem prePathsList_sorted : ∀ (bs : List (Bytes × FTree)) (k : Nat), (prePathsList k bs).Pairwise preBefore
  | [], k => by simp [prePathsList]
  | (lbl, c) :: r, k => by
    simp only [prePathsList]
    rw [List.pairwise_append, List.pairwise_map]
    refine ⟨(prePaths_sorted c).imp (fun h => preBefore_cons k h), prePathsList_sorted r (k + 1), ?_⟩
    intro a ha b hb
    obtain ⟨q, _, rfl⟩ := List.mem_map.mp ha
    obtain ⟨j, q', rfl, _⟩ := (mem_prePathsList r (k + 1) b).mp hb
    simp only [preBefore]; omega
end

end X02L

/-- the lines of `toStrings`/`String` are, in order, the lines owed to the positions `prePaths t`: the text of the node
    at the position, indented by `off` + the sum of the prefix widths of its proper ancestors -/
theorem X02_lines_paths (off : Nat) (inb : Option Bytes) (t : FTree) :
    FTree.lines off inb t = (prePaths t).map (lineAt off inb t) :=
  X02L.lines_eq_map t off inb

/-- `lineAt` spelled out for a position inside the tree (`nodeAt` finds the node of `sub` and its in-label) -/
theorem X02_lineAt (off : Nat) (inb : Option Bytes) (t : FTree) (p : List Nat) (l : Option Bytes) (c : FTree)
    (h : nodeAt inb t p = some (l, c)) :
    sub t p = some c ∧
    lineAt off inb t p = spaces (off + ((List.range p.length).map fun n => widthAt inb t (p.take n)).sum)
                            ++ (FTree.lineOf l c).1 := by
  refine ⟨?_, by simp [lineAt, h, indentAt]⟩
  rw [← X02L.nodeAt_sub p t inb, h]; rfl

/-- every position of the tree exactly once, parents before children, siblings in branch order -/
theorem X02_prePaths_complete (t : FTree) (p : List Nat) : p ∈ prePaths t ↔ (sub t p).isSome :=
  X02L.mem_prePaths t p
theorem X02_prePaths_sorted (t : FTree) : (prePaths t).Pairwise preBefore := X02L.prePaths_sorted t
theorem X02_prePaths_nodup (t : FTree) : (prePaths t).Nodup :=
  X02L.nodup_of_pairwise X02L.preBefore_irrefl (X02L.prePaths_sorted t)

example : prePaths exT = [[], [0], [0, 0], [0, 0, 0], [0, 0, 1], [1], [1, 0]] ∧
    nodeAt none exT [0, 0, 1] = some (some (b "1"), leafT "06") ∧
    (widthAt none exT [] = 3 ∧ widthAt none exT [0] = 7 ∧ widthAt none exT [0, 0] = 7) ∧
    indentAt none exT [0, 0, 1] = 17 ∧
    lineAt 0 none exT [0, 0, 1] = b "                 -1->#06(foo)=leaf" :=
  ⟨by decide +kernel, rfl, by decide +kernel, by decide +kernel, by rw [b_ofList]; decide +kernel⟩

/-- `DepthFirst` calls the callback once for every position of the tree `Child(nil, nil)`, in post-order, with the
    parent node, the branch label and the node of that position -/
theorem X02_depthFirst_paths (nilT root : FTree) (fuel : Nat) (h : root.height ≤ fuel) :
    depthFirstTop (FTree.iface nilT root) fuel = some ((postPaths root).map (visitAt root)) := by
  rw [X02_depthFirst nilT root fuel h, X02_post_paths]

/-- `String` is one line for every position of the tree, in pre-order, each indented by the prefix widths of its
    proper ancestors, joined by newlines -/
theorem X02_string_paths (nilT root : FTree) (fuel : Nat) (h : nilT.height ≤ fuel) :
    treeString (FTree.iface nilT root) fuel = some (joinSep [10] ((prePaths nilT).map (lineAt 0 none nilT))) := by
  rw [X02_string nilT root fuel h, X02_lines_paths]

example : depthFirstTop (FTree.iface exT exT3) 2
    = some [visitAt exT3 [0], visitAt exT3 [1], visitAt exT3 []] := by
  rw [X02_depthFirst_paths _ _ _ (by decide +kernel)]; rfl

end Low
