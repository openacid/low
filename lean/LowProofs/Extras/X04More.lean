import LowProofs.Extras.X04Lemmas
import LowProofs.Props.C20
/-
  X04 (more) -- size.stat: the number on the first line is the structural sum of property C20; a larger depth only
  adds lines; a `maxItem` beyond every length changes nothing; the number of lines when nothing is cut.
-/
namespace Low.Extras

mutual
/-- the largest slice / array / map length anywhere in the value (map keys and values that `MapIndex` does not find
    included, although `stat` does not walk them: "anywhere") -/
def SV.maxLen : SV → Nat
  | .scalar _ => 0
  | .str _ => 0
  | .arr es => max es.length (SV.maxLenList es)
  | .slice es => max es.length (SV.maxLenList es)
  | .map ps => max ps.length (SV.maxLenEntries ps)
  | .ptr none => 0
  | .ptr (some v) => v.maxLen
  | .iface none => 0
  | .iface (some v) => v.maxLen
  | .struct fs => SV.maxLenFields fs
  | .unsupported => 0
/-- the largest `maxLen` of the elements -/
def SV.maxLenList : List SV → Nat
  | [] => 0
  | v :: r => max v.maxLen (SV.maxLenList r)
/-- the largest `maxLen` of the keys and values -/
def SV.maxLenEntries : List (Bytes × SV × SV × Bool) → Nat
  | [] => 0
  | (_, k, v, _) :: r => max (max k.maxLen v.maxLen) (SV.maxLenEntries r)
/-- the largest `maxLen` of the field values -/
def SV.maxLenFields : List (Bytes × SV) → Nat
  | [] => 0
  | (_, v) :: r => max v.maxLen (SV.maxLenFields r)
end

mutual
/-- the number of lines `stat` prints when nothing is cut: one for the value itself plus the lines of the parts it
    walks -- elements, map values found (one `<nil>` line for a value `MapIndex` does not find), the pointee, the
    dynamic value (one `<nil>` line for a nil interface), the fields; map keys are not walked -/
def SV.statCount : SV → Nat
  | .scalar _ => 1
  | .str _ => 1
  | .arr es => 1 + SV.countList es
  | .slice es => 1 + SV.countList es
  | .map ps => 1 + SV.countEntries ps
  | .ptr none => 1
  | .ptr (some v) => 1 + v.statCount
  | .iface none => 2
  | .iface (some v) => 1 + v.statCount
  | .struct fs => 1 + SV.countFields fs
  | .unsupported => 1
def SV.countList : List SV → Nat
  | [] => 0
  | v :: r => v.statCount + SV.countList r
def SV.countEntries : List (Bytes × SV × SV × Bool) → Nat
  | [] => 0
  | (_, _, v, true) :: r => v.statCount + SV.countEntries r
  | (_, _, _, false) :: r => 1 + SV.countEntries r
def SV.countFields : List (Bytes × SV) → Nat
  | [] => 0
  | (_, v) :: r => v.statCount + SV.countFields r
end

end Low.Extras

namespace Low.X04L
open Low.Extras

theorem keep_keep (d d' : Int) (h : d ≤ d') (ls : List StatLine) : keep d (keep d' ls) = keep d ls := by
  simp only [keep, List.filter_filter]
  apply List.filter_congr
  intro x _
  by_cases hx : (x.indent : Int) ≤ d
  · have : (x.indent : Int) ≤ d' := by omega
    simp [hx, this]
  · simp [hx]

theorem stat_congr_m (v : SV) (d m m' : Int) (hk : kids v (d-1) m = kids v (d-1) m') : stat v d m = stat v d m' := by
  rw [stat_eq, stat_eq, hk]

theorem cast_max_le {a b : Nat} {m : Int} : ((max a b : Nat) : Int) ≤ m ↔ (a : Int) ≤ m ∧ (b : Int) ≤ m := by
  omega

/-- `maxItem` beyond the end of a non-empty rest of a loop: the test `i < maxItem` succeeds, and the bound holds for the
    next round -/
theorem cast_len_le {i n : Nat} {m : Int} :
    ((i + (n + 1) : Nat) : Int) ≤ m ↔ (i : Int) < m ∧ ((i + 1 + n : Nat) : Int) ≤ m := by
  omega

mutual
theorem kids_m (m m' : Int) : ∀ (v : SV) (d : Int), (v.maxLen : Int) ≤ m → (v.maxLen : Int) ≤ m' →
    kids v d m = kids v d m'
  | .scalar _, _, _, _ => rfl
  | .str _, _, _, _ => rfl
  | .arr es, d, h, h' => by
    rw [SV.maxLen, cast_max_le, ← Nat.zero_add es.length] at h h'
    exact elems_m m m' es 0 d h.1 h'.1 h.2 h'.2
  | .slice es, d, h, h' => by
    rw [SV.maxLen, cast_max_le, ← Nat.zero_add es.length] at h h'
    exact elems_m m m' es 0 d h.1 h'.1 h.2 h'.2
  | .map ps, d, h, h' => by
    rw [SV.maxLen, cast_max_le, ← Nat.zero_add ps.length] at h h'
    exact entries_m m m' ps 0 d h.1 h'.1 h.2 h'.2
  | .ptr none, _, _, _ => rfl
  | .ptr (some p), d, h, h' => by
    rw [SV.maxLen] at h h'
    exact stat_congr_m p d m m' (kids_m m m' p (d-1) h h')
  | .iface none, _, _, _ => rfl
  | .iface (some p), d, h, h' => by
    rw [SV.maxLen] at h h'
    exact stat_congr_m p d m m' (kids_m m m' p (d-1) h h')
  | .struct fs, d, h, h' => by
    rw [SV.maxLen] at h h'
    exact fields_m m m' fs d h h'
  | .unsupported, _, _, _ => rfl
theorem elems_m (m m' : Int) : ∀ (es : List SV) (i : Nat) (d : Int),
    ((i + es.length : Nat) : Int) ≤ m → ((i + es.length : Nat) : Int) ≤ m' →
    (SV.maxLenList es : Int) ≤ m → (SV.maxLenList es : Int) ≤ m' → statElems es i d m = statElems es i d m'
  | [], i, d, _, _, _, _ => by rw [statElems_nil, statElems_nil]
  | e :: r, i, d, h1, h1', h2, h2' => by
    rw [SV.maxLenList, cast_max_le] at h2 h2'
    rw [List.length_cons, cast_len_le] at h1 h1'
    rw [statElems_cons, statElems_cons, if_pos h1.1, if_pos h1'.1,
      stat_congr_m e d m m' (kids_m m m' e (d-1) h2.1 h2'.1), elems_m m m' r (i+1) d h1.2 h1'.2 h2.2 h2'.2]
theorem entries_m (m m' : Int) : ∀ (ps : List (Bytes × SV × SV × Bool)) (i : Nat) (d : Int),
    ((i + ps.length : Nat) : Int) ≤ m → ((i + ps.length : Nat) : Int) ≤ m' →
    (SV.maxLenEntries ps : Int) ≤ m → (SV.maxLenEntries ps : Int) ≤ m' → statEntries ps i d m = statEntries ps i d m'
  | [], i, d, _, _, _, _ => by rw [statEntries_nil, statEntries_nil]
  | (lbl, k, v, f) :: r, i, d, h1, h1', h2, h2' => by
    rw [SV.maxLenEntries, cast_max_le, cast_max_le] at h2 h2'
    rw [List.length_cons, cast_len_le] at h1 h1'
    rw [statEntries_cons, statEntries_cons, if_pos h1.1, if_pos h1'.1, entryLines, entryLines,
      stat_congr_m v d m m' (kids_m m m' v (d-1) h2.1.2 h2'.1.2), entries_m m m' r (i+1) d h1.2 h1'.2 h2.2 h2'.2]
theorem fields_m (m m' : Int) : ∀ (fs : List (Bytes × SV)) (d : Int),
    (SV.maxLenFields fs : Int) ≤ m → (SV.maxLenFields fs : Int) ≤ m' → statFields fs d m = statFields fs d m'
  | [], d, _, _ => by rw [statFields_nil, statFields_nil]
  | (n, v) :: r, d, h2, h2' => by
    rw [SV.maxLenFields, cast_max_le] at h2 h2'
    rw [statFields_cons, statFields_cons, stat_congr_m v d m m' (kids_m m m' v (d-1) h2.1 h2'.1),
      fields_m m m' r d h2.2 h2'.2]
end

theorem setLabel_length (l : Bytes) (a : List StatLine) : (setLabel l a).length = a.length := by
  cases a <;> rfl

theorem stat_count_of_kids (v : SV) (m : Int) (c : Nat)
    (hk : ∀ d : Int, d < 0 → ∀ subs, kids v d m = some subs → subs.length + 1 = c) :
    ∀ d : Int, d < 0 → ∀ ls, stat v d m = some ls → ls.length = c := by
  intro d hd ls h
  obtain ⟨sz, subs, _, rfl, _, h1⟩ := stat_shape v d m ls h
  have := hk (d-1) (by omega) subs (h1 (by omega))
  simp only [List.length_cons, List.length_map, this]

theorem combine_length (lbl : Bytes) (x y : Option (List StatLine)) (cx cy : Nat)
    (hx : ∀ a, x = some a → a.length = cx) (hy : ∀ b, y = some b → b.length = cy) (subs)
    (h : (x.bind fun a => y.map fun b => setLabel lbl a ++ b) = some subs) : subs.length = cx + cy := by
  obtain ⟨a, b, rfl, rfl, rfl⟩ := combine_eq_some h
  rw [List.length_append, setLabel_length, hx a rfl, hy b rfl]

mutual
theorem kids_count (m : Int) : ∀ (v : SV) (d : Int), d < 0 → (v.maxLen : Int) ≤ m →
    ∀ subs, kids v d m = some subs → subs.length + 1 = v.statCount
  | .scalar _, _, _, _, _, h => by cases h; rfl
  | .str _, _, _, _, _, h => by cases h; rfl
  | .arr es, d, hd, hm, subs, h => by
    rw [SV.maxLen, cast_max_le, ← Nat.zero_add es.length] at hm
    rw [SV.statCount, elems_count m es 0 d hd hm.1 hm.2 subs h, Nat.add_comm]
  | .slice es, d, hd, hm, subs, h => by
    rw [SV.maxLen, cast_max_le, ← Nat.zero_add es.length] at hm
    rw [SV.statCount, elems_count m es 0 d hd hm.1 hm.2 subs h, Nat.add_comm]
  | .map ps, d, hd, hm, subs, h => by
    rw [SV.maxLen, cast_max_le, ← Nat.zero_add ps.length] at hm
    rw [SV.statCount, entries_count m ps 0 d hd hm.1 hm.2 subs h, Nat.add_comm]
  | .ptr none, _, _, _, _, h => by cases h; rfl
  | .ptr (some p), d, hd, hm, subs, h => by
    rw [SV.maxLen] at hm
    rw [SV.statCount, stat_count_of_kids p m p.statCount (fun d' hd' => kids_count m p d' hd' hm) d hd subs h,
      Nat.add_comm]
  | .iface none, _, _, _, _, h => by cases h; rfl
  | .iface (some p), d, hd, hm, subs, h => by
    rw [SV.maxLen] at hm
    rw [SV.statCount, stat_count_of_kids p m p.statCount (fun d' hd' => kids_count m p d' hd' hm) d hd subs h,
      Nat.add_comm]
  | .struct fs, d, hd, hm, subs, h => by
    rw [SV.maxLen] at hm
    rw [SV.statCount, fields_count m fs d hd hm subs h, Nat.add_comm]
  | .unsupported, _, _, _, _, h => by cases h; rfl
theorem elems_count (m : Int) : ∀ (es : List SV) (i : Nat) (d : Int), d < 0 →
    ((i + es.length : Nat) : Int) ≤ m → (SV.maxLenList es : Int) ≤ m →
    ∀ subs, statElems es i d m = some subs → subs.length = SV.countList es
  | [], i, d, _, _, _, subs, h => by
    rw [statElems_nil] at h; cases h; rfl
  | e :: r, i, d, hd, h1, h2, subs, h => by
    rw [SV.maxLenList, cast_max_le] at h2
    rw [List.length_cons, cast_len_le] at h1
    rw [statElems_cons, if_pos h1.1] at h
    rw [SV.countList]
    exact combine_length _ _ _ _ _
      (stat_count_of_kids e m e.statCount (fun d' hd' => kids_count m e d' hd' h2.1) d hd)
      (elems_count m r (i+1) d hd h1.2 h2.2) subs h
theorem entries_count (m : Int) : ∀ (ps : List (Bytes × SV × SV × Bool)) (i : Nat) (d : Int), d < 0 →
    ((i + ps.length : Nat) : Int) ≤ m → (SV.maxLenEntries ps : Int) ≤ m →
    ∀ subs, statEntries ps i d m = some subs → subs.length = SV.countEntries ps
  | [], i, d, _, _, _, subs, h => by
    rw [statEntries_nil] at h; cases h; rfl
  | (lbl, k, v, true) :: r, i, d, hd, h1, h2, subs, h => by
    rw [SV.maxLenEntries, cast_max_le, cast_max_le] at h2
    rw [List.length_cons, cast_len_le] at h1
    rw [statEntries_cons, if_pos h1.1, entryLines, if_pos rfl] at h
    rw [SV.countEntries]
    exact combine_length _ _ _ _ _
      (stat_count_of_kids v m v.statCount (fun d' hd' => kids_count m v d' hd' h2.1.2) d hd)
      (entries_count m r (i+1) d hd h1.2 h2.2) subs h
  | (lbl, k, v, false) :: r, i, d, hd, h1, h2, subs, h => by
    rw [SV.maxLenEntries, cast_max_le] at h2
    rw [List.length_cons, cast_len_le] at h1
    rw [statEntries_cons, if_pos h1.1, entryLines, if_neg (by simp)] at h
    rw [SV.countEntries]
    exact combine_length _ _ _ _ _ (fun a ha => by cases ha; rfl)
      (entries_count m r (i+1) d hd h1.2 h2.2) subs h
theorem fields_count (m : Int) : ∀ (fs : List (Bytes × SV)) (d : Int), d < 0 → (SV.maxLenFields fs : Int) ≤ m →
    ∀ subs, statFields fs d m = some subs → subs.length = SV.countFields fs
  | [], d, _, _, subs, h => by
    rw [statFields_nil] at h; cases h; rfl
  | (n, v) :: r, d, hd, h2, subs, h => by
    rw [SV.maxLenFields, cast_max_le] at h2
    rw [statFields_cons] at h
    rw [SV.countFields]
    exact combine_length _ _ _ _ _
      (stat_count_of_kids v m v.statCount (fun d' hd' => kids_count m v d' hd' h2.1) d hd)
      (fields_count m r d hd h2.2) subs h
end

end Low.X04L

namespace Low
open Low.Extras

/-- map[string][]any{"k": {nil, int32(7)}, "n": …(not found)} beside a pointer to an array, in a struct -/
def X04_ex2 : SV :=
  .struct [([109], .map [([107], .str 1, .slice [.iface none, .iface (some (.scalar 4))], true),
                         ([110], .str 1, .slice [.scalar 1, .scalar 1, .scalar 1], false)]),
           ([112], .ptr (some (.arr [.scalar 2, .scalar 2])))]

/-- the number on the first line is the structural sum of property C20 (the number `Low.C20_stat` speaks about),
    whatever depth and maxItem -/
theorem X04_head_structSize (v : SV) (d m : Int) (h : v.erase.supported = true) :
    ∃ rest, stat v d m = some (⟨0, none, some (structSize v.erase)⟩ :: rest) := by
  have hs := sizeOf_eq v.erase h
  have hsome := X04L.stat_isSome v d m (by rw [hs]; rfl)
  obtain ⟨ls, hls⟩ := Option.isSome_iff_exists.1 hsome
  obtain ⟨sz, subs, hsz, rfl, _, _⟩ := X04L.stat_shape v d m ls hls
  rw [hs] at hsz
  cases hsz
  exact ⟨subs.map X04L.bump, hls⟩

example : X04_ex2.erase.supported = true ∧ structSize X04_ex2.erase = 141 ∧
    (stat X04_ex2 3 1).map List.head? = some (some ⟨0, none, some 141⟩) := by decide +kernel

/-- a larger depth only adds lines: for 0 ≤ d ≤ d', the lines for d are those for d' with indentation ≤ d -/
theorem X04_depth_mono (v : SV) (d d' m : Int) (hd : 0 ≤ d) (h : d ≤ d') :
    stat v d m = (stat v d' m).map fun ls => ls.filter fun l => decide ((l.indent : Int) ≤ d) := by
  rw [X04L.stat_filter v d m hd, X04L.stat_filter v d' m (by omega)]
  cases stat v (-1) m with
  | none => rfl
  | some ls => exact congrArg some (X04L.keep_keep d d' h ls).symm

example : (stat X04_ex2 2 9).map List.length = some 6 ∧ (stat X04_ex2 3 9).map List.length = some 10 ∧
    stat X04_ex2 2 9 = (stat X04_ex2 3 9).map fun ls => ls.filter fun l => decide ((l.indent : Int) ≤ 2) := by
  decide +kernel

/-- maxItem beyond every length changes nothing: if m and m' are both ≥ every element count inside v (`SV.maxLen`),
    `stat` gives the same lines -/
theorem X04_maxItem_large (v : SV) (d m m' : Int) (h : (v.maxLen : Int) ≤ m) (h' : (v.maxLen : Int) ≤ m') :
    stat v d m = stat v d m' :=
  X04L.stat_congr_m v d m m' (X04L.kids_m m m' v (d-1) h h')

example : X04_ex2.maxLen = 3 ∧ stat X04_ex2 (-1) 3 = stat X04_ex2 (-1) 100 ∧ stat X04_ex2 (-1) 1 ≠ stat X04_ex2 (-1) 3 := by
  decide +kernel

/-- line count with nothing cut (negative depth, maxItem ≥ every length): one line for the value and the lines of
    every part `stat` walks (`SV.statCount`) -/
theorem X04_line_count (v : SV) (d m : Int) (hd : d < 0) (hm : (v.maxLen : Int) ≤ m) (ls)
    (h : stat v d m = some ls) : ls.length = v.statCount :=
  X04L.stat_count_of_kids v m v.statCount (fun d' hd' => X04L.kids_count m v d' hd' hm) d hd ls h

example : X04_ex2.statCount = 12 ∧ (stat X04_ex2 (-1) 3).map List.length = some 12
    ∧ (stat X04_ex2 (-1) 1).map List.length = some 8 ∧ (stat X04_ex2 4 3).map List.length = some 12
    ∧ (stat X04_ex2 3 3).map List.length = some 10 := by
  decide +kernel

end Low
