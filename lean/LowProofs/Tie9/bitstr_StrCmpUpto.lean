import Generated.Ssa9.bitstr_StrCmpUpto
import LowProofs.Tie2.bitstr_CmpUpto
import LowModel.Bitstr
/-
  Tie: the definition regenerated from the SSA form of `bitstr.StrCmpUpto` equals the hand-written model
  `bsStrCmpUpto`.

  The Go function views the bytes of the string `a` as a `[]byte` WITHOUT copying: it fills the three words of the
  slice variable `bs` field by field through `*reflect.SliceHeader` (`Data` from the string's header, `Len = len(a)`,
  `Cap = len(a)`) and calls `CmpUpto(bs, b)`.  tools/ssa2lean9 (unsafe9.go) translates exactly this idiom, after
  checking on the SSA form that all three header fields are assigned exactly once with exactly these values before
  `bs` is read and that `bs` is afterwards only read: a load of `bs` is then the byte list of `a`.  Any other shape
  (the `Cap` field left out, `Len = len(a) - 1`, the whole string header reinterpreted as a slice header — defect D5 —,
  a write through `bs`, `bs` escaping) is refused, so the file `Generated/Ssa9/bitstr_StrCmpUpto.lean` then contains no
  definition and this tie does not compile.  What remains in the generated definition is the data flow: WHICH
  function is called (the regenerated `CmpUpto`), with WHICH arguments in WHICH order, and what is returned.
-/
namespace Low

/-- the generated `StrCmpUpto` is the generated `CmpUpto` on the string's bytes (no hypothesis, by unfolding) -/
theorem Tie_bitstr_StrCmpUpto_gen (a b : List Nat) (fuel : Nat) :
    Gen.Ssa9.bitstr_StrCmpUpto fuel a b = Gen.Ssa2.bitstr_CmpUpto fuel a b := by
  show (Gen.Ssa2.bitstr_CmpUpto fuel a b).bind (fun t16 => some t16) = _
  cases Gen.Ssa2.bitstr_CmpUpto fuel a b <;> rfl

/-- Domain: that of `Tie_bitstr_CmpUpto` — `len(b) < 2^63` (a Go length always fits an `int`), every `fuel ≥ 9`; no
    hypothesis on the string `a` (its bytes are the list `a`; a Go string holds bytes, the model compares naturals).
    Where the Go function panics (`len(b) = 0`, …) both sides are `none`. -/
theorem Tie_bitstr_StrCmpUpto (a b : List Nat) (fuel : Nat) (hlb : b.length < 2^63) (hfuel : 9 ≤ fuel) :
    Gen.Ssa9.bitstr_StrCmpUpto fuel a b = bsStrCmpUpto a b := by
  rw [Tie_bitstr_StrCmpUpto_gen, Tie_bitstr_CmpUpto a b fuel hlb hfuel]
  rfl

example : Gen.Ssa9.bitstr_StrCmpUpto 9 [0x61, 0x70] [0x61, 0x60, 0xf0] = some 1 := by decide +kernel
example : Gen.Ssa9.bitstr_StrCmpUpto 9 [1, 2, 0xab, 7] [1, 2, 0xa0, 0xf0] = some 0 := by decide +kernel
example : Gen.Ssa9.bitstr_StrCmpUpto 9 [1, 2] [1, 2, 0xa0, 0xf0] = some (-1) := by decide +kernel
example : Gen.Ssa9.bitstr_StrCmpUpto 9 [1, 2, 0xab] [] = none := by decide +kernel
example : bsStrCmpUpto [1, 2, 0xab, 7] [1, 2, 0xa0, 0xf0] = some 0 := by decide +kernel

end Low
