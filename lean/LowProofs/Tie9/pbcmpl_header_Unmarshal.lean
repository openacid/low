import Generated.Ssa9.pbcmpl_header_Unmarshal
import LowProofs.Tie5.Oracles
/-
  Tie: the definition regenerated from the SSA form of `(*pbcmpl.header).Unmarshal` (`r := bytes.NewReader(buf); return
  binary.Read(r, <littleEndian>, h)`, receiver struct `{[16]uint8; uint64; uint64}`: ONE vocabulary function,
  `GoSem9.binaryReadHeaderLE`) equals the oracle field `protoUnmarshalHeader` of `Tie5.X` (`hdrOf b`, never an error) —
  on buffers of at least 32 bytes.

  Outside: for `len(buf) < 32` the Go code returns `io.EOF` / `io.ErrUnexpectedEOF` and leaves `*h` alone
  (`Tie_pbcmpl_header_Unmarshal_short`), while the oracle of generation 5 answers `(hdrOf b, nil)` for every `b`.  This is
  not inside a property's domain: the only caller, `ReadHeader`, passes the buffer `make([]byte, fixedSize)` that
  `io.ReadFull` filled completely — 32 bytes (`fixedSize` is instantiated with 32 in the generation-5 ties).
-/
namespace Low
open Low.GoSem5

theorem GoSem9_unleBytes : ∀ (l : List Nat), GoSem9.unleBytes l = unle l
  | [] => rfl
  | b :: r => by simp only [GoSem9.unleBytes, unle, GoSem9_unleBytes r]

/-- Domain: `32 ≤ len(buf)`.  Whatever the receiver held before (`h0`), the new contents are `hdrOf buf` (the first 16
    bytes, then two little-endian uint64) and the error is nil. -/
theorem Tie_pbcmpl_header_Unmarshal (h0 : Header) (b : List Nat) (hb : 32 ≤ b.length) :
    Gen.Ssa9.pbcmpl_header_Unmarshal (h_Version := h0.1) (h_HeaderSize := h0.2.1) (h_BodySize := h0.2.2) b = some (Err.nil, Tie5.hdrOf b) := by
  unfold Gen.Ssa9.pbcmpl_header_Unmarshal GoSem9.binaryReadHeaderLE Tie5.hdrOf
  simp only [hb, ↓reduceIte, GoSem9_unleBytes]

/-- the oracle field of `Tie5.X` that stands for `proto.Unmarshal(b, h)` answers exactly what the regenerated
    `(*header).Unmarshal` returns (new contents of `*h`, error), and leaves the world alone -/
theorem Tie_pbcmpl_header_Unmarshal_oracle (w : Tie5.World) (h0 : Header) (b : List Nat) (hb : 32 ≤ b.length) :
    (Gen.Ssa9.pbcmpl_header_Unmarshal (h_Version := h0.1) (h_HeaderSize := h0.2.1) (h_BodySize := h0.2.2) b).map (fun r => ((r.2, r.1), w))
      = some (Tie5.X.protoUnmarshalHeader w b h0) := by
  rw [Tie_pbcmpl_header_Unmarshal h0 b hb]; rfl

/-- fewer than 32 bytes: an error (`io.EOF` for no byte at all, else `io.ErrUnexpectedEOF`), `*h` unchanged -/
theorem Tie_pbcmpl_header_Unmarshal_short (h0 : Header) (b : List Nat) (hb : b.length < 32) :
    Gen.Ssa9.pbcmpl_header_Unmarshal (h_Version := h0.1) (h_HeaderSize := h0.2.1) (h_BodySize := h0.2.2) b
      = some (if b.length = 0 then Err.var "io.EOF" else Err.var "io.ErrUnexpectedEOF", h0) := by
  unfold Gen.Ssa9.pbcmpl_header_Unmarshal GoSem9.binaryReadHeaderLE
  have : ¬ 32 ≤ b.length := by omega
  by_cases h : b.length = 0 <;> simp [this, h]

example : Gen.Ssa9.pbcmpl_header_Unmarshal [] 0 0
    ([49, 46, 48, 46, 48, 0,0,0,0,0,0,0,0,0,0,0, 32,0,0,0,0,0,0,0, 2,1,0,0,0,0,0,0] ++ [7, 7]) =
    some (Err.nil, ([49, 46, 48, 46, 48, 0,0,0,0,0,0,0,0,0,0,0], 32, 0x0102)) := by decide +kernel
example : Gen.Ssa9.pbcmpl_header_Unmarshal [1] 2 3 [1, 2, 3] = some (Err.var "io.ErrUnexpectedEOF", ([1], 2, 3)) := by decide +kernel
example : Gen.Ssa9.pbcmpl_header_Unmarshal [1] 2 3 [] = some (Err.var "io.EOF", ([1], 2, 3)) := by decide +kernel

end Low
