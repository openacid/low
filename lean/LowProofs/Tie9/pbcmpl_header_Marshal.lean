import Generated.Ssa9.pbcmpl_header_Marshal
import LowProofs.Tie5.Oracles
/-
  Tie: the definition regenerated from the SSA form of `(*pbcmpl.header).Marshal` — the translator (tools/ssa2lean9,
  binary9.go) checks that the whole body is `b := &bytes.Buffer{}; err := binary.Write(b, <littleEndian>, h); return
  b.Bytes(), err` for a receiver struct `{[16]uint8; uint64; uint64}` and emits the ONE vocabulary function
  `GoSem9.binaryWriteHeaderLE` — equals the oracle field `protoMarshalHeader` of `Tie5.X`
  (`LowProofs/Tie5/Oracles.lean`: `hdrBytes h`, never an error).  The 32-byte little-endian layout the generation-5 ties
  use is therefore a theorem about regenerated code plus the vocabulary function, not an assumption of the oracle
  instantiation.  What is assumed of `proto.Marshal(h)`: golang/protobuf calls the message's own `Marshal`
  method when it has one (`newMarshaler`), and `h` is not nil.
-/
namespace Low
open Low.GoSem5

theorem GoSem9_leBytes8 (x : Nat) : GoSem9.leBytes 8 x = le64 x := rfl

theorem GoSem9_arrBytes16 (l : List Nat) (h : l.length = 16) : GoSem9.arrBytes 16 l = l := by
  unfold GoSem9.arrBytes
  rw [List.take_append_of_le_length (by omega), List.take_of_length_le (by omega)]

/-- The receiver's fields are passed BY NAME (`h_Version`, `h_HeaderSize`, `h_BodySize` are the names the translator derives
    from the struct's field names): reordering the fields of the struct changes the wire layout and breaks this tie.
    Domain: the representation invariant of a `*header` (generation 5): the `[16]byte` is a list of 16 entries.
    The generated definition never panics and never reports an error. -/
theorem Tie_pbcmpl_header_Marshal (h : Header) (hv : h.1.length = 16) :
    Gen.Ssa9.pbcmpl_header_Marshal (h_Version := h.1) (h_HeaderSize := h.2.1) (h_BodySize := h.2.2) = some (Tie5.hdrBytes h, Err.nil) := by
  unfold Gen.Ssa9.pbcmpl_header_Marshal GoSem9.binaryWriteHeaderLE Tie5.hdrBytes
  rw [GoSem9_arrBytes16 _ hv, GoSem9_leBytes8, GoSem9_leBytes8]

/-- the oracle field of `Tie5.X` that stands for `proto.Marshal(h)` answers exactly what the regenerated
    `(*header).Marshal` returns, and leaves the world alone -/
theorem Tie_pbcmpl_header_Marshal_oracle (w : Tie5.World) (h : Header) (hv : h.1.length = 16) :
    (Gen.Ssa9.pbcmpl_header_Marshal (h_Version := h.1) (h_HeaderSize := h.2.1) (h_BodySize := h.2.2)).map (fun r => (r, w)) = some (Tie5.X.protoMarshalHeader w h) := by
  rw [Tie_pbcmpl_header_Marshal h hv]; rfl

/-- the result has 32 bytes (`fixedSize`) -/
theorem Tie_pbcmpl_header_Marshal_length (ver : List Nat) (hs bs : Nat) :
    ∃ r, Gen.Ssa9.pbcmpl_header_Marshal ver hs bs = some (r, Err.nil) ∧ r.length = 32 := by
  refine ⟨_, rfl, ?_⟩
  simp [GoSem9.arrBytes, GoSem9.leBytes]

example : Gen.Ssa9.pbcmpl_header_Marshal ([49, 46, 48, 46, 48] ++ List.replicate 11 0) 32 0x0102 =
    some ([49, 46, 48, 46, 48, 0,0,0,0,0,0,0,0,0,0,0, 32,0,0,0,0,0,0,0, 2,1,0,0,0,0,0,0], Err.nil) := by decide +kernel

end Low
