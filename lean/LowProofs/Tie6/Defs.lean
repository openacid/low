import LowModel.GoSem6
import LowModel.SizeOf
/-
  Definitions and basic lemmas for the ties of generation 6 (`size.sizeof`, `size.Of`).

  The generated definitions work on the vocabulary's value tree `GoSem6.RVal` (scalars carry their `reflect.Kind`, so
  that the `switch v.Kind()` of the code is translated literally); the hand-written model (`LowModel/SizeOf.lean`) works on
  `GoVal`, whose scalars carry only their width.  `erase` forgets the kind: the ties are stated as
  `generated (tree) = model (erase tree)`.

  `depth` / `width` are the two budgets: nesting of recursive calls, and the longest single loop + 1.
-/
namespace Low.Tie6
open Low.GoSem6

mutual
/-- forget the scalar kinds: the model's tree -/
def erase : RVal → GoVal
  | .scalar k => .scalar k.size
  | .str n => .str n
  | .arr es => .arr (eraseList es)
  | .slice es => .slice (eraseList es)
  | .map ps => .map (erasePairs ps)
  | .ptr none => .ptr none
  | .ptr (some p) => .ptr (some (erase p))
  | .iface none => .iface none
  | .iface (some p) => .iface (some (erase p))
  | .struct fs => .struct (eraseList fs)
  | .opaque _ => .unsupported
def eraseList : List RVal → List GoVal
  | [] => []
  | v :: r => erase v :: eraseList r
def erasePairs : List (RVal × RVal) → List (GoVal × GoVal)
  | [] => []
  | (k, v) :: r => (erase k, erase v) :: erasePairs r
end

mutual
/-- nesting depth of the calls of `sizeof` on the tree (the bytes of a string and a nil interface's zero Value are
    one call deeper) -/
def depth : RVal → Nat
  | .scalar _ => 1
  | .str _ => 2
  | .arr es => 1 + depthList es
  | .slice es => 1 + depthList es
  | .map ps => 1 + depthPairs ps
  | .ptr none => 1
  | .ptr (some p) => 1 + depth p
  | .iface none => 2
  | .iface (some p) => 1 + depth p
  | .struct fs => 1 + depthList fs
  | .opaque _ => 1
def depthList : List RVal → Nat
  | [] => 0
  | v :: r => max (depth v) (depthList r)
def depthPairs : List (RVal × RVal) → Nat
  | [] => 0
  | (k, v) :: r => max (max (depth k) (depth v)) (depthPairs r)
end

mutual
/-- the longest loop that `sizeof` runs anywhere in the tree, plus one (the iteration that leaves the loop) -/
def width : RVal → Nat
  | .scalar _ => 1
  | .str n => n + 1
  | .arr es => max (es.length + 1) (widthList es)
  | .slice es => max (es.length + 1) (widthList es)
  | .map ps => max (ps.length + 1) (widthPairs ps)
  | .ptr none => 1
  | .ptr (some p) => width p
  | .iface none => 1
  | .iface (some p) => width p
  | .struct fs => max (fs.length + 1) (widthList fs)
  | .opaque _ => 1
def widthList : List RVal → Nat
  | [] => 1
  | v :: r => max (width v) (widthList r)
def widthPairs : List (RVal × RVal) → Nat
  | [] => 1
  | (k, v) :: r => max (max (width k) (width v)) (widthPairs r)
end

mutual
theorem sizeOf_some : ∀ (v : GoVal) (s : Nat), sizeOf v = some s → s = structSize v
  | .scalar w, s, h => (Option.some.inj h).symm
  | .str n, s, h => by rw [structSize, Nat.add_comm]; exact (Option.some.inj h).symm
  | .arr es, s, h => sizeOfList_some es s h
  | .struct fs, s, h => sizeOfList_some fs s h
  | .slice es, s, h => by
    obtain ⟨a, ha, rfl⟩ := Option.map_eq_some_iff.mp h
    rw [structSize, ← sizeOfList_some es a ha, Nat.add_comm]
  | .map ps, s, h => by
    obtain ⟨a, ha, rfl⟩ := Option.map_eq_some_iff.mp h
    rw [structSize, ← sizeOfPairs_some ps a ha, Nat.add_comm]
  | .ptr none, s, h => (Option.some.inj h).symm
  | .ptr (some v), s, h => by
    obtain ⟨a, ha, rfl⟩ := Option.map_eq_some_iff.mp h
    rw [structSize, ← sizeOf_some v a ha, Nat.add_comm]
  | .iface none, s, h => (Option.some.inj h).symm
  | .iface (some v), s, h => by
    obtain ⟨a, ha, rfl⟩ := Option.map_eq_some_iff.mp h
    rw [structSize, ← sizeOf_some v a ha, Nat.add_comm]
  | .unsupported, s, h => by cases h
theorem sizeOfList_some : ∀ (l : List GoVal) (s : Nat), sizeOfList l = some s → s = structSizeList l
  | [], s, h => (Option.some.inj h).symm
  | v :: r, s, h => by
    rw [sizeOfList] at h
    cases h1 : sizeOf v <;> cases h2 : sizeOfList r <;> rw [h1, h2] at h <;> cases h
    rw [structSizeList, ← sizeOf_some v _ h1, ← sizeOfList_some r _ h2]
theorem sizeOfPairs_some : ∀ (l : List (GoVal × GoVal)) (s : Nat), sizeOfPairs l = some s → s = structSizePairs l
  | [], s, h => (Option.some.inj h).symm
  | (k, v) :: r, s, h => by
    rw [sizeOfPairs] at h
    cases h1 : sizeOf k <;> cases h2 : sizeOf v <;> cases h3 : sizeOfPairs r <;> rw [h1, h2, h3] at h <;> cases h
    rw [structSizePairs, ← sizeOf_some k _ h1, ← sizeOf_some v _ h2, ← sizeOfPairs_some r _ h3]
end

theorem eraseList_length : ∀ l : List RVal, (eraseList l).length = l.length
  | [] => rfl
  | _ :: r => by simp [eraseList, eraseList_length r]

theorem sizeOfList_cons_none {v : GoVal} {r : List GoVal} (h : sizeOf v = none) : sizeOfList (v :: r) = none := by
  rw [sizeOfList, h]

theorem sizeOfList_cons_some {v : GoVal} {r : List GoVal} {a : Nat} (h : sizeOf v = some a) :
    sizeOfList (v :: r) = (sizeOfList r).map (fun b => a + b) := by
  rw [sizeOfList, h]; cases sizeOfList r <;> rfl

theorem depth_le_of_mem : ∀ (l : List RVal) (e : RVal), e ∈ l → depth e ≤ depthList l
  | [], _, h => by cases h
  | v :: r, e, h => by
    rw [depthList]
    rcases List.mem_cons.mp h with rfl | h'
    · omega
    · have := depth_le_of_mem r e h'; omega

theorem width_le_of_mem : ∀ (l : List RVal) (e : RVal), e ∈ l → width e ≤ widthList l
  | [], _, h => by cases h
  | v :: r, e, h => by
    rw [widthList]
    rcases List.mem_cons.mp h with rfl | h'
    · omega
    · have := width_le_of_mem r e h'; omega

theorem structSize_le_of_mem : ∀ (l : List RVal) (e : RVal), e ∈ l → structSize (erase e) ≤ structSizeList (eraseList l)
  | [], _, h => by cases h
  | v :: r, e, h => by
    rw [eraseList, structSizeList]
    rcases List.mem_cons.mp h with rfl | h'
    · omega
    · have := structSize_le_of_mem r e h'; omega

theorem structSizeList_drop_le : ∀ (l : List RVal) (j : Nat),
    structSizeList (eraseList (l.drop j)) ≤ structSizeList (eraseList l)
  | l, 0 => by simp
  | [], j+1 => by simp
  | v :: r, j+1 => by
    have := structSizeList_drop_le r j
    simp only [List.drop_succ_cons]; rw [eraseList, structSizeList]; omega

theorem depthPairs_le : ∀ (l : List (RVal × RVal)) (p : RVal × RVal), p ∈ l →
    depth p.1 ≤ depthPairs l ∧ depth p.2 ≤ depthPairs l
  | [], _, h => by cases h
  | (k, v) :: r, p, h => by
    rw [depthPairs]
    rcases List.mem_cons.mp h with rfl | h'
    · exact ⟨Nat.le_trans (Nat.le_max_left _ _) (Nat.le_max_left _ _),
        Nat.le_trans (Nat.le_max_right _ _) (Nat.le_max_left _ _)⟩
    · have := depthPairs_le r p h'
      exact ⟨Nat.le_trans this.1 (Nat.le_max_right _ _), Nat.le_trans this.2 (Nat.le_max_right _ _)⟩

theorem widthPairs_le : ∀ (l : List (RVal × RVal)) (p : RVal × RVal), p ∈ l →
    width p.1 ≤ widthPairs l ∧ width p.2 ≤ widthPairs l
  | [], _, h => by cases h
  | (k, v) :: r, p, h => by
    rw [widthPairs]
    rcases List.mem_cons.mp h with rfl | h'
    · exact ⟨Nat.le_trans (Nat.le_max_left _ _) (Nat.le_max_left _ _),
        Nat.le_trans (Nat.le_max_right _ _) (Nat.le_max_left _ _)⟩
    · have := widthPairs_le r p h'
      exact ⟨Nat.le_trans this.1 (Nat.le_max_right _ _), Nat.le_trans this.2 (Nat.le_max_right _ _)⟩

theorem structSizePairs_le : ∀ (l : List (RVal × RVal)) (p : RVal × RVal), p ∈ l →
    structSize (erase p.1) + structSize (erase p.2) ≤ structSizePairs (erasePairs l)
  | [], _, h => by cases h
  | (k, v) :: r, p, h => by
    rw [erasePairs, structSizePairs]
    rcases List.mem_cons.mp h with rfl | h'
    · simp
    · have := structSizePairs_le r p h'; omega

/-- the bytes of a string: `n` values of kind uint8 -/
theorem sizeOfList_bytes : ∀ n : Nat, sizeOfList (List.replicate n (GoVal.scalar 1)) = some n
  | 0 => by simp [sizeOfList]
  | n+1 => by
    rw [List.replicate_succ, sizeOfList_cons_some (a := 1) (by simp [sizeOf]), sizeOfList_bytes n]
    simp; omega

end Low.Tie6
