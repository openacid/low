import LowProofs.Tie6.size_sizeof_L
/-
  TIE: the definition regenerated from the SSA form of `size.sizeof` (size/sizeof.go) equals the hand-written model
  `Low.sizeOf` (LowModel/SizeOf.lean) on the erasure of the value tree.

  The generated definition is DIRECTLY recursive: `size_sizeof_body fuel self v` is the SSA of the function with the
  recursive calls going to `self`; `size_sizeof_rec fuel depth` closes the recursion on a depth counter and
  `size_sizeof fuel v = size_sizeof_rec fuel fuel v`.  `rec_eq` is proved by induction on the depth; in each case of the
  first `switch` the loop lemma of `size_sizeof_L.lean` is applied with `self := size_sizeof_rec fuel d`.

  Domain (explicit hypotheses):
    * `depth v ≤ fuel`, `width v ≤ fuel`: the budgets (nesting of the calls / longest loop + 1); below them the generated
      definition is `none` although Go returns a value — `fuel` is not a Go quantity;
    * `width v ≤ 2^63`: every length in the tree is a Go `int`;
    * `structSize (erase v) < 2^63`: the structural sum fits an `int`.  Outside, Go's `sum += s` wraps around, the
      model's `Nat` does not: a value of ≥ 2^63 bytes does not fit a 64-bit address space, so this is outside the
      domain of property C20 (which quantifies over values that exist).
  No hypothesis about supportedness: for a tree that contains a channel / func / unsafe.Pointer both sides are `none`
  (Go panics with "unknown kind").
-/
namespace Low.Tie6
open Low.GoSem Low.GoSem6 Low.TieL Low.Tie2L

theorem depth_pos : ∀ v : RVal, 1 ≤ depth v
  | .scalar _ | .str _ | .arr _ | .slice _ | .map _ | .ptr none | .ptr (some _) | .iface none | .iface (some _)
  | .struct _ | .opaque _ => by simp [depth]

/- both `switch`es of the body are decided by evaluating `Kind()` on the constructor -/
variable (fuel : Nat) (self : SelfT)

theorem body_scalar (k : Scalar) : Gen.Ssa6.size_sizeof_body fuel self (some (.scalar k)) = some (k.size : Int) := by
  cases k <;> rfl

theorem body_opaque (k : Opaque) : Gen.Ssa6.size_sizeof_body fuel self (some (.opaque k)) = none := by
  cases k <;> rfl

theorem body_ptr_nil : Gen.Ssa6.size_sizeof_body fuel self (some (.ptr none)) = some 8 := rfl

theorem body_ptr (p : RVal) :
    Gen.Ssa6.size_sizeof_body fuel self (some (.ptr (some p))) = (self (some p)).bind fun t => some (addI64 t 8) := rfl

/-- `p = none`: `Elem()` of a nil interface is the zero Value -/
theorem body_iface (p : Option RVal) :
    Gen.Ssa6.size_sizeof_body fuel self (some (.iface p)) = (self p).bind fun t => some (addI64 t 16) := rfl

theorem body_str (n : Nat) :
    Gen.Ssa6.size_sizeof_body fuel self (some (.str n))
      = Gen.Ssa6.size_sizeof_loop17 fuel self (some (.str n)) (n : Int) (fun t3 => some (addI64 t3 16)) fuel (0 : Nat) (0 : Nat) := rfl

theorem body_arr (es : List RVal) :
    Gen.Ssa6.size_sizeof_body fuel self (some (.arr es))
      = Gen.Ssa6.size_sizeof_loop13 fuel self (some (.arr es)) (es.length : Int) (fun t3 => some t3) fuel (0 : Nat) (0 : Nat) := rfl

theorem body_slice (es : List RVal) :
    Gen.Ssa6.size_sizeof_body fuel self (some (.slice es))
      = Gen.Ssa6.size_sizeof_loop13 fuel self (some (.slice es)) (es.length : Int) (fun t3 => some (addI64 t3 24)) fuel (0 : Nat) (0 : Nat) :=
  rfl

theorem body_struct (es : List RVal) :
    Gen.Ssa6.size_sizeof_body fuel self (some (.struct es))
      = Gen.Ssa6.size_sizeof_loop27 fuel self (some (.struct es)) (es.length : Int) (fun t3 => some t3) fuel (0 : Nat) (0 : Nat) := rfl

theorem body_map (ps : List (RVal × RVal)) :
    Gen.Ssa6.size_sizeof_body fuel self (some (.map ps))
      = Gen.Ssa6.size_sizeof_loop8 fuel self (some (.map ps)) (fun t3 => some (addI64 t3 8)) fuel (0 : Nat) ⟨none, ps, false⟩ := rfl

theorem rec_succ (d : Nat) (v : Value) :
    Gen.Ssa6.size_sizeof_rec fuel (d + 1) v = Gen.Ssa6.size_sizeof_body fuel (Gen.Ssa6.size_sizeof_rec fuel d) v := rfl

theorem rec_invalid (d : Nat) : Gen.Ssa6.size_sizeof_rec fuel (d + 1) none = some 0 := rfl

/-- the header size `c` added after a loop over the contents (`k` is the literal of the code) -/
theorem bind_add_header {o : Option Nat} {c : Nat} (k : Int) (hk : k = (c : Int))
    (h : ∀ a, o = some a → a + c < 9223372036854775808) :
    (o.bind fun s => some (addI64 ((0 + s : Nat) : Int) k)) = (o.map (· + c)).map Int.ofNat := by
  subst hk
  cases o with
  | none => rfl
  | some a =>
    rw [Option.bind_some, Nat.zero_add, addI64_ofNat (h a rfl)]
    rfl

theorem bind_no_header (o : Option Nat) : (o.bind fun s => some ((0 + s : Nat) : Int)) = o.map Int.ofNat := by
  cases o with
  | none => rfl
  | some a => rw [Option.bind_some, Nat.zero_add]; rfl

theorem map_add_header {o : Option Nat} {c : Nat} (k : Int) (hk : k = (c : Int))
    (h : ∀ a, o = some a → a + c < 9223372036854775808) :
    ((o.map Int.ofNat).bind fun t => some (addI64 t k)) = (o.map (· + c)).map Int.ofNat := by
  subst hk
  cases o with
  | none => rfl
  | some a => exact congrArg some (addI64_ofNat (h a rfl))

/-- an array / slice / struct with elements `es`: the hypotheses of `rec_eq` pass to the elements, so the loop over
    them (`Lp`, with the step equation of `loop13` / `loop27`) follows the model when `self` does at depth `d` -/
theorem elems_case (self : SelfT) (get : Int → Option Value) (es : List RVal) (blk3 : Int → Option Int)
    (Lp : Nat → Int → Int → Option Int)
    (hLp : ∀ g acc j, Lp (g + 1) acc j =
      if decide (j < (es.length : Int)) = true then
        Option.bind (get j) fun x => Option.bind (self x) fun s => Lp g (addI64 acc s) (addI64 j 1)
      else blk3 acc)
    (hidx : ∀ i : Nat, get (i : Int) = (es[i]?).map some) (d : Nat)
    (hrec : ∀ e, depth e ≤ d → width e ≤ fuel → width e ≤ 9223372036854775808 →
      structSize (erase e) < 9223372036854775808 → SelfOK self e)
    (hd : 1 + depthList es ≤ d + 1) (hw : max (es.length + 1) (widthList es) ≤ fuel)
    (hl : max (es.length + 1) (widthList es) ≤ 9223372036854775808)
    (hs : structSizeList (eraseList es) < 9223372036854775808) :
    Lp fuel ((0 : Nat) : Int) ((0 : Nat) : Int) = (sizeOfList (eraseList es)).bind fun s => blk3 ((0 + s : Nat) : Int) :=
  elems_loop self get es blk3 Lp hLp hidx
    (fun e he =>
      hrec e (Nat.le_trans (depth_le_of_mem es e he) (by omega))
        (Nat.le_trans (width_le_of_mem es e he) (Nat.le_trans (Nat.le_max_right _ _) hw))
        (Nat.le_trans (width_le_of_mem es e he) (Nat.le_trans (Nat.le_max_right _ _) hl))
        (Nat.lt_of_le_of_lt (structSize_le_of_mem es e he) hs))
    (by omega) es 0 fuel 0 rfl (by omega) (by omega)

theorem pairs_selfOK (self : SelfT) (ps : List (RVal × RVal)) (d : Nat)
    (hrec : ∀ e, depth e ≤ d → width e ≤ fuel → width e ≤ 9223372036854775808 →
      structSize (erase e) < 9223372036854775808 → SelfOK self e)
    (hd : 1 + depthPairs ps ≤ d + 1) (hw : max (ps.length + 1) (widthPairs ps) ≤ fuel)
    (hl : max (ps.length + 1) (widthPairs ps) ≤ 9223372036854775808)
    (hs : structSizePairs (erasePairs ps) < 9223372036854775808) :
    ∀ p ∈ ps, SelfOK self p.1 ∧ SelfOK self p.2 := fun p hp => by
  have hdp : depthPairs ps ≤ d := by omega
  have hwp := Nat.le_trans (Nat.le_max_right _ _) hw
  have hlp := Nat.le_trans (Nat.le_max_right _ _) hl
  have h1 := depthPairs_le ps p hp
  have h2 := widthPairs_le ps p hp
  have h3 := structSizePairs_le ps p hp
  exact ⟨hrec p.1 (Nat.le_trans h1.1 hdp) (Nat.le_trans h2.1 hwp) (Nat.le_trans h2.1 hlp) (by omega),
    hrec p.2 (Nat.le_trans h1.2 hdp) (Nat.le_trans h2.2 hwp) (Nat.le_trans h2.2 hlp) (by omega)⟩

theorem rec_eq : ∀ (d : Nat) (v : RVal), depth v ≤ d → width v ≤ fuel → width v ≤ 9223372036854775808 →
    structSize (erase v) < 9223372036854775808 →
    Gen.Ssa6.size_sizeof_rec fuel d (some v) = (sizeOf (erase v)).map Int.ofNat
  | 0, v, hd, _, _, _ => by have := depth_pos v; omega
  | d+1, .scalar k, _, _, _, _ => by rw [rec_succ, body_scalar]; rfl
  | d+1, .opaque k, _, _, _, _ => by rw [rec_succ, body_opaque]; rfl
  | d+1, .ptr none, _, _, _, _ => by rw [rec_succ, body_ptr_nil]; rfl
  | d+1, .iface none, hd, _, _, _ => by
    obtain ⟨d', rfl⟩ : ∃ d', d = d' + 1 := ⟨d - 1, by simp only [depth] at hd; omega⟩
    rw [rec_succ, body_iface, rec_invalid]; rfl
  | d+1, .ptr (some p), hd, hw, hl, hs => by
    simp only [depth, width, erase, structSize] at hd hw hl hs
    rw [rec_succ, body_ptr, rec_eq d p (by omega) hw hl (by omega), erase, sizeOf]
    exact map_add_header 8 rfl fun a ha => by have := sizeOf_some _ _ ha; omega
  | d+1, .iface (some p), hd, hw, hl, hs => by
    simp only [depth, width, erase, structSize] at hd hw hl hs
    rw [rec_succ, body_iface, rec_eq d p (by omega) hw hl (by omega), erase, sizeOf]
    exact map_add_header 16 rfl fun a ha => by have := sizeOf_some _ _ ha; omega
  | d+1, .str n, hd, hw, hl, hs => by
    obtain ⟨d', rfl⟩ : ∃ d', d = d' + 1 := ⟨d - 1, by simp only [depth] at hd; omega⟩
    have hself : Gen.Ssa6.size_sizeof_rec fuel (d' + 1) (some (.scalar .uint8)) = some 1 := by
      rw [rec_succ, body_scalar]; rfl
    simp only [width, erase, structSize] at hw hl hs
    have e : addI64 ((0 + n : Nat) : Int) 16 = ((n + 16 : Nat) : Int) := by
      rw [Nat.zero_add]; exact addI64_ofNat (b := 16) (by omega)
    rw [rec_succ, body_str, loop17_eq fuel _ n _ hself (by omega) n 0 fuel 0 (by omega) (by omega) (by omega), e, erase,
      sizeOf]
    rfl
  | d+1, .arr es, hd, hw, hl, hs => by
    simp only [depth, width, erase, structSize] at hd hw hl hs
    rw [rec_succ, body_arr, elems_case fuel _ _ es _ (Gen.Ssa6.size_sizeof_loop13 fuel _ _ _ _) (fun _ _ _ => rfl)
      (fun i => by rw [GoSem6.index, index_ofNat]) d (rec_eq d) hd hw hl (by omega), erase, sizeOf]
    exact bind_no_header _
  | d+1, .slice es, hd, hw, hl, hs => by
    simp only [depth, width, erase, structSize] at hd hw hl hs
    rw [rec_succ, body_slice, elems_case fuel _ _ es _ (Gen.Ssa6.size_sizeof_loop13 fuel _ _ _ _) (fun _ _ _ => rfl)
      (fun i => by rw [GoSem6.index, index_ofNat]) d (rec_eq d) hd hw hl (by omega), erase, sizeOf]
    exact bind_add_header 24 rfl fun a ha => by have := sizeOfList_some _ _ ha; omega
  | d+1, .struct es, hd, hw, hl, hs => by
    simp only [depth, width, erase, structSize] at hd hw hl hs
    rw [rec_succ, body_struct, elems_case fuel _ _ es _ (Gen.Ssa6.size_sizeof_loop27 fuel _ _ _ _) (fun _ _ _ => rfl)
      (fun i => by rw [GoSem6.field, index_ofNat]) d (rec_eq d) hd hw hl (by omega), erase, sizeOf]
    exact bind_no_header _
  | d+1, .map ps, hd, hw, hl, hs => by
    simp only [depth, width, erase, structSize] at hd hw hl hs
    rw [rec_succ, body_map, loop8_eq fuel _ _ _ ps none false fuel 0 (fun h => by cases h)
      (pairs_selfOK fuel _ ps d (rec_eq d) hd hw hl (by omega)) (by omega) (by omega), erase, sizeOf]
    exact bind_add_header 8 rfl fun a ha => by have := sizeOfPairs_some _ _ ha; omega

/-- **Tie of `size.sizeof`**: on every value tree within the budgets and the `int` range, the regenerated definition
    equals the model's `sizeOf` of the erased tree (including `none` = panic "unknown kind" on chan / func /
    unsafe.Pointer anywhere in the tree). -/
theorem Tie_size_sizeof (fuel : Nat) (v : RVal) (hd : depth v ≤ fuel) (hw : width v ≤ fuel)
    (hl : width v ≤ 9223372036854775808) (hs : structSize (erase v) < 9223372036854775808) :
    Gen.Ssa6.size_sizeof fuel (some v) = (sizeOf (erase v)).map Int.ofNat := by
  exact rec_eq fuel fuel v hd hw hl hs

/-- the zero Value (`reflect.ValueOf(nil)`, the `Elem()` of a nil interface): `sizeof` returns 0 -/
theorem Tie_size_sizeof_invalid (fuel : Nat) (h : 1 ≤ fuel) : Gen.Ssa6.size_sizeof fuel none = some 0 := by
  obtain ⟨f, rfl⟩ : ∃ f, fuel = f + 1 := ⟨fuel - 1, by omega⟩
  exact rec_invalid (f + 1) f

end Low.Tie6
