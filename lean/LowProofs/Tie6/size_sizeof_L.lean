import Generated.Ssa6.size_sizeof
import LowProofs.Tie6.Defs
import LowProofs.Tie3.Lemmas
/-
  Loop lemmas for the tie of `size.sizeof` (see `size_sizeof.lean`): the four loops of the function as the translator
  emits them, each with an abstract `self` (the function at the remaining recursion depth) that is assumed to follow
  the model on the children, and an abstract continuation `blk3` (the second `switch`).
    * `loop8`  — the entries of a map, through the `reflect.MapIter` state;
    * `loop13` — the elements of a slice / array (`v.Index(i)`) and `loop27` — the fields of a struct (`v.Field(i)`):
      both are instances of `elems_loop`;
    * `loop17` — the bytes of a string (`v.Index(i)` is a uint8 Value).
  Sums are `Int` in the generated code, `Nat` in the model; `9223372036854775808 = 2^63` bounds them (Go's `int` would wrap).
-/
namespace Low.Tie6
open Low.GoSem Low.GoSem6 Low.Tie2L Low.Tie3L

abbrev SelfT := Value → Option Int

def SelfOK (self : SelfT) (e : RVal) : Prop := self (some e) = (sizeOf (erase e)).map Int.ofNat

/-- The loop over the elements of an array / slice (`loop13`, `get = v.Index`) or the fields of a struct (`loop27`,
    `get = v.Field`): `Lp` is any function with the one-step equation of the generated loop. -/
theorem elems_loop (self : SelfT) (get : Int → Option Value) (L : List RVal) (blk3 : Int → Option Int)
    (Lp : Nat → Int → Int → Option Int)
    (hLp : ∀ g acc j, Lp (g + 1) acc j =
      if decide (j < (L.length : Int)) = true then
        Option.bind (get j) fun x => Option.bind (self x) fun s => Lp g (addI64 acc s) (addI64 j 1)
      else blk3 acc)
    (hidx : ∀ i : Nat, get (i : Int) = (L[i]?).map some)
    (hself : ∀ e ∈ L, SelfOK self e) (hL : L.length < 9223372036854775808) :
    ∀ (es : List RVal) (j gas acc : Nat), es = L.drop j → es.length + 1 ≤ gas →
      acc + structSizeList (eraseList es) < 9223372036854775808 →
      Lp gas (acc : Int) (j : Int) = (sizeOfList (eraseList es)).bind (fun s => blk3 ((acc + s : Nat) : Int))
  | [], j, gas, acc, hd, hg, hb => by
    obtain ⟨g, rfl, -⟩ := gas_pos hg
    have hj : L.length ≤ j := drop_eq_nil_le hd
    have hn : ¬ (j < L.length) := by omega
    rw [hLp]
    simp [eraseList, sizeOfList, hn]
  | e :: rest, j, gas, acc, hd, hg, hb => by
    obtain ⟨g, rfl, -⟩ := gas_pos hg
    have hj : j < L.length := drop_eq_cons_lt hd
    have ht : L[j]? = some e := getElem?_of_drop_eq_cons hd
    have hmem : e ∈ L := List.mem_of_getElem? ht
    have e1 : addI64 (j : Int) 1 = ((j + 1 : Nat) : Int) := addI64_one_ofNat (by omega)
    have hse : self (some e) = (sizeOf (erase e)).map Int.ofNat := hself e hmem
    rw [eraseList, structSizeList] at hb
    rw [hLp]
    simp only [Int.ofNat_lt, hj, decide_true, ↓reduceIte, hidx, ht, Option.map_some, Option.bind_some, hse]
    cases hs : sizeOf (erase e) with
    | none => simp [eraseList, sizeOfList_cons_none hs]
    | some a =>
      have ha := sizeOf_some _ _ hs
      have e2 : addI64 (acc : Int) (a : Int) = ((acc + a : Nat) : Int) := addI64_ofNat (by omega)
      have ih := elems_loop self get L blk3 Lp hLp hidx hself hL rest (j + 1) g (acc + a) (drop_succ_of_drop_eq_cons hd)
        (by simp at hg; omega) (by omega)
      simp only [Option.map_some, Option.bind_some, Int.ofNat_eq_natCast, e2, e1]
      rw [ih, eraseList, sizeOfList_cons_some hs]
      cases sizeOfList (eraseList rest) <;> simp [Nat.add_assoc]

/-- the bytes of a string of length `n`: `k` of them are left, each costs 1 -/
theorem loop17_eq (fuel : Nat) (self : SelfT) (n : Nat) (blk3 : Int → Option Int)
    (hself : self (some (.scalar .uint8)) = some 1) (hn : n < 9223372036854775808) :
    ∀ (k j gas acc : Nat), j + k = n → k + 1 ≤ gas → acc + k < 9223372036854775808 →
      Gen.Ssa6.size_sizeof_loop17 fuel self (some (.str n)) (n : Int) blk3 gas (acc : Int) (j : Int)
        = blk3 ((acc + k : Nat) : Int)
  | 0, j, gas, acc, hj, hg, hb => by
    obtain ⟨g, rfl, -⟩ := gas_pos hg
    have hn' : ¬ (j < n) := by omega
    rw [Gen.Ssa6.size_sizeof_loop17]
    simp [hn']
  | k+1, j, gas, acc, hj, hg, hb => by
    obtain ⟨g, rfl, -⟩ := gas_pos hg
    have hj' : j < n := by omega
    have e1 : addI64 (j : Int) 1 = ((j + 1 : Nat) : Int) := addI64_one_ofNat (by omega)
    have e2 : addI64 (acc : Int) 1 = ((acc + 1 : Nat) : Int) := addI64_one_ofNat (by omega)
    have hi : GoSem6.index (some (.str n)) (j : Int) = some (some (.scalar .uint8)) := by
      simp [GoSem6.index, hj']
    have ih := loop17_eq fuel self n blk3 hself hn k (j + 1) g (acc + 1) (by omega) (by omega) (by omega)
    rw [Gen.Ssa6.size_sizeof_loop17]
    simp only [Int.ofNat_lt, hj', decide_true, ↓reduceIte, hi, Option.bind_some, hself, e1, e2]
    rw [ih, show acc + 1 + k = acc + (k + 1) by omega]

/-- the entries of a map: the iterator stands on `cur`, `rest` is still to come -/
theorem loop8_eq (fuel : Nat) (self : SelfT) (v : Value) (blk3 : Int → Option Int) :
    ∀ (rest : List (RVal × RVal)) (cur : Option (RVal × RVal)) (st : Bool) (gas acc : Nat),
      (st = true → cur.isSome = true) → (∀ p ∈ rest, SelfOK self p.1 ∧ SelfOK self p.2) → rest.length + 1 ≤ gas →
      acc + structSizePairs (erasePairs rest) < 9223372036854775808 →
      Gen.Ssa6.size_sizeof_loop8 fuel self v blk3 gas (acc : Int) ⟨cur, rest, st⟩
        = (sizeOfPairs (erasePairs rest)).bind (fun s => blk3 ((acc + s : Nat) : Int))
  | [], cur, st, gas, acc, hinv, hself, hg, hb => by
    obtain ⟨g, rfl, -⟩ := gas_pos hg
    have hc : (st && cur.isNone) = false := by
      cases st <;> cases cur <;> simp at hinv ⊢
    rw [Gen.Ssa6.size_sizeof_loop8]
    simp [MapIter.next, hc, erasePairs, sizeOfPairs]
  | (k, x) :: r, cur, st, gas, acc, hinv, hself, hg, hb => by
    obtain ⟨g, rfl, -⟩ := gas_pos hg
    have hc : (st && cur.isNone) = false := by
      cases st <;> cases cur <;> simp at hinv ⊢
    have hk : self (some k) = (sizeOf (erase k)).map Int.ofNat := (hself (k, x) (by simp)).1
    have hx : self (some x) = (sizeOf (erase x)).map Int.ofNat := (hself (k, x) (by simp)).2
    rw [erasePairs, structSizePairs] at hb
    rw [Gen.Ssa6.size_sizeof_loop8]
    simp only [MapIter.next, hc, Bool.false_eq_true, ↓reduceIte, Option.bind_some, MapIter.key, MapIter.value,
      Option.map_some, hk, hx]
    cases hs1 : sizeOf (erase k) with
    | none => simp [erasePairs, sizeOfPairs, hs1]
    | some a =>
      have ha := sizeOf_some _ _ hs1
      have e1 : addI64 (acc : Int) (a : Int) = ((acc + a : Nat) : Int) := addI64_ofNat (by omega)
      cases hs2 : sizeOf (erase x) with
      | none => simp [erasePairs, sizeOfPairs, hs1, hs2]
      | some b =>
        have hb' := sizeOf_some _ _ hs2
        have e2 : addI64 ((acc + a : Nat) : Int) (b : Int) = ((acc + a + b : Nat) : Int) :=
          addI64_ofNat (by omega)
        have ih := loop8_eq fuel self v blk3 r (some (k, x)) true g (acc + a + b) (by simp)
          (fun p hp => hself p (List.mem_cons_of_mem _ hp)) (by simp at hg; omega) (by omega)
        simp only [Option.map_some, Option.bind_some, Int.ofNat_eq_natCast, e1, e2]
        rw [ih, erasePairs, sizeOfPairs, hs1, hs2]
        cases sizeOfPairs (erasePairs r) <;> simp [Nat.add_assoc]

end Low.Tie6
