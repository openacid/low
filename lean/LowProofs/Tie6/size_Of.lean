import Generated.Ssa6.size_Of
import LowProofs.Tie6.size_sizeof
/-
  TIE: the definition regenerated from the SSA form of `size.Of` (size/sizeof.go) equals the hand-written model
  `Low.sizeOfTop` (LowModel/SizeOf.lean): `nil` costs 0, any other argument is measured by `sizeof(reflect.ValueOf(data))`.
  The argument `data interface{}` is `GoSem6.Iface = Option RVal` (`none` = the nil interface); the model takes the erased
  tree.  Domain: as for `Tie_size_sizeof` (budgets `depth`, `width`; lengths and the sum fit an `int`).
-/
namespace Low.Tie6
open Low.GoSem6

/-- **Tie of `size.Of`** for a non-nil argument. -/
theorem Tie_size_Of (fuel : Nat) (v : RVal) (hd : depth v ≤ fuel) (hw : width v ≤ fuel)
    (hl : width v ≤ 9223372036854775808) (hs : structSize (erase v) < 9223372036854775808) :
    Gen.Ssa6.size_Of fuel (some v) = (sizeOfTop (some (erase v))).map Int.ofNat := by
  rw [Gen.Ssa6.size_Of]
  simp only [ifaceIsNil, Option.isNone_some, Bool.false_eq_true, ↓reduceIte, valueOf, Tie_size_sizeof fuel v hd hw hl hs,
    sizeOfTop]
  cases sizeOf (erase v) <;> rfl

/-- **Tie of `size.Of`** for the nil interface: 0, for every `fuel`. -/
theorem Tie_size_Of_nil (fuel : Nat) : Gen.Ssa6.size_Of fuel none = (sizeOfTop none).map Int.ofNat := by
  rw [Gen.Ssa6.size_Of]; simp [ifaceIsNil, sizeOfTop]

/-- both cases in one statement: the argument as the model sees it is `data.map erase` -/
theorem Tie_size_Of_all (fuel : Nat) (data : Iface)
    (h : ∀ v, data = some v → depth v ≤ fuel ∧ width v ≤ fuel ∧ width v ≤ 9223372036854775808 ∧
      structSize (erase v) < 9223372036854775808) :
    Gen.Ssa6.size_Of fuel data = (sizeOfTop (data.map erase)).map Int.ofNat := by
  cases data with
  | none => exact Tie_size_Of_nil fuel
  | some v => obtain ⟨h1, h2, h3, h4⟩ := h v rfl; exact Tie_size_Of fuel v h1 h2 h3 h4

end Low.Tie6
