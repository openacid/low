import LowProofs.E2E.C03Strict
import LowProofs.Tie3.bmtree_Decode
/-
  C04 end to end: `C04_allPaths` (+ `_all`), `C04_decode(_nodes)`, `C04_roundtrip(_paths)` stated
  PURELY about definitions REGENERATED from the go/ssa form of `bmtree.AllPaths` and `bmtree.Decode`
  (`Generated/Ssa3/bmtree_*.lean`; nested loops are recursion on `fuel`, `Decode` calls the regenerated `AllPaths` and
  `PathToIndex`, release build).  No model function occurs in the statements: only generated code and the
  specifications `storedPaths`, `preorder`, `encPath`, `preIdx`, `bitAt`.
  As in `E2E/C03Strict.lean`, "`h` is the height of the tree with level bitmap `T`" is the input condition
  `2^h ≤ T < 2^(h+1)`, `h ≤ 30` (`E2E_C03_height`: this is what the code of `Height` computes).
  (`C04_sorted`, `C04_storedPaths_mem` are about the specification alone; `C04_decode_debug_safe` is about the contract
  closures of the `debug` build, which the release-build SSA does not contain.)
-/
namespace Low
open Low.C03L

/-- `C04_allPaths` on generated code.  The code of `AllPaths(T, from, to)` (regenerated from its SSA form), for every
    level bitmap `T` of height `h ≤ 30`, ANY `uint64` bounds `from`, `to` (they need not be path words) and EVERY
    `fuel ≥ 2^h + 32`: terminates, does not panic and returns exactly the stored path words `p` with `from ≤ p < to`, in
    pre-order.
    Hypotheses: `2^h ≤ T`, `T < 2^(h+1)`, `h ≤ 30`, `frm < 2^64`, `to < 2^64`, `2^h + 32 ≤ fuel`. -/
theorem E2E_C04_allPaths (T h frm to fuel : Nat) (h1 : 2^h ≤ T) (h2 : T < 2^(h+1)) (h30 : h ≤ 30)
    (hfrm : frm < 2^64) (hto : to < 2^64) (hfuel : 2^h + 32 ≤ fuel) :
    Gen.Ssa3.bmtree_AllPaths fuel (T : Int) frm to
      = some ((storedPaths T h).filter (fun p => decide (frm ≤ p ∧ p < to))) := by
  obtain ⟨a, b⟩ := E2EL.c03dom h1 h2 h30
  have hh := height_of_range h1 h2 h30
  rw [Tie_bmtree_AllPaths' T frm to fuel a b hfrm hto (by rw [hh, Int.toNat_natCast]; exact hfuel),
    C04_allPaths T h frm to a b hh hto]

/-- the same with the exact fuel bound: the number of values of the high half the outer loop visits,
    `min (to>>32 + 1) 2^h - from>>32`, plus 32. -/
theorem E2E_C04_allPaths_tight (T h frm to fuel : Nat) (h1 : 2^h ≤ T) (h2 : T < 2^(h+1)) (h30 : h ≤ 30)
    (hfrm : frm < 2^64) (hto : to < 2^64) (hfuel : (min (to >>> 32 + 1) (2^h) - frm >>> 32) + 32 ≤ fuel) :
    Gen.Ssa3.bmtree_AllPaths fuel (T : Int) frm to
      = some ((storedPaths T h).filter (fun p => decide (frm ≤ p ∧ p < to))) := by
  obtain ⟨a, b⟩ := E2EL.c03dom h1 h2 h30
  have hh := height_of_range h1 h2 h30
  have e : add64 (to >>> 32) 1 = to >>> 32 + 1 := by
    unfold add64 M64; omega
  rw [Tie_bmtree_AllPaths T frm to fuel a b hfrm hto (by rw [hh, Int.toNat_natCast, e]; exact hfuel),
    C04_allPaths T h frm to a b hh hto]

/-- the reading of `E2E_C04_allPaths`: the list the code of `AllPaths` returns is strictly ascending (no duplicates),
    and its members are exactly the path words `encPath h n` of the nodes `n` of depth `≤ h` on a stored level
    (`T.testBit n.length`) that lie in `[from, to)`. -/
theorem E2E_C04_allPaths_spec (T h frm to fuel : Nat) (h1 : 2^h ≤ T) (h2 : T < 2^(h+1)) (h30 : h ≤ 30)
    (hfrm : frm < 2^64) (hto : to < 2^64) (hfuel : 2^h + 32 ≤ fuel) :
    ∃ ps, Gen.Ssa3.bmtree_AllPaths fuel (T : Int) frm to = some ps ∧ ps.Pairwise (· < ·) ∧
      ∀ p, p ∈ ps ↔
        (∃ n : List Bool, n.length ≤ h ∧ T.testBit n.length = true ∧ p = encPath h n) ∧ frm ≤ p ∧ p < to := by
  obtain ⟨a, b⟩ := E2EL.c03dom h1 h2 h30
  have hh := height_of_range h1 h2 h30
  refine ⟨_, E2E_C04_allPaths T h frm to fuel h1 h2 h30 hfrm hto hfuel, (C04_sorted T h a b hh).filter _, ?_⟩
  intro p
  rw [List.mem_filter, C04_storedPaths_mem, decide_eq_true_eq]

/-- the full range (`Decode` calls `AllPaths(T, 0, 2^63)`): every stored path word, in pre-order. -/
theorem E2E_C04_allPaths_all (T h to fuel : Nat) (h1 : 2^h ≤ T) (h2 : T < 2^(h+1)) (h30 : h ≤ 30)
    (hto : to < 2^64) (hto' : 2^62 ≤ to) (hfuel : 2^h + 32 ≤ fuel) :
    Gen.Ssa3.bmtree_AllPaths fuel (T : Int) 0 to = some (storedPaths T h) := by
  obtain ⟨a, b⟩ := E2EL.c03dom h1 h2 h30
  have hh := height_of_range h1 h2 h30
  rw [Tie_bmtree_AllPaths' T 0 to fuel a b (by decide) hto (by rw [hh, Int.toNat_natCast]; exact hfuel),
    C04_allPaths_all T h to a b hh hto hto']

/-- `C04_decode` on generated code.  The code of `Decode(T, bm)` (regenerated from its SSA form), for every level bitmap
    `T` of height `h ≤ 30`, ANY bitmap `bm` of fewer than `2^31` words (too short, even empty, or with garbage at and
    beyond bit `T`) and EVERY `fuel ≥ T + 32`: terminates, does not panic and returns, in pre-order, exactly the path
    words of the stored nodes `n` whose pre-order index bit `preIdx T 0 n` is 1 in `bm` (`bitAt` reads 0 beyond the
    words of `bm`).
    Hypotheses: `2^h ≤ T`, `T < 2^(h+1)`, `h ≤ 30`, `bm.length < 2^31`, `T + 32 ≤ fuel`. -/
theorem E2E_C04_decode (T h : Nat) (bm : List Nat) (fuel : Nat) (h1 : 2^h ≤ T) (h2 : T < 2^(h+1)) (h30 : h ≤ 30)
    (hbm : bm.length < 2^31) (hfuel : T + 32 ≤ fuel) :
    Gen.Ssa3.bmtree_Decode fuel (T : Int) bm
      = some (((preorder T h 0 []).filter (fun n => bitAt bm (preIdx T 0 n))).map (encPath h)) := by
  obtain ⟨a, b⟩ := E2EL.c03dom h1 h2 h30
  rw [Tie_bmtree_Decode T bm fuel a b hbm hfuel, C04_decode_nodes T h bm a b (height_of_range h1 h2 h30)]

/-- the result of the code of `Decode` is strictly ascending -/
theorem E2E_C04_decode_ascending (T h : Nat) (bm : List Nat) (fuel : Nat) (h1 : 2^h ≤ T) (h2 : T < 2^(h+1))
    (h30 : h ≤ 30) (hbm : bm.length < 2^31) (hfuel : T + 32 ≤ fuel) :
    ∃ ps, Gen.Ssa3.bmtree_Decode fuel (T : Int) bm = some ps ∧ ps.Pairwise (· < ·) := by
  obtain ⟨a, b⟩ := E2EL.c03dom h1 h2 h30
  exact ⟨_, Tie_bmtree_Decode T bm fuel a b hbm hfuel, C04_decode_ascending T h bm a b (height_of_range h1 h2 h30)⟩

/-- `C04_roundtrip` on generated code: encode-then-decode is the identity on sets of stored nodes.  For a set `S` of
    stored nodes (a sub-list of the pre-order enumeration) and ANY bitmap `bm` of fewer than `2^31` words whose bits
    below `T` are exactly `{preIdx(n) | n ∈ S}` (bits at or beyond `T`, and the number of words, are arbitrary), the code
    of `Decode` returns exactly the path words of `S`, in order.
    Hypotheses: `2^h ≤ T`, `T < 2^(h+1)`, `h ≤ 30`, `S.Sublist (preorder T h 0 [])`, the bit condition,
    `bm.length < 2^31`, `T + 32 ≤ fuel`. -/
theorem E2E_C04_roundtrip (T h : Nat) (S : List (List Bool)) (bm : List Nat) (fuel : Nat) (h1 : 2^h ≤ T)
    (h2 : T < 2^(h+1)) (h30 : h ≤ 30) (hS : S.Sublist (preorder T h 0 []))
    (hbits : ∀ i, i < T → (bitAt bm i = true ↔ ∃ n, n ∈ S ∧ preIdx T 0 n = i))
    (hbm : bm.length < 2^31) (hfuel : T + 32 ≤ fuel) :
    Gen.Ssa3.bmtree_Decode fuel (T : Int) bm = some (S.map (encPath h)) := by
  obtain ⟨a, b⟩ := E2EL.c03dom h1 h2 h30
  rw [Tie_bmtree_Decode T bm fuel a b hbm hfuel, C04_roundtrip T h S bm a b (height_of_range h1 h2 h30) hS hbits]

/-- `C04_roundtrip_paths` on generated code, with the bits named through the CODE of `PathToIndex` (what a Go caller
    does: `bm[PathToIndex(T, p)] = 1` for each `p` of the set): for a sub-list `P` of the stored path words and ANY
    bitmap `bm` whose bits below `T` are exactly the indexes the code of `PathToIndex` (regenerated, `fuel' ≥ 33`)
    returns for the members of `P`, the code of `Decode` returns exactly `P`.
    Hypotheses: as `E2E_C04_roundtrip`, with `P.Sublist (storedPaths T h)` and `33 ≤ fuel'`. -/
theorem E2E_C04_roundtrip_paths (T h : Nat) (P : List Nat) (bm : List Nat) (fuel fuel' : Nat) (h1 : 2^h ≤ T)
    (h2 : T < 2^(h+1)) (h30 : h ≤ 30) (hP : P.Sublist (storedPaths T h)) (hfuel' : 33 ≤ fuel')
    (hbits : ∀ i, i < T → (bitAt bm i = true ↔
      ∃ p, p ∈ P ∧ Gen.Ssa2.bmtree_PathToIndex fuel' (T : Int) p = some (i : Int)))
    (hbm : bm.length < 2^31) (hfuel : T + 32 ≤ fuel) :
    Gen.Ssa3.bmtree_Decode fuel (T : Int) bm = some P := by
  obtain ⟨a, b⟩ := E2EL.c03dom h1 h2 h30
  have hlt : ∀ p ∈ P, p < 2^64 := by
    intro p hp
    obtain ⟨n, hn, _, rfl⟩ := (C04_storedPaths_mem T h p).mp (hP.subset hp)
    exact encPath_lt64 h30 hn
  rw [Tie_bmtree_Decode T bm fuel a b hbm hfuel,
    C04_roundtrip_paths T h P bm a b (height_of_range h1 h2 h30) hP ?_]
  intro i hi
  rw [hbits i hi]
  constructor
  · rintro ⟨p, hp, e⟩
    rw [Tie_bmtree_PathToIndex T p fuel' a b (hlt p hp) hfuel'] at e
    exact ⟨p, hp, Option.some.inj e⟩
  · rintro ⟨p, hp, e⟩
    exact ⟨p, hp, by rw [Tie_bmtree_PathToIndex T p fuel' a b (hlt p hp) hfuel', e]⟩

/-! non-vacuity: `T = 5` (root + 4 leaves, height 2) and `T = 0x72` (height 6), on the generated code -/
example : Gen.Ssa3.bmtree_AllPaths 36 5 0x100000001 0x200000004 = some [0x100000003, 0x200000003] := by decide +kernel
example : Gen.Ssa3.bmtree_AllPaths 36 5 0 (2^63) = some [0, 0x3, 0x100000003, 0x200000003, 0x300000003] := by
  decide +kernel
example : Gen.Ssa3.bmtree_Decode 37 5 [0xffffffffffffffe0 + 0b10101, 0xffff] = some [0, 0x100000003, 0x300000003] := by
  decide +kernel
example : Gen.Ssa3.bmtree_Decode 37 5 [] = some [] := by decide +kernel
example : Gen.Ssa3.bmtree_AllPaths 96 ((0x72 : Nat) : Int) 0x500000000 0x900000031
    = some ((storedPaths 0x72 6).filter (fun p => decide (0x500000000 ≤ p ∧ p < 0x900000031))) :=
  E2E_C04_allPaths 0x72 6 _ _ 96 (by decide +kernel) (by decide +kernel) (by decide +kernel) (by decide +kernel) (by decide +kernel) (by decide +kernel)
example : Gen.Ssa3.bmtree_Decode 37 ((5 : Nat) : Int) [0b10101] = some ([[], [false, true], [true, true]].map (encPath 2)) :=
  E2E_C04_roundtrip 5 2 [[], [false, true], [true, true]] [0b10101] 37 (by decide +kernel) (by decide +kernel) (by decide +kernel)
    (by decide +kernel) (by decide +kernel) (by decide +kernel) (by decide +kernel)

end Low
