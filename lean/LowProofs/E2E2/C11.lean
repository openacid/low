import LowProofs.E2E.C11
import LowProofs.Tie3.bmtree_PathsOf
/-
  C11 end to end: `C11_pathsOf` stated PURELY about the definition REGENERATED from the go/ssa form of
  `bmtree.PathsOf` (`Generated/Ssa3/bmtree_PathsOf.lean`, see DESIGN section 8, D4; the loop is recursion on `fuel`,
  the result slice is a functional list, the calls go to the regenerated `PathOf` / `FromStr32`).  No model function
  occurs in the statement: only generated code and the specifications `encPath`, `bitsBE`, `adjDedup` (`Props/C11.lean`).
  (`PathStr` is in `E2E7/C10.lean`.)
-/
namespace Low

/-- SPEC (`C11_pathOf`): the path word of height `h` of the node spelled by bits `[frm, frm+k)` of `s`,
    `k = min (8|s| - frm) h` -/
def pathOfSpec (frm h : Nat) (s : List Nat) : Nat :=
  encPath h (((bitsBE s).drop frm).take (min (8 * s.length - frm) h))

/-- `C11_pathsOf` on generated code.  The code of `PathsOf(keys, frombit, height, dedup)` (regenerated from its SSA
    form), for byte-string keys shorter than `2^28` bytes, `height ≤ 32`, `frombit + height + 7` an `int32`, and EVERY
    `fuel ≥ len(keys) + 1`: terminates, does not panic and returns the path word (`pathOfSpec`) of every key, in order,
    and, when `dedup`, drops every path equal to its predecessor (the first is always kept -- also when it is the
    all-ones word the unrepaired loop used as its sentinel).
    Hypotheses: `∀ k ∈ keys, BytesOK k`, `∀ k ∈ keys, k.length < 2^28`, `h ≤ 32`, `f + h + 7 < 2^31`,
    `keys.length < 2^63` (a Go length fits an `int`), `keys.length + 1 ≤ fuel`. -/
theorem E2E_C11_pathsOf (keys : List (List Nat)) (f h : Nat) (dedup : Bool) (fuel : Nat)
    (hok : ∀ k ∈ keys, BytesOK k) (hlen : ∀ k ∈ keys, k.length < 2^28) (hh : h ≤ 32) (hf : f + h + 7 < 2^31)
    (hkeys : keys.length < 2^63) (hfuel : keys.length + 1 ≤ fuel) :
    Gen.Ssa3.bmtree_PathsOf fuel keys (f : Int) (h : Int) dedup
      = some (if dedup then adjDedup (keys.map (pathOfSpec f h)) else keys.map (pathOfSpec f h)) := by
  have e : keys.map (fun s => pathOf s f h) = keys.map (pathOfSpec f h) :=
    List.map_congr_left (fun s hs => C11_pathOf (hok s hs) f h hh)
  rw [Tie_bmtree_PathsOf keys f h dedup fuel hh hf hkeys hlen hok hfuel, C11_pathsOf, e]

/-! non-vacuity: duplicates, a key that differs only beyond the window, and the case the unrepaired loop got wrong -/
example : Gen.Ssa3.bmtree_PathsOf 6 [[0x61], [0x61, 0x00], [0x62], [0x62], [0x61]] 0 8 true
    = some [0x61000000ff, 0x62000000ff, 0x61000000ff] := by decide +kernel
example : Gen.Ssa3.bmtree_PathsOf 4 [[0x61], [0x61, 0x00], [0x62]] 0 8 false
    = some [0x61000000ff, 0x61000000ff, 0x62000000ff] := by decide +kernel
example : Gen.Ssa3.bmtree_PathsOf 2 [[0xff, 0xff, 0xff, 0xff]] 0 32 true = some [0xffffffffffffffff] := by decide +kernel
example : adjDedup ([[0x61], [0x61, 0x00], [0x62], [0x62], [0x61]].map (pathOfSpec 0 8))
    = [0x61000000ff, 0x62000000ff, 0x61000000ff] := by decide +kernel

end Low
