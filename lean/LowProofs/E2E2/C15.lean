import LowProofs.E2E2.Lemmas
import LowProofs.Tie3.bitmap_TailBitmap_Set
import LowProofs.Tie3.bitmap_TailBitmap_Get
import LowProofs.Tie3.bitmap_TailBitmap_Get1
/-
  C15 end to end: the clauses `C15_get1`, `C15_get`, `C15_covers`, `C15_offset`, `C15_firstWord`, `C15_wordsOK`,
  `C15_compact` of `Props/C15.lean` stated about histories executed through the definitions REGENERATED from
  the go/ssa form of the methods `(*TailBitmap).Set`, `Compact`, `Get`, `Get1` (`Generated/Ssa3/bitmap_TailBitmap_*.lean`;
  loops are recursion on `fuel`, `Set` calls the regenerated `Compact`, the package variable `reclaimThreshold` is the
  argument `thr`).

  Shapes.  The generated `Set` / `Compact` take the receiver's fields `Offset`, `Words`, `reclaimed` (a `TailBitmap` record
  here is just these three values) and return their new values (`none` = panic or out of fuel); `Get` / `Get1` take the
  fields and the index.  `genTbStep` / `genTbRun` execute one operation / a whole history through the GENERATED methods;
  `genGet` / `genGet1` query a state through the generated `Get` / `Get1`.  The histories here start from the literal
  `newTailBitmap o` (`Offset = reclaimed = o`, no words); `E2E7/C15.lean` starts them from the generated `NewTailBitmap`.
  In the conclusions of the history theorems only the runner (generated code), the specification `mem` (abstract set:
  everything below the initial offset plus every index set) and `tbEnd` occur.

  Domain, on the INPUTS only (`TbBounds`): the initial offset `o` is a multiple of 64 and an int64; every index ever set
  is below a multiple of 64 `U ≥ o` with `U + 64 < 2^63` and `U + 64 - o < 2^63` (e.g. `|o|, |i| < 2^61`, `U = 2^61`; or
  `o ≥ 0` and `i < U = 2^62`); `fuel ≥ (U - o)/64 + 3` (the words never number more than `(U - o)/64`; the tie of `Set` asks for
  `max (words needed) (words present) + 2`, at least 3).  Queried indices are
  int64 values.  The ties' hypotheses for every intermediate receiver (`Offset` an int64, `idx - Offset`, the end of the
  words and `Offset - reclaimed` fitting an int64, the fuel) are PROVED along the history from the range invariant
  `TbDom` (`E2E2/Lemmas.lean`): `o ≤ reclaimed ≤ Offset` and `end of the words ≤ U`.
-/
namespace Low
open Low.C15L Low.E2E2L

/-- one mutating operation executed by the GENERATED method on the receiver `tb`; `none` = panic / out of fuel -/
def genTbStep (fuel : Nat) (thr : Int) (tb : TailBitmap) : TbOp → Option TailBitmap
  | .set i => (Gen.Ssa3.bitmap_TailBitmap_Set fuel tb.offset tb.words tb.reclaimed i thr).map
      (fun r => ⟨r.1, r.2.1, r.2.2⟩)
  | .compact => (Gen.Ssa3.bitmap_TailBitmap_Compact fuel tb.offset tb.words tb.reclaimed thr).map
      (fun r => ⟨r.1, r.2.1, r.2.2⟩)

/-- a history executed by the GENERATED methods, left to right; `none` as soon as a call panics -/
def genTbRun (fuel : Nat) (thr : Int) (tb : TailBitmap) : List TbOp → Option TailBitmap
  | [] => some tb
  | op :: rest =>
    match genTbStep fuel thr tb op with
    | none => none
    | some tb' => genTbRun fuel thr tb' rest

/-- `Get1(j)` / `Get(j)` answered by the GENERATED methods on the receiver `tb` -/
def genGet1 (tb : TailBitmap) (j : Int) : Option Nat :=
  Gen.Ssa3.bitmap_TailBitmap_Get1 tb.offset tb.words tb.reclaimed j
def genGet (tb : TailBitmap) (j : Int) : Option Nat :=
  Gen.Ssa3.bitmap_TailBitmap_Get tb.offset tb.words tb.reclaimed j

/-- the hypotheses about the inputs: initial offset `o`, bound `U` above every index set, fuel -/
structure TbBounds (o U : Int) (fuel : Nat) : Prop where
  ho : (64 : Int) ∣ o
  hU : (64 : Int) ∣ U
  hoU : o ≤ U
  hlo : -2^63 ≤ o
  hhi : U + 64 < 2^63
  hw : U + 64 - o < 2^63
  hfuel : (U - o).toNat / 64 + 3 ≤ fuel

/-- `Set` / `Compact`, ONE step on generated code.  From a receiver `tb` satisfying the representation invariant `Inv S`
    (w.r.t. any abstract set `S`) and the range invariant `TbDom o U`, for an operation whose index (if it is a `Set`) is
    below `U`: the generated method does not panic, terminates within the fuel, and returns exactly the fields of the
    model step `tbStep thr tb op`; the range invariant holds again.  (That `Inv` holds again, w.r.t. `S ∪ {i}`, is
    `C15_inv_step` / `set_spec` / `compact_spec`.)  `thr` is arbitrary. -/
theorem E2E_C15_step (thr o U : Int) (fuel : Nat) (hb : TbBounds o U fuel) {S : Int → Prop} (tb : TailBitmap)
    (op : TbOp) (hinv : Inv S tb) (hdom : TbDom o U tb) (hop : ∀ i, op = .set i → i < U) :
    genTbStep fuel thr tb op = some (tbStep thr tb op) ∧ TbDom o U (tbStep thr tb op) := by
  obtain ⟨h1, h2, h3, h4⟩ := i64_of_range hb.hlo hb.hhi hb.hw hdom.rlo hdom.rhi hdom.endU
  have hmax : (((max tb.words.length 1 : Nat) : Int)) ≤ (tb.words.length : Int) + 1 := by omega
  cases op with
  | set i =>
    have hi := hop i rfl
    have hw := hb.hw
    have holo := hdom.olo
    refine ⟨?_, dom_set thr i hdom hinv.pre.dvd hb.hU hi⟩
    rw [genTbStep, Tie_bitmap_TailBitmap_Set tb thr i fuel h1 (by omega) (by omega) h3 (by omega)
      (fuel_set_of_range hb.hfuel hdom.olo hdom.endU hi)]
    rfl
  | compact =>
    have hf := fuel_of_range hb.hfuel hdom.olo hdom.endU
    refine ⟨?_, (dom_compact thr hdom).1⟩
    rw [genTbStep, Tie_bitmap_TailBitmap_Compact tb thr fuel h1 (by omega) h3 (by omega) (by omega)]
    rfl

/-- `Get` / `Get1` on generated code, ONE query.  On a receiver satisfying `Inv S` and `TbDom o U`, for every int64 index
    `j` below the end of the stored words: the generated `Get1` returns 1 exactly when `j ∈ S`, the generated `Get`
    returns that bit at position `j mod 64`; neither panics.  At or beyond the end both panic (`none`). -/
theorem E2E_C15_query (o U : Int) (fuel : Nat) (hb : TbBounds o U fuel) {S : Int → Prop} (tb : TailBitmap)
    (hinv : Inv S tb) (hdom : TbDom o U tb) (j : Int) [Decidable (S j)] (hj1 : -2^63 ≤ j) (hj2 : j < 2^63) :
    (j < tbEnd tb → genGet1 tb j = some (if S j then 1 else 0) ∧
      genGet tb j = some (if S j then 2 ^ (j % 64).toNat else 0)) ∧
    (tbEnd tb ≤ j → genGet1 tb j = none ∧ genGet tb j = none) := by
  obtain ⟨h1, h2, _, _⟩ := i64_of_range hb.hlo hb.hhi hb.hw hdom.rlo hdom.rhi hdom.endU
  have hl := hdom.len
  have hw := hb.hw
  have e1 : genGet1 tb j = tb.get1 j :=
    Tie_bitmap_TailBitmap_Get1 tb j hj1 hj2 h1 (by omega) (by omega)
  have e2 : genGet tb j = tb.get j :=
    Tie_bitmap_TailBitmap_Get tb j hj1 hj2 h1 (by omega) (by omega)
  rw [e1, e2]
  refine ⟨fun hj => ⟨get1_spec hinv.pre j hj, get_spec hinv.pre j hj⟩, fun hj => ?_⟩
  have := get_oob (tb := tb) (j := j) hj
  exact ⟨this.2, this.1⟩

/-- the run through the generated methods equals the model run on the domain, and both invariants hold at its end -/
theorem genTbRun_eq (thr o U : Int) (fuel : Nat) (hb : TbBounds o U fuel) :
    ∀ (ops ops0 : List TbOp) (tb : TailBitmap), Inv (mem o ops0) tb → TbDom o U tb →
    (∀ i, TbOp.set i ∈ ops → i < U) →
    genTbRun fuel thr tb ops = some (tbRun thr tb ops) ∧ Inv (mem o (ops0 ++ ops)) (tbRun thr tb ops) ∧
      TbDom o U (tbRun thr tb ops) ∧ tb.offset ≤ (tbRun thr tb ops).offset
  | [], ops0, tb, hinv, hdom, _ => by
    refine ⟨rfl, ?_, hdom, Int.le_refl _⟩
    simpa [tbRun] using hinv
  | op :: rest, ops0, tb, hinv, hdom, hops => by
    obtain ⟨h1, h2⟩ := E2E_C15_step thr o U fuel hb tb op hinv hdom
      (fun i hi => hops i (by rw [hi]; exact List.mem_cons_self))
    obtain ⟨h3, h4⟩ := C15_inv_step thr o ops0 tb op hinv
    obtain ⟨r1, r2, r3, r4⟩ := genTbRun_eq thr o U fuel hb rest (ops0 ++ [op]) _ h3 h2
      (fun i hi => hops i (List.mem_cons_of_mem _ hi))
    rw [List.append_assoc, List.singleton_append] at r2
    refine ⟨?_, r2, r3, Int.le_trans h4 r4⟩
    simp only [genTbRun, h1, r1]
    rfl

theorem inv_new_mem {o : Int} (ho : (64 : Int) ∣ o) : Inv (mem o []) (newTailBitmap o) :=
  (inv_new ho).congr (by intro j; simp [mem])

/-- C15 on generated code, the main statement.  For ANY history `ops` of `Set` / `Compact` calls executed by the
    GENERATED methods from `NewTailBitmap(o)`, any reclaim threshold `thr`, on the input domain `TbBounds o U fuel` with
    every index set below `U`:  no call panics or runs out of fuel, and in the final receiver `tb`
    * (`C15_get1`, `C15_get`) for every int64 index `j` below the end of the stored words the generated `Get1(j)` returns
      1 exactly when `j < o` or `j` has been set, and the generated `Get(j)` returns that bit at position `j mod 64`,
      without panic; at or beyond the end both panic;
    * (`C15_covers`) every index ever set lies below the end of the stored words, so every `j` up to the highest index
      ever set is answered;
    * (`C15_offset`) `Offset` is a multiple of 64, at least `o`, and everything below it is a member;
    * (`C15_firstWord`, `C15_wordsOK`) the first stored word is not all-ones, all words are `uint64`;
    * the end of the stored words does not exceed `U`. -/
theorem E2E_C15_history (thr o U : Int) (fuel : Nat) (hb : TbBounds o U fuel) (ops : List TbOp)
    (hops : ∀ i, TbOp.set i ∈ ops → i < U) :
    ∃ tb, genTbRun fuel thr (newTailBitmap o) ops = some tb ∧
      (∀ j, -2^63 ≤ j → j < 2^63 →
        (j < tbEnd tb → genGet1 tb j = some (if mem o ops j then 1 else 0) ∧
          genGet tb j = some (if mem o ops j then 2 ^ (j % 64).toNat else 0)) ∧
        (tbEnd tb ≤ j → genGet1 tb j = none ∧ genGet tb j = none)) ∧
      (∀ i, TbOp.set i ∈ ops → i < tbEnd tb) ∧
      (64 : Int) ∣ tb.offset ∧ o ≤ tb.offset ∧ (∀ j, j < tb.offset → mem o ops j) ∧
      tb.words.head? ≠ some allOnes64 ∧ WordsOK tb.words ∧ tbEnd tb ≤ U := by
  obtain ⟨r1, r2, r3, r4⟩ := genTbRun_eq thr o U fuel hb ops [] (newTailBitmap o) (inv_new_mem hb.ho)
    (dom_new hb.hoU) hops
  rw [List.nil_append] at r2
  refine ⟨_, r1, fun j hj1 hj2 => E2E_C15_query o U fuel hb _ r2 r3 j hj1 hj2,
    fun i hi => r2.pre.covers i (Or.inr hi), r2.pre.dvd, r4, r2.pre.below, r2.head, r2.pre.ok, r3.endU⟩

/-- `C15_offset`, monotonicity, on generated code: under any continuation `ops'` of a history (both within the domain),
    run by the generated methods from the state the generated methods reached, `Offset` never decreases; and running
    the continuation from that state is running the concatenated history. -/
theorem E2E_C15_offset_mono (thr o U : Int) (fuel : Nat) (hb : TbBounds o U fuel) (ops ops' : List TbOp)
    (hops : ∀ i, TbOp.set i ∈ ops ++ ops' → i < U) :
    ∃ tb tb', genTbRun fuel thr (newTailBitmap o) ops = some tb ∧ genTbRun fuel thr tb ops' = some tb' ∧
      genTbRun fuel thr (newTailBitmap o) (ops ++ ops') = some tb' ∧ tb.offset ≤ tb'.offset := by
  obtain ⟨r1, r2, r3, _⟩ := genTbRun_eq thr o U fuel hb ops [] (newTailBitmap o) (inv_new_mem hb.ho)
    (dom_new hb.hoU) (fun i hi => hops i (List.mem_append_left _ hi))
  obtain ⟨s1, _, _, s4⟩ := genTbRun_eq thr o U fuel hb ops' ops _ r2 r3
    (fun i hi => hops i (List.mem_append_right _ hi))
  obtain ⟨t1, _⟩ := genTbRun_eq thr o U fuel hb (ops ++ ops') [] (newTailBitmap o) (inv_new_mem hb.ho)
    (dom_new hb.hoU) hops
  refine ⟨_, _, r1, s1, ?_, s4⟩
  rw [t1, tbRun_append]

/-- `C15_compact` on generated code: after any history run by the generated methods, one more generated `Compact` -- with
    ANY threshold `thr'`, also one different from the history's -- does not panic, keeps the end of the stored words and
    changes no `Get` / `Get1` answer of the generated query methods, at any int64 index (inside: same bit; at or beyond the
    end: both panic before and after). -/
theorem E2E_C15_compact (thr thr' o U : Int) (fuel : Nat) (hb : TbBounds o U fuel) (ops : List TbOp)
    (hops : ∀ i, TbOp.set i ∈ ops → i < U) :
    ∃ tb tb', genTbRun fuel thr (newTailBitmap o) ops = some tb ∧ genTbStep fuel thr' tb .compact = some tb' ∧
      tbEnd tb' = tbEnd tb ∧ tb.offset ≤ tb'.offset ∧
      ∀ j, -2^63 ≤ j → j < 2^63 → genGet1 tb' j = genGet1 tb j ∧ genGet tb' j = genGet tb j := by
  obtain ⟨r1, r2, r3, _⟩ := genTbRun_eq thr o U fuel hb ops [] (newTailBitmap o) (inv_new_mem hb.ho)
    (dom_new hb.hoU) hops
  rw [List.nil_append] at r2
  obtain ⟨s1, s2⟩ := E2E_C15_step thr' o U fuel hb _ .compact r2 r3 (fun i hi => by cases hi)
  obtain ⟨c1, c2, c3⟩ := dom_compact thr' r3
  have hinv' : Inv (mem o ops) ((tbRun thr (newTailBitmap o) ops).compact thr') := (compact_spec thr' r2.pre).1
  refine ⟨_, _, r1, s1, c3, c2, ?_⟩
  intro j hj1 hj2
  have q := E2E_C15_query o U fuel hb _ r2 r3 j hj1 hj2
  have q' := E2E_C15_query o U fuel hb _ hinv' c1 j hj1 hj2
  simp only [tbStep] at *
  by_cases hj : j < tbEnd (tbRun thr (newTailBitmap o) ops)
  · obtain ⟨a1, a2⟩ := q.1 hj
    obtain ⟨b1, b2⟩ := q'.1 (by rw [c3]; exact hj)
    rw [a1, a2, b1, b2]; exact ⟨rfl, rfl⟩
  · obtain ⟨a1, a2⟩ := q.2 (by omega)
    obtain ⟨b1, b2⟩ := q'.2 (by rw [c3]; omega)
    rw [a1, a2, b1, b2]; exact ⟨rfl, rfl⟩

/-- the simple input domain `|o| < 2^61`, indices `< 2^61`, with the uniform bound `U = 2^61`: a corollary for readers who
    do not want to choose `U` (the fuel bound `(2^61 - o)/64 + 3` is then far larger than any real history needs; choose a
    tight `U` in `E2E_C15_history` for a tight one). -/
theorem E2E_C15_bounds_simple (o : Int) (fuel : Nat) (ho : (64 : Int) ∣ o) (h1 : -2^61 < o) (h2 : o < 2^61)
    (hfuel : (2^61 - o).toNat / 64 + 3 ≤ fuel) : TbBounds o (2^61) fuel :=
  ⟨ho, ⟨2^55, by decide⟩, by omega, by omega, by omega, by omega, hfuel⟩

/-! ### non-vacuity: the history of `Props/C15.lean` (fills the first word out of order so that `Set` compacts, sets below
    the offset, repeats, crosses a 2-word reclaim threshold) run through the GENERATED methods -/

example : TbBounds 128 512 9 := ⟨by decide +kernel, by decide +kernel, by decide +kernel, by decide +kernel, by decide +kernel, by decide +kernel, by decide +kernel⟩
example : ∀ i, TbOp.set i ∈ C15_demoOps → i < 512 := by
  intro i hi
  simp only [C15_demoOps, List.mem_append, List.mem_map, List.mem_reverse, List.mem_range, List.mem_cons,
    TbOp.set.injEq, List.not_mem_nil, or_false, reduceCtorEq, false_or] at hi
  rcases hi with ⟨k, hk, rfl⟩ | hi
  · omega
  · omega
/-- the receiver the generated methods reach on the demonstration history, evaluated once -/
theorem genTbRun_demo : genTbRun 9 128 (newTailBitmap 128) C15_demoOps = some ⟨192, [257, 0, 0, 0, 4], 128⟩ := by
  decide +kernel

example : (genTbRun 9 128 (newTailBitmap 128) C15_demoOps).map (fun tb => (tb.offset, tb.words.length, tb.reclaimed))
    = some (192, 5, 128) := by
  rw [genTbRun_demo]
  rfl
example : (genTbRun 9 128 (newTailBitmap 128) C15_demoOps).bind (fun tb => genGet1 tb 200) = some 1 := by
  rw [genTbRun_demo]
  decide +kernel
example : (genTbRun 9 128 (newTailBitmap 128) C15_demoOps).bind (fun tb => genGet1 tb 201) = some 0 := by
  rw [genTbRun_demo]
  decide +kernel
example : (genTbRun 9 128 (newTailBitmap 128) C15_demoOps).bind (fun tb => genGet tb 450) = some (2 ^ 2) := by
  rw [genTbRun_demo]
  decide +kernel
example : (genTbRun 9 128 (newTailBitmap 128) C15_demoOps).bind (fun tb => genGet1 tb (-3)) = some 1 := by
  rw [genTbRun_demo]
  decide +kernel
example : (genTbRun 9 128 (newTailBitmap 128) C15_demoOps).bind (fun tb => genGet1 tb 512) = none := by
  rw [genTbRun_demo]
  decide +kernel
-- out of fuel: 5 words need more than 3 loop visits
example : genTbRun 3 128 (newTailBitmap 128) C15_demoOps = none := by decide +kernel

end Low
