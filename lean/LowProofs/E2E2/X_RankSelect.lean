import LowProofs.E2E2.C02
import LowProofs.E2E.C01
/-!
  Select followed by Rank, on regenerated code only.  This theorem spans the functions of two properties
  (C02: Select32 / IndexSelect32, C01: Rank64 / IndexRank64).  It is deliberately registered for NEITHER check:
  a change to `Rank64` must not make the C02 check fail (C02 still holds then), nor a change to `Select32` the C01
  check.  It is built by `setup.sh`.
-/
namespace Low
open Low.E2EL

/-- `C02_rank_select` needs no code: for `i` below the number of 1-bits, `rank ws (ones ws)[i] = i` and the bit there
    is set.  With `E2E_C01_rank64_bind` it says, on generated code only: `Rank64` at the position `Select32` returned
    gives back `(i, 1)`. -/
theorem E2E_C02_rank_select (ws : List Nat) (opts : List Bool) (fuelS fuelR fuel' i : Nat) (hlen : ws.length < 2^25)
    (hok : WordsOK ws) (hfuelS : 64 * ws.length + 1 ≤ fuelS) (hfuelR : ws.length + 1 ≤ fuelR)
    (hfuel' : ws.length + 1 ≤ fuel') (hi : i < (ones ws).length) :
    ∃ sidx ridx p nxt, Gen.Ssa3.bitmap_IndexSelect32 fuelS ws = some sidx ∧
      Gen.Ssa3.bitmap_IndexRank64 fuelR ws opts = some ridx ∧
      Gen.Ssa2.bitmap_Select32 fuel' ws sidx (i : Int) = some (p, nxt) ∧
      Gen.Ssa.bitmap_Rank64 ws ridx p = some ((i : Int), 1) := by
  obtain ⟨sidx, hs, hq⟩ := E2E_C02_select32_full ws fuelS hlen hok hfuelS
  obtain ⟨h1, h2⟩ := C02_rank_select ws i hi
  have hp := ones_mem_lt (List.getElem_mem hi)
  refine ⟨sidx, _, _, _, hs, Tie_bitmap_IndexRank64 ws opts fuelR hlen hfuelR, hq i fuel' hi hfuel', ?_⟩
  rw [E2E_C01_rank64 ws _ _ hlen hp, h1, h2]
  rfl

end Low
