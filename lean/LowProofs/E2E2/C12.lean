import LowProofs.E2E.C12
import LowProofs.E2E.Lemmas
import LowProofs.Tie3.bitmap_OfMany
import LowProofs.Tie3.bitmap_ToArray
/-
  C12 end to end (construction clauses): `C12_of`, `C12_toArray`, `C12_rt1`, `C12_rt2`, `C12_ofMany`
  stated PURELY about definitions REGENERATED from the go/ssa form of `bitmap.Of`, `bitmap.ToArray`, `bitmap.OfMany`
  (`Generated/Ssa3/*.lean`; loops are recursion on `fuel`, the slices the functions allocate are functional lists).
  No model function occurs in the statements: only generated code, the specifications `bitAt`, `ones`, `WordsOK`
  and (for `OfMany`) the specification `shiftedConcat` of `Props/C12.lean`.
  The Builder clauses are in `E2E2/C12Builder.lean`.

  Domain.  Positions are Go `int32` values.  The code computes `last + 1` and `(n + 63) >> 6` in `int32`, so the ties
  need every position `< 2^31 - 64` and the optional size `≤ 2^31 - 64` (beyond that the Go code panics or wraps; the
  bitmap would have `2^25` words, outside `BmDom`); these are hypotheses about the INPUTS.  `len(ps) < 2^63` (a Go
  length) cannot be derived from the positions because duplicates are allowed.
-/
namespace Low
open Low.C12L

/-- the number of words of a bitmap for positions `< 2^31 - 64` and a size `≤ 2^31 - 64` is below `2^25` (`BmDom`) -/
private theorem ofLen_lt (ps : List Int) (nOpt : Option Int) (hps : ∀ p ∈ ps, p < 2^31 - 64)
    (hn : ∀ n, nOpt = some n → n ≤ 2^31 - 64) : ofLen ps nOpt < 2^25 := by
  have h1 : lastEnd ps ≤ 2^31 - 64 := by
    unfold lastEnd
    cases hl : ps.getLast? with
    | none => simp
    | some l => have := hps l (List.mem_of_getLast? hl); simp only; omega
  have h2 : nOpt.getD 0 ≤ 2^31 - 64 := by
    cases nOpt with
    | none => simp
    | some n => exact hn n rfl
  unfold ofLen
  omega

/-- `C12_of` on generated code.  The code of `Of(ps, opts...)` (regenerated from its SSA form), for ascending
    (duplicates allowed) non-negative `int32` positions, all `< 2^31 - 64`, any optional size `opts[0] ≤ 2^31 - 64`
    (negative, smaller or larger than last+1; further options are ignored), and EVERY `fuel ≥ len(ps) + 1`:
    terminates, does not panic, and returns `ceil(max(n, last+1, 0)/64)` words -- fewer than `2^25` --, all `uint64`,
    in which exactly the listed bits are 1.
    Hypotheses: `ps.Pairwise (· ≤ ·)`, `∀ p ∈ ps, 0 ≤ p`, `∀ p ∈ ps, p < 2^31 - 64`, `opts[0] ≤ 2^31 - 64` if present,
    `ps.length < 2^63`, `ps.length + 1 ≤ fuel`. -/
theorem E2E_C12_of (ps opts : List Int) (fuel : Nat) (hs : ps.Pairwise (· ≤ ·)) (h0 : ∀ p ∈ ps, 0 ≤ p)
    (hps : ∀ p ∈ ps, p < 2^31 - 64) (hopts : ∀ n, opts.head? = some n → n ≤ 2^31 - 64) (hlen : ps.length < 2^63)
    (hfuel : ps.length + 1 ≤ fuel) :
    ∃ ws, Gen.Ssa3.bitmap_Of fuel ps opts = some ws ∧
      ws.length = ((max (max (opts.head?.getD 0) (match ps.getLast? with | none => 0 | some l => l + 1)) 0 + 63)
        / 64).toNat ∧
      ws.length < 2^25 ∧ WordsOK ws ∧ ∀ i : Nat, (bitAt ws i = true ↔ (i : Int) ∈ ps) := by
  rw [Tie_bitmap_Of ps opts fuel hlen (fun l hl => hps l (List.mem_of_getLast? hl))
    (fun n hn => by have := hopts n hn; omega) hfuel]
  obtain ⟨ws, h1, h2, h3, h4⟩ := bmOf_spec ps opts.head? hs h0
  refine ⟨ws, h1, h2, ?_, h3, h4⟩
  rw [h2]
  exact ofLen_lt ps _ hps hopts

/-- `C12_toArray` on generated code.  The code of `ToArray(ws)` (regenerated from its SSA form), for a bitmap of fewer
    than `2^25` words (`BmDom`) and EVERY `fuel ≥ 64*len + 1`: terminates, does not panic, and returns exactly the set
    bits in ascending order: the list `ones ws`, whose members are the positions inside the bitmap holding a 1-bit,
    strictly ascending.
    Hypotheses: `ws.length < 2^25`, `64 * ws.length + 1 ≤ fuel`. -/
theorem E2E_C12_toArray (ws : List Nat) (fuel : Nat) (hlen : ws.length < 2^25) (hfuel : 64 * ws.length + 1 ≤ fuel) :
    Gen.Ssa3.bitmap_ToArray fuel ws = some ((ones ws).map Int.ofNat) ∧
    (∀ i, i ∈ ones ws ↔ (i < 64 * ws.length ∧ bitAt ws i = true)) ∧ (ones ws).Pairwise (· < ·) := by
  rw [Tie_bitmap_ToArray ws fuel hlen hfuel, (C12_toArray ws).1]
  exact ⟨rfl, (C12_toArray ws).2⟩

private theorem strict_length_le : ∀ (ps : List Int) (a b : Int), ps.Pairwise (· < ·) → (∀ p ∈ ps, a ≤ p ∧ p < b) →
    ps.length ≤ (b - a).toNat
  | [], _, _, _, _ => Nat.zero_le _
  | x :: xs, a, b, hs, hb => by
    rw [List.pairwise_cons] at hs
    have hx := hb x List.mem_cons_self
    have ih := strict_length_le xs (x + 1) b hs.2 (fun p hp => by
      have := hs.1 p hp
      have := hb p (List.mem_cons_of_mem _ hp)
      omega)
    simp only [List.length_cons]
    omega

/-- `C12_rt1` on generated code: `ToArray(Of(l, n?)) = l`.  For STRICTLY ascending non-negative positions `ps`, all
    `< 2^31 - 64`, any optional size `≤ 2^31 - 64`, every `fuel ≥ len(ps) + 1`: the code of `Of` returns a bitmap `ws`
    (no panic) of fewer than `2^25` words, and the code of `ToArray` run on THAT bitmap with any
    `fuel' ≥ 64 * len(ws) + 1` returns exactly `ps`.
    Hypotheses: `ps.Pairwise (· < ·)`, `∀ p ∈ ps, 0 ≤ p`, `∀ p ∈ ps, p < 2^31 - 64`, `opts[0] ≤ 2^31 - 64` if present,
    `ps.length + 1 ≤ fuel`.  (`len(ps) < 2^63`, needed by the tie, is proved: strictly ascending positions in
    `[0, 2^31)` are at most `2^31` many.) -/
theorem E2E_C12_rt1 (ps opts : List Int) (fuel : Nat) (hs : ps.Pairwise (· < ·)) (h0 : ∀ p ∈ ps, 0 ≤ p)
    (hps : ∀ p ∈ ps, p < 2^31 - 64) (hopts : ∀ n, opts.head? = some n → n ≤ 2^31 - 64) (hfuel : ps.length + 1 ≤ fuel) :
    ∃ ws, Gen.Ssa3.bitmap_Of fuel ps opts = some ws ∧ ws.length < 2^25 ∧
      ∀ fuel', 64 * ws.length + 1 ≤ fuel' → Gen.Ssa3.bitmap_ToArray fuel' ws = some ps := by
  have hlen : ps.length < 2^63 := by
    have := strict_length_le ps 0 (2^31 - 64) hs (fun p hp => ⟨h0 p hp, hps p hp⟩)
    omega
  obtain ⟨ws, h1, _, h3, _, _⟩ := E2E_C12_of ps opts fuel (hs.imp (fun h => by omega)) h0 hps hopts hlen hfuel
  refine ⟨ws, h1, h3, ?_⟩
  intro fuel' hf
  obtain ⟨ws', e1, _, e3⟩ := C12_rt1 ps opts.head? hs h0
  rw [Tie_bitmap_Of ps opts fuel hlen (fun l hl => hps l (List.mem_of_getLast? hl))
    (fun n hn => by have := hopts n hn; omega) hfuel, e1] at h1
  cases h1
  rw [Tie_bitmap_ToArray ws fuel' h3 hf, e3]

/-- the same as one equation, with the uniform fuel bound `2^31` for `ToArray` (the bitmap has fewer than `2^25` words) -/
theorem E2E_C12_rt1_bind (ps opts : List Int) (fuel fuel' : Nat) (hs : ps.Pairwise (· < ·)) (h0 : ∀ p ∈ ps, 0 ≤ p)
    (hps : ∀ p ∈ ps, p < 2^31 - 64) (hopts : ∀ n, opts.head? = some n → n ≤ 2^31 - 64)
    (hfuel : ps.length + 1 ≤ fuel) (hfuel' : 2^31 ≤ fuel') :
    (Gen.Ssa3.bitmap_Of fuel ps opts).bind (Gen.Ssa3.bitmap_ToArray fuel') = some ps := by
  obtain ⟨ws, h1, h2, h3⟩ := E2E_C12_rt1 ps opts fuel hs h0 hps hopts hfuel
  rw [h1, Option.bind_some]
  exact h3 fuel' (by omega)

/-- `C12_rt2` on generated code: `Of(ToArray(b)) = b` up to trailing zero words.  For a bitmap `ws` of fewer than `2^25`
    words, `fuel ≥ 64*len + 1`: the code of `ToArray` returns a list `arr` (no panic); the code of `Of(arr)` run with any
    `fuel' ≥ len(arr) + 1` does not panic, and its result denotes the same set, is not longer than `ws`, does not end
    in a zero word, and (for `uint64` words) `ws` is that result followed by zero words only.
    Hypotheses: `ws.length < 2^25`, `64 * ws.length + 1 ≤ fuel`. -/
theorem E2E_C12_rt2 (ws : List Nat) (fuel : Nat) (hlen : ws.length < 2^25) (hfuel : 64 * ws.length + 1 ≤ fuel) :
    ∃ arr, Gen.Ssa3.bitmap_ToArray fuel ws = some arr ∧ arr.length ≤ 64 * ws.length ∧
      ∀ fuel', arr.length + 1 ≤ fuel' →
        ∃ ws', Gen.Ssa3.bitmap_Of fuel' arr [] = some ws' ∧ (∀ i, bitAt ws' i = bitAt ws i) ∧
          ws'.length ≤ ws.length ∧ ws'.getLast? ≠ some 0 ∧
          (WordsOK ws → ws = ws' ++ zeros (ws.length - ws'.length)) := by
  have hl : ((toArray ws).map Int.ofNat).length ≤ 64 * ws.length := by
    rw [List.length_map, toArray_eq_ones]; exact E2EL.ones_length_le ws
  refine ⟨_, Tie_bitmap_ToArray ws fuel hlen hfuel, hl, ?_⟩
  intro fuel' hf
  have hps : ∀ p ∈ (toArray ws).map Int.ofNat, p < 2^31 - 64 := by
    intro p hp
    obtain ⟨x, hx, rfl⟩ := List.mem_map.mp hp
    rw [toArray_eq_ones] at hx
    have := E2EL.ones_mem_lt hx
    simp only [Int.ofNat_eq_natCast]
    omega
  rw [Tie_bitmap_Of_all _ [] fuel' (by omega) hps (by intro n hn; cases hn) hf]
  exact C12_rt2 ws

/-- the `int32` hypotheses of the tie of `OfMany`, from bounds on the shifted positions and on the sum of the sizes -/
private theorem ofMany_dom (subs : List (List Int)) (sizes : List Int) (h : subs.length ≤ sizes.length)
    (h0 : ∀ p ∈ shiftedConcat subs sizes 0, 0 ≤ p) (hps : ∀ p ∈ shiftedConcat subs sizes 0, p < 2^31 - 64)
    (hsum : -2^31 ≤ (sizes.take subs.length).sum ∧ (sizes.take subs.length).sum ≤ 2^31 - 64) :
    ∀ r b, ofManyFlat subs sizes 0 = some (r, b) →
      (∀ x ∈ r, -2^31 ≤ x ∧ x < 2^31) ∧ (∀ l, r.getLast? = some l → l < 2^31 - 64) ∧ -2^31 ≤ b ∧ b < 2^31 - 63 := by
  intro r b hrb
  have hflat := ofManyFlat_eq subs sizes 0 h
  rw [Int.zero_add, hrb] at hflat
  cases hflat
  exact ⟨fun x hx => ⟨by have := h0 x hx; omega, by have := hps x hx; omega⟩,
    fun l hl => hps l (List.mem_of_getLast? hl), hsum.1, by omega⟩

/-- `C12_ofMany` on generated code.  When there is a size for every sub-list, the code of `OfMany(subs, sizes)`
    (regenerated from its SSA form; nested loops, then the inlined call of `Of`) on positions whose shifted
    concatenation `shiftedConcat subs sizes 0` (each sub-list rebased by the running sum of the preceding sizes) is
    ascending, non-negative and `< 2^31 - 64`, with total size `Σ sizes[0..len(subs))` an `int32` `≤ 2^31 - 64`:
    terminates for every `fuel ≥ max(len(subs), Σ len(subs[i])) + 1`, does not panic, and returns
    `ceil(max(Σ sizes, last+1, 0)/64)` `uint64` words in which exactly the bits of the shifted concatenation are 1.
    Hypotheses (inputs only): `subs.length ≤ sizes.length`; `Pairwise (· ≤ ·)`, `0 ≤ p`, `p < 2^31 - 64` for the shifted
    concatenation; `-2^31 ≤ Σ ≤ 2^31 - 64`; `subs.length < 2^63`, `Σ len(subs[i]) < 2^63`; the fuel bound. -/
theorem E2E_C12_ofMany (subs : List (List Int)) (sizes : List Int) (fuel : Nat) (h : subs.length ≤ sizes.length)
    (hs : (shiftedConcat subs sizes 0).Pairwise (· ≤ ·)) (h0 : ∀ p ∈ shiftedConcat subs sizes 0, 0 ≤ p)
    (hps : ∀ p ∈ shiftedConcat subs sizes 0, p < 2^31 - 64)
    (hsum : -2^31 ≤ (sizes.take subs.length).sum ∧ (sizes.take subs.length).sum ≤ 2^31 - 64)
    (hsl : subs.length < 2^63) (htot : (subs.map List.length).sum < 2^63)
    (hfuel : max subs.length (subs.map List.length).sum + 1 ≤ fuel) :
    ∃ ws, Gen.Ssa3.bitmap_OfMany fuel subs sizes = some ws ∧
      ws.length = ((max (max ((sizes.take subs.length).sum)
        (match (shiftedConcat subs sizes 0).getLast? with | none => 0 | some l => l + 1)) 0 + 63) / 64).toNat ∧
      ws.length < 2^25 ∧ WordsOK ws ∧ ∀ i : Nat, (bitAt ws i = true ↔ (i : Int) ∈ shiftedConcat subs sizes 0) := by
  rw [Tie_bitmap_OfMany subs sizes fuel hsl htot (ofMany_dom subs sizes h h0 hps hsum) hfuel]
  obtain ⟨ws, h1, h2, h3, h4⟩ := C12_ofMany_bits subs sizes h hs h0
  refine ⟨ws, h1, h2, ?_, h3, h4⟩
  rw [h2]
  exact ofLen_lt _ (some _) hps (fun n hn => by cases hn; exact hsum.2)

/-- `OfMany` is `Of` of the shifted concatenation with `n = Σ sizes` -- both sides generated code.  Same hypotheses as
    `E2E_C12_ofMany` except that the shifted concatenation need not be ascending (then both sides may panic, alike);
    `fuel'` is the fuel of the `Of` run (`≥ Σ len(subs[i]) + 1`). -/
theorem E2E_C12_ofMany_eq_of (subs : List (List Int)) (sizes : List Int) (fuel fuel' : Nat)
    (h : subs.length ≤ sizes.length) (h0 : ∀ p ∈ shiftedConcat subs sizes 0, 0 ≤ p)
    (hps : ∀ p ∈ shiftedConcat subs sizes 0, p < 2^31 - 64)
    (hsum : -2^31 ≤ (sizes.take subs.length).sum ∧ (sizes.take subs.length).sum ≤ 2^31 - 64)
    (hsl : subs.length < 2^63) (htot : (subs.map List.length).sum < 2^63)
    (hfuel : max subs.length (subs.map List.length).sum + 1 ≤ fuel)
    (hfuel' : (shiftedConcat subs sizes 0).length + 1 ≤ fuel') :
    Gen.Ssa3.bitmap_OfMany fuel subs sizes
      = Gen.Ssa3.bitmap_Of fuel' (shiftedConcat subs sizes 0) [(sizes.take subs.length).sum] := by
  have hl := length_shiftedConcat_le subs sizes 0
  rw [Tie_bitmap_OfMany subs sizes fuel hsl htot (ofMany_dom subs sizes h h0 hps hsum) hfuel,
    Tie_bitmap_Of_all _ _ fuel' (by omega) hps
      (by intro n hn; simp only [List.mem_singleton] at hn; subst hn; omega) hfuel',
    C12_ofMany subs sizes h]
  rfl

/-- with fewer sizes than sub-lists the code of `OfMany` panics (`sizes[i]` out of range), for any fuel that lets it
    get there. -/
theorem E2E_C12_ofMany_short (subs : List (List Int)) (sizes : List Int) (fuel : Nat)
    (h : sizes.length < subs.length) (hsl : subs.length < 2^63) (htot : (subs.map List.length).sum < 2^63)
    (hfuel : max subs.length (subs.map List.length).sum + 1 ≤ fuel) :
    Gen.Ssa3.bitmap_OfMany fuel subs sizes = none := by
  have hnone : ofMany subs sizes = none := C12_ofMany_short subs sizes h
  rw [Tie_bitmap_OfMany subs sizes fuel hsl htot ?_ hfuel, hnone]
  intro r b hrb
  simp only [ofMany] at hnone
  rw [ofManyFlat_short subs sizes 0 h] at hrb
  cases hrb

/-! non-vacuity: the generated code on concrete values, and instances of the theorems -/
example : Gen.Ssa3.bitmap_Of 6 [0, 63, 64, 65, 200] [-5] = some [2 ^ 63 + 1, 3, 0, 2 ^ 8] := by decide +kernel
example : Gen.Ssa3.bitmap_Of 1 [] [65] = some [0, 0] := by decide +kernel
set_option maxRecDepth 8000 in
example : Gen.Ssa3.bitmap_ToArray 257 [2 ^ 63 + 1, 3, 0, 2 ^ 8] = some [0, 63, 64, 65, 200] := by decide +kernel
set_option maxRecDepth 8000 in
example : (Gen.Ssa3.bitmap_Of 6 [0, 63, 64, 65, 200] [1]).bind (Gen.Ssa3.bitmap_ToArray 300)
    = some [0, 63, 64, 65, 200] := by decide +kernel
example : Gen.Ssa3.bitmap_OfMany 4 [[1, 70], [], [0]] [64, 0, 3, 9] = some [2, 2 ^ 6 + 1] := by decide +kernel
example : Gen.Ssa3.bitmap_OfMany 4 [[1], [2]] [64] = none := by decide +kernel
example := E2E_C12_of [0, 63, 64, 65, 200] [-5] 6 (by decide +kernel) (by decide +kernel) (by decide +kernel) (by decide +kernel) (by decide +kernel) (by decide +kernel)
example := E2E_C12_rt1 [0, 63, 64, 65, 200] [1000] 6 (by decide +kernel) (by decide +kernel) (by decide +kernel) (by decide +kernel) (by decide +kernel)
example := E2E_C12_ofMany [[1, 5], [], [0]] [64, 0, 3, 9] 4 (by decide +kernel) (by decide +kernel) (by decide +kernel)
  (by decide +kernel) (by decide +kernel) (by decide +kernel) (by decide +kernel) (by decide +kernel)

end Low
