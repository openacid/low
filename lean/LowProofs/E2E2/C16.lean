import LowProofs.Props.C16
import LowProofs.Tie3.sigbits_sFirstDiffBit
import LowProofs.Tie3.sigbits_FirstDiffBits
import LowProofs.Tie3.sigbits_countPrefixes
import LowProofs.Tie3.sigbits_SigBits_CountPrefixes
/-
  C16 end to end: `C16_sFirstDiffBit`, `C16_firstDiffBits`, `C16_count` stated PURELY about definitions REGENERATED from
  the go/ssa form of `sigbits.sFirstDiffBit`, `sigbits.FirstDiffBits`, `(*SigBits).CountPrefixes` (which calls the
  regenerated `countPrefixes`) (`Generated/Ssa3/sigbits_*.lean`; loops are recursion on `fuel`).  A `SigBits` receiver is
  passed field by field (`keys`, `sigbits`); the `sigbits` field the `CountPrefixes` theorem
  uses is the result of the GENERATED `FirstDiffBits` (what the constructor `New` stores: `E2E7/C16.lean`).  No model function
  occurs in the statements: only generated code and the specifications `fdSpec`, `truncBits`, `distinctCount`.

  Domain (DESIGN 3.1): keys shorter than `2^28` bytes (bit positions are `int32`), fewer than `2^31` keys (key indices
  are `int32`).
-/
namespace Low
open Low.C16L

private theorem fdSpec_le (a b : List Nat) : fdSpec a b ≤ 8 * a.length := by
  have := lcp_le_left (bitsBE a) (bitsBE b)
  rw [length_bitsBE] at this
  exact this

/-- `C16_sFirstDiffBit` on generated code.  The code of `sFirstDiffBit(a, b)` (regenerated from its SSA form), for byte
    strings shorter than `2^28` bytes and EVERY `fuel ≥ len(a)/8 + 2`: terminates, does not panic and returns the length
    of the longest common prefix of the two big-endian bit strings: the index of the first differing bit, or
    `8 * min len` when one key is a byte prefix of the other (`fdSpec`, see `C16_fdSpec_*` for its reading).
    Hypotheses: `BytesOK a`, `BytesOK b`, `a.length < 2^28`, `b.length < 2^28`, `a.length / 8 + 2 ≤ fuel`. -/
theorem E2E_C16_sFirstDiffBit (a b : List Nat) (fuel : Nat) (ha : BytesOK a) (hb : BytesOK b)
    (hla : a.length < 2^28) (hlb : b.length < 2^28) (hfuel : a.length / 8 + 2 ≤ fuel) :
    Gen.Ssa3.sigbits_sFirstDiffBit fuel a b = some ((fdSpec a b : Nat) : Int) := by
  rw [Tie_sigbits_sFirstDiffBit a b fuel ha hb hla hlb hfuel, C16_sFirstDiffBit a b ha hb]

/-- `C16_firstDiffBits` on generated code.  The code of `FirstDiffBits(keys)` (regenerated from its SSA form), for a
    non-empty list of byte strings, each shorter than `2^28` bytes, and EVERY `fuel` with `len(keys) ≤ fuel` and
    `len(k)/8 + 2 ≤ fuel` for every key: terminates, does not panic and returns one entry per adjacent pair, the first
    differing bit of the pair.
    Hypotheses: `keys ≠ []`, `∀ k ∈ keys, BytesOK k`, `∀ k ∈ keys, k.length < 2^28`, `keys.length < 2^63` (a Go length
    fits an `int`), the two fuel bounds. -/
theorem E2E_C16_firstDiffBits (keys : List (List Nat)) (fuel : Nat) (hne : keys ≠ []) (hok : ∀ k ∈ keys, BytesOK k)
    (hlen : ∀ k ∈ keys, k.length < 2^28) (hn : keys.length < 2^63) (hfuel1 : keys.length ≤ fuel)
    (hfuel2 : ∀ k ∈ keys, k.length / 8 + 2 ≤ fuel) :
    Gen.Ssa3.sigbits_FirstDiffBits fuel keys = some ((List.zipWith fdSpec keys keys.tail).map Int.ofNat) := by
  rw [Tie_sigbits_FirstDiffBits keys fuel hok hlen hn hfuel1 hfuel2, C16_firstDiffBits keys hne hok]
  rfl

/-- the empty key list makes the code of `FirstDiffBits` panic (`make([]int32, -1)`), whatever the fuel -/
theorem E2E_C16_firstDiffBits_nil (fuel : Nat) : Gen.Ssa3.sigbits_FirstDiffBits fuel [] = none := by
  rw [Tie_sigbits_FirstDiffBits [] fuel (by intro k hk; cases hk) (by intro k hk; cases hk) (by decide)
    (Nat.zero_le _) (by intro k hk; cases hk)]
  rfl

/-- `C16_count` on generated code.  For strictly ascending byte-string keys, each shorter than `2^28` bytes, fewer
    than `2^31` of them, a range `[s, e)` holding at least two keys and `1 ≤ m < 2^31`: the code of `FirstDiffBits(keys)`
    (regenerated; it computes the `sigbits` field `New(keys)` stores) returns `sig` without panic, and the code of
    `CountPrefixes(s, e, m)` (regenerated) on the receiver `(keys, sig)`, for EVERY `fuel' ≥ e + m`, terminates, does not
    panic and returns `(m0, cs)` where `m0` is the smallest first-difference value among the adjacent pairs of
    `keys[s:e]`, there are `m` counters, and the `i`-th is the number of distinct `(m0+i)`-bit prefixes of `keys[s:e]`
    (`truncBits n k` is the whole key when it has fewer than `n` bits).
    Hypotheses (inputs only): `strictAsc keys`, `∀ k ∈ keys, BytesOK k`, `∀ k ∈ keys, k.length < 2^28`,
    `keys.length < 2^31`, `s + 2 ≤ e`, `e ≤ keys.length`, `1 ≤ m`, `m < 2^31`, and the fuel bounds.  The ties'
    hypotheses (every first-difference value `< 2^31`, `e < 2^31`, `8*len(k) ≤ 0x7fffffff`) are proved from these. -/
theorem E2E_C16_count (keys : List (List Nat)) (s e : Nat) (m : Int) (fuel fuel' : Nat)
    (hasc : strictAsc keys = true) (hok : ∀ k ∈ keys, BytesOK k) (hlen : ∀ k ∈ keys, k.length < 2^28)
    (hn : keys.length < 2^31) (hse : s + 2 ≤ e) (he : e ≤ keys.length) (hm : 1 ≤ m) (hm' : m < 2^31)
    (hfuel1 : keys.length ≤ fuel) (hfuel2 : ∀ k ∈ keys, k.length / 8 + 2 ≤ fuel)
    (hfuel' : e + m.toNat ≤ fuel') :
    ∃ (sig : List Int) (m0 : Nat) (cs : List Nat),
      Gen.Ssa3.sigbits_FirstDiffBits fuel keys = some sig ∧
      Gen.Ssa3.sigbits_SigBits_CountPrefixes fuel' keys sig (s : Int) (e : Int) m
        = some ((m0 : Int), cs.map Int.ofNat) ∧
      m0 ∈ List.zipWith fdSpec ((keys.drop s).take (e - s)) ((keys.drop s).take (e - s)).tail ∧
      (∀ d ∈ List.zipWith fdSpec ((keys.drop s).take (e - s)) ((keys.drop s).take (e - s)).tail, m0 ≤ d) ∧
      cs.length = m.toNat ∧
      ∀ i, i < m.toNat →
        cs.getD i 0 = distinctCount (((keys.drop s).take (e - s)).map (truncBits (m0 + i))) := by
  have hne : keys ≠ [] := by intro h; rw [h] at he; simp at he; omega
  have hsig := C16_firstDiffBits keys hne hok
  obtain ⟨m0, cs, h1, h2, h3, h4, h5⟩ := C16_count keys s e m hasc hok
    (fun k hk => by have := hlen k hk; omega) hse he hm
  refine ⟨_, m0, cs, E2E_C16_firstDiffBits keys fuel hne hok hlen (by omega) hfuel1 hfuel2, ?_, h2, h3, h4, h5⟩
  have hfd : ∀ d ∈ List.zipWith fdSpec keys keys.tail, d < 2^31 := by
    intro d hd
    rw [← List.map_uncurry_zip_eq_zipWith, List.mem_map] at hd
    obtain ⟨⟨a, b⟩, hp, rfl⟩ := hd
    have h1 := fdSpec_le a b
    have h2 := hlen a (List.of_mem_zip hp).1
    show fdSpec a b < 2^31
    omega
  rw [Tie_sigbits_SigBits_CountPrefixes keys _ s e m fuel' hsig (by omega) hfd ⟨by omega, hm'⟩ hfuel', h1]
  rfl

/-! non-vacuity: the generated code on the key set of `Props/C16.lean` -/
example : Gen.Ssa3.sigbits_sFirstDiffBit 3 [1, 2, 3, 4, 5, 6, 7, 8, 0x10] [1, 2, 3, 4, 5, 6, 7, 8, 0x18, 3] = some 68 := by
  decide +kernel
example : Gen.Ssa3.sigbits_FirstDiffBits 4 [[97], [97, 0], [97, 1], [98]] = some [8, 15, 6] := by decide +kernel
example : (Gen.Ssa3.sigbits_FirstDiffBits 4 [[97], [97, 0], [97, 1], [98]]).bind
      (fun sig => Gen.Ssa3.sigbits_SigBits_CountPrefixes 16 [[97], [97, 0], [97, 1], [98]] sig 1 4 12)
    = some (6, [1, 2, 2, 2, 2, 2, 2, 2, 2, 2, 3, 3]) := by decide +kernel
example := E2E_C16_count [[97], [97, 0], [97, 1], [98]] 1 4 12 4 16 (by decide +kernel)
  (by intro k hk; simp at hk; rcases hk with h | h | h | h <;> subst h <;> unfold BytesOK <;> decide +kernel)
  (by decide +kernel) (by decide +kernel) (by decide +kernel) (by decide +kernel) (by decide +kernel) (by decide +kernel) (by decide +kernel) (by decide +kernel) (by decide +kernel)

end Low
