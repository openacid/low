import LowProofs.E2E.C14
import LowProofs.Tie3.bitmap_Join
import LowProofs.Tie3.bitmap_Slice
/-
  C14 end to end: `C14_join` and `C14_slice` stated PURELY about definitions REGENERATED from the go/ssa
  form of `bitmap.Join`, `bitmap.Slice` (`Generated/Ssa3/*.lean`; loops are recursion on `fuel`) and `bitmap.Getw`
  (`Generated/Ssa/bitmap_Getw.lean`), the latter called on the bitmap the GENERATED `Join` returned.  No model function
  occurs in the statements: only generated code and the specifications `bitAt`, `WordsOK`.
  (Composition of `Tie_bitmap_Join`, `Tie_bitmap_Slice_dom` and `E2E_C14_join_getw` of `E2E/C14.lean` with `C14_slice`.)
-/
namespace Low

/-- `C14_join` on generated code.  For a legal width `w ∈ {1,2,4,…,64}`, values `vs` (arbitrary naturals, possibly with
    bits above `w`) with `len(vs) * w < 2^31` (the code of `Getw` computes `i * w` in `int32`) and EVERY
    `fuel ≥ len(vs) + 1`: the code of `Join(vs, w)` (regenerated from its SSA form) terminates, does not panic and returns
    `ceil(len*w/64)` words, each a `uint64`; the code of `Getw` (regenerated) on THAT result returns, without panic, the low
    `w` bits of `vs[i]` for every index `i < len(vs)`; and no bit at or above `len*w` is set -- which together account
    for every bit of the result.
    Hypotheses: `w ∈ [1,2,4,8,16,32,64]`, `vs.length * w < 2^31`, `vs.length + 1 ≤ fuel`.  The ties' hypotheses
    `w ≤ 64`, `vs.length < 2^56`, `i * w < 2^31` are proved from these. -/
theorem E2E_C14_join (vs : List Nat) (w fuel : Nat) (hw : w ∈ [1, 2, 4, 8, 16, 32, 64])
    (hdom : vs.length * w < 2^31) (hfuel : vs.length + 1 ≤ fuel) :
    ∃ r, Gen.Ssa3.bitmap_Join fuel vs (w : Int) = some r ∧ r.length = (vs.length * w + 63) / 64 ∧ WordsOK r ∧
      (∀ i (hi : i < vs.length), Gen.Ssa.bitmap_Getw r (i : Int) (w : Int) = some (vs[i] % 2^w)) ∧
      (∀ j, vs.length * w ≤ j → bitAt r j = false) := by
  have hw1 : 1 ≤ w ∧ w ≤ 64 := by
    simp only [List.mem_cons, List.not_mem_nil, or_false] at hw
    omega
  have hl : vs.length < 2^56 := by
    have : vs.length * 1 ≤ vs.length * w := Nat.mul_le_mul_left _ hw1.1
    omega
  obtain ⟨r, h1, h2⟩ := E2E_C14_join_getw vs w hw hdom
  exact ⟨r, by rw [Tie_bitmap_Join vs w fuel hw1.2 hl hfuel, h1], h2⟩

/-- `C14_slice` on generated code.  For a bitmap `ws` of fewer than `2^25` words (`BmDom`: positions are `int32`
    values), `0 ≤ from ≤ to ≤ 64*len(ws)` and EVERY `fuel ≥ to - from + 1`: the code of `Slice(ws, from, to)`
    (regenerated from its SSA form) terminates, does not panic, and returns exactly
    `ceil((to-from)/64)` words, each a `uint64`, whose bit `j` is bit `from + j` of the input for `j < to - from` and 0
    for every other `j`.
    Hypotheses: `ws.length < 2^25`, `frm ≤ to`, `to ≤ 64 * ws.length`, `to - frm + 1 ≤ fuel`.  The tie's `to < 2^31`
    is proved from these. -/
theorem E2E_C14_slice (ws : List Nat) (frm to fuel : Nat) (hlen : ws.length < 2^25) (hft : frm ≤ to)
    (hto : to ≤ 64 * ws.length) (hfuel : to - frm + 1 ≤ fuel) :
    ∃ r, Gen.Ssa3.bitmap_Slice fuel ws (frm : Int) (to : Int) = some r ∧ r.length = (to - frm + 63) / 64 ∧ WordsOK r ∧
      ∀ j, bitAt r j = (decide (j < to - frm) && bitAt ws (frm + j)) := by
  rw [Tie_bitmap_Slice_dom ws frm to fuel hft (by omega) hlen hfuel]
  exact C14_slice ws frm to hft hto

/-! non-vacuity: generated `Join` then generated `Getw`; generated `Slice` over an unaligned two-word range -/
example : Gen.Ssa3.bitmap_Join 6 [0x1ffff, 2, 0xabcd, 0x7fff0004, 5] 16 = some [0x0004abcd0002ffff, 5] := by
  decide +kernel
example : (Gen.Ssa3.bitmap_Join 6 [0x1ffff, 2, 0xabcd, 0x7fff0004, 5] 16).bind
    (fun r => Gen.Ssa.bitmap_Getw r 3 16) = some 4 := by decide +kernel
example : Gen.Ssa3.bitmap_Slice 71 [2^60 + 2^63, 1, 2] 60 130 = some [1 + 2^3 + 2^4, 2^5] := by decide +kernel
example : ∃ r, Gen.Ssa3.bitmap_Slice 71 [2^60 + 2^63, 1, 2] ((60 : Nat) : Int) ((130 : Nat) : Int) = some r ∧
      r.length = (130 - 60 + 63) / 64 ∧ WordsOK r ∧
      ∀ j, bitAt r j = (decide (j < 130 - 60) && bitAt [2^60 + 2^63, 1, 2] (60 + j)) :=
  E2E_C14_slice _ 60 130 71 (by decide +kernel) (by decide +kernel) (by decide +kernel) (by decide +kernel)

end Low
