import LowProofs.Props.C15
/-
  Helper lemmas for the end-to-end theorems of `LowProofs/E2E2/Cxx.lean`.
  (Imports model-side property files only: nothing here depends on regenerated code.)
  C15: the range invariant `TbDom` of a `TailBitmap` along a history -- `reclaimed` stays between the initial offset and
  `Offset`, and the end of the stored words stays below a bound `U` above all indices ever set -- from which the
  int64-domain hypotheses of the `TailBitmap` ties follow from hypotheses about the INPUTS (initial offset, indices).
-/
namespace Low.E2E2L
open Low.C15L

/-- the loop of `Compact` keeps the end of the stored words (no hypothesis) -/
theorem dropOnes_end : ∀ (ws : List Nat) (o : Int),
    (dropOnes ws o).2 + 64 * ((dropOnes ws o).1.length : Int) = o + 64 * (ws.length : Int)
  | [], o => by simp [dropOnes]
  | w :: r, o => by
    simp only [dropOnes]
    split
    · rw [dropOnes_end r (o + 64)]; simp only [List.length_cons]; omega
    · rfl

theorem dropOnes_ge : ∀ (ws : List Nat) (o : Int), o ≤ (dropOnes ws o).2
  | [], o => by simp [dropOnes]
  | w :: r, o => by
    simp only [dropOnes]
    split
    · have := dropOnes_ge r (o + 64); omega
    · exact Int.le_refl _

theorem dropOnes_length_le (ws : List Nat) (o : Int) : (dropOnes ws o).1.length ≤ ws.length := by
  have h1 := dropOnes_end ws o
  have h2 := dropOnes_ge ws o
  omega

theorem compact_reclaimed (thr : Int) (tb : TailBitmap) :
    (tb.compact thr).reclaimed
      = if (dropOnes tb.words tb.offset).2 - tb.reclaimed ≥ thr then (dropOnes tb.words tb.offset).2 else tb.reclaimed :=
  rfl

/-- range invariant of a `TailBitmap` started at offset `o` whose set indices stay below `U` -/
structure TbDom (o U : Int) (tb : TailBitmap) : Prop where
  rlo : o ≤ tb.reclaimed
  rhi : tb.reclaimed ≤ tb.offset
  endU : tbEnd tb ≤ U

theorem TbDom.olo {o U : Int} {tb : TailBitmap} (h : TbDom o U tb) : o ≤ tb.offset := Int.le_trans h.rlo h.rhi

theorem TbDom.len {o U : Int} {tb : TailBitmap} (h : TbDom o U tb) : 64 * (tb.words.length : Int) ≤ U - o := by
  have := h.endU; have := h.olo; unfold tbEnd at *; omega

/-! the int64 and fuel hypotheses of the ties of the `TailBitmap` methods, as facts about integers: `o` the initial offset,
    `U` the bound above every index, `off`, `rec`, `len` the receiver's `Offset`, `reclaimed` and number of words -/

theorem i64_of_range {o U off rec : Int} {len : Nat} (hlo : -2^63 ≤ o) (hhi : U + 64 < 2^63) (hw : U + 64 - o < 2^63)
    (rlo : o ≤ rec) (rhi : rec ≤ off) (hend : off + 64 * (len : Int) ≤ U) :
    -2^63 ≤ off ∧ off + 64 * ((len : Int) + 1) < 2^63 ∧ -2^63 ≤ off - rec ∧
      off + 64 * ((len : Int) + 1) - rec < 2^63 :=
  ⟨by omega, by omega, by omega, by omega⟩

theorem fuel_of_range {o U off : Int} {len fuel : Nat} (hfuel : (U - o).toNat / 64 + 3 ≤ fuel) (olo : o ≤ off)
    (hend : off + 64 * (len : Int) ≤ U) : len + 3 ≤ fuel := by
  omega

theorem fuel_set_of_range {o U off i : Int} {len fuel : Nat} (hfuel : (U - o).toNat / 64 + 3 ≤ fuel) (olo : o ≤ off)
    (hend : off + 64 * (len : Int) ≤ U) (hi : i < U) : ((i - off).toNat / 64 + 1 - len) + len + 2 ≤ fuel := by
  omega

theorem dom_new {o U : Int} (hoU : o ≤ U) : TbDom o U (newTailBitmap o) :=
  ⟨Int.le_refl _, Int.le_refl _, by simpa [tbEnd, newTailBitmap] using hoU⟩

theorem dom_compact (thr : Int) {o U : Int} {tb : TailBitmap} (h : TbDom o U tb) :
    TbDom o U (tb.compact thr) ∧ tb.offset ≤ (tb.compact thr).offset ∧ tbEnd (tb.compact thr) = tbEnd tb := by
  have h1 := dropOnes_end tb.words tb.offset
  have h2 := dropOnes_ge tb.words tb.offset
  have he : tbEnd (tb.compact thr) = tbEnd tb := by
    unfold tbEnd; exact h1
  refine ⟨⟨?_, ?_, by rw [he]; exact h.endU⟩, by rw [compact_offset]; exact h2, he⟩
  · rw [compact_reclaimed]
    split
    · have := h.olo; omega
    · exact h.rlo
  · rw [compact_reclaimed, compact_offset]
    split
    · exact Int.le_refl _
    · have := h.rhi; omega

/-- setting bit `k` of the words (counted from a `Offset` that is a multiple of 64) below a bound `U` that is one too keeps
    the end of the words below `U` -/
theorem end_set_le {off U : Int} {len k : Nat} (hd : (64 : Int) ∣ off) (hU : (64 : Int) ∣ U)
    (hend : off + 64 * (len : Int) ≤ U) (hk : off + (k : Int) < U) :
    off + 64 * ((max len (k / 64 + 1) : Nat) : Int) ≤ U := by
  omega

theorem dom_set (thr : Int) {o U : Int} {tb : TailBitmap} (i : Int) (h : TbDom o U tb) (hd : (64 : Int) ∣ tb.offset)
    (hU : (64 : Int) ∣ U) (hi : i < U) : TbDom o U (tb.set thr i) := by
  by_cases hlt : i < tb.offset
  · rw [set_lt thr hlt]; exact h
  · simp only [TailBitmap.set, if_neg hlt]
    generalize hk : (i - tb.offset).toNat = k
    have hend : tb.offset + 64 * ((max tb.words.length (k / 64 + 1) : Nat) : Int) ≤ U :=
      end_set_le hd hU h.endU (by omega)
    generalize k / 64 = q at hend ⊢
    have hlen : ∀ w, ((tb.words ++ zeros (q + 1 - tb.words.length)).set q w).length = max tb.words.length (q + 1) := by
      intro w
      rw [List.length_set, List.length_append, zeros, List.length_replicate]
      omega
    have hdom' : TbDom o U { tb with words := ((tb.words ++ zeros (q + 1 - tb.words.length)).set q
        ((tb.words ++ zeros (q + 1 - tb.words.length)).getD q 0 ||| bit (k % 64))) } :=
      ⟨h.rlo, h.rhi, by rw [tbEnd, hlen]; exact hend⟩
    split
    · exact (dom_compact thr hdom').1
    · exact hdom'

end Low.E2E2L
