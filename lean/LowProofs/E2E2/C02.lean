import LowProofs.E2E.C02
import LowProofs.Tie3.bitmap_IndexSelect32
import LowProofs.Tie3.bitmap_IndexSelect32R64
/-
  C02 end to end: `C02_indexSelect32`, `C02_indexSelect32R64`, `C02_select32`, `C02_select32R64` stated
  PURELY about definitions REGENERATED from the go/ssa form of the code: the index builders `bitmap.IndexSelect32`,
  `bitmap.IndexSelect32R64` (`Generated/Ssa3/*.lean`; the latter calls the regenerated `IndexRank64`) and the queries
  `bitmap.Select32`, `bitmap.Select32R64` (`Generated/Ssa2/*.lean`) called on the indexes the GENERATED builders
  returned.  No model function occurs in the statements: only generated code and the specifications `ones`, `rank`.
-/
namespace Low

/-- `C02_indexSelect32` on the generated builder.  The code of `IndexSelect32(words)` (regenerated from its SSA form),
    for a bitmap of fewer than `2^25` words (`BmDom`; no hypothesis on the words) and EVERY `fuel ≥ 64*len + 1`:
    terminates, does not panic and lists the position of every 32nd 1-bit: `ceil(n/32)` entries, entry `k` is the
    position of the `(32k)`-th 1-bit.
    Hypotheses: `ws.length < 2^25`, `64 * ws.length + 1 ≤ fuel`. -/
theorem E2E_C02_indexSelect32 (ws : List Nat) (fuel : Nat) (hlen : ws.length < 2^25)
    (hfuel : 64 * ws.length + 1 ≤ fuel) :
    Gen.Ssa3.bitmap_IndexSelect32 fuel ws
      = some ((List.range (((ones ws).length + 31) / 32)).map (fun k => ((ones ws).getD (32 * k) 0 : Int))) := by
  rw [Tie_bitmap_IndexSelect32 ws fuel hlen hfuel, C02_indexSelect32, List.map_map]
  rfl

/-- `C02_indexSelect32R64` on the generated builder.  The code of `IndexSelect32R64(words)` (regenerated), under the same
    conditions, returns the same select index together with the rank index with the trailing grand total:
    `len + 1` entries, entry `k` = number of 1-bits before position `64 k`.
    Hypotheses: `ws.length < 2^25`, `64 * ws.length + 1 ≤ fuel`. -/
theorem E2E_C02_indexSelect32R64 (ws : List Nat) (fuel : Nat) (hlen : ws.length < 2^25)
    (hfuel : 64 * ws.length + 1 ≤ fuel) :
    Gen.Ssa3.bitmap_IndexSelect32R64 fuel ws
      = some ((List.range (((ones ws).length + 31) / 32)).map (fun k => ((ones ws).getD (32 * k) 0 : Int)),
              (List.range (ws.length + 1)).map (fun k => (rank ws (64 * k) : Int))) := by
  rw [Tie_bitmap_IndexSelect32R64 ws fuel hlen hfuel, C02_indexSelect32R64]
  simp only [C02_indexSelect32, C01_indexRank64, List.map_map, Bool.toNat_true]
  rfl

/-- `C02_select32`, builder and query both generated.  For a bitmap of fewer than `2^25` `uint64` words and every
    `fuel ≥ 64*len + 1`: the code of `IndexSelect32` returns an index `sidx` (no panic), and the code of `Select32`
    called with THAT index and any `fuel' ≥ len + 1` returns, for every `i` below the number of 1-bits, without panic,
    exactly (position of the `i`-th 1-bit, position of the `(i+1)`-th 1-bit or `64*len` when `i` is the last).
    Hypotheses: `ws.length < 2^25`, `WordsOK ws`, `64 * ws.length + 1 ≤ fuel`; per query `i < (ones ws).length`,
    `ws.length + 1 ≤ fuel'`. -/
theorem E2E_C02_select32_full (ws : List Nat) (fuel : Nat) (hlen : ws.length < 2^25) (hok : WordsOK ws)
    (hfuel : 64 * ws.length + 1 ≤ fuel) :
    ∃ sidx, Gen.Ssa3.bitmap_IndexSelect32 fuel ws = some sidx ∧
      ∀ (i fuel' : Nat) (hi : i < (ones ws).length), ws.length + 1 ≤ fuel' →
        Gen.Ssa2.bitmap_Select32 fuel' ws sidx (i : Int)
          = some (((ones ws)[i] : Int), ((ones ws).getD (i + 1) (64 * ws.length) : Int)) :=
  ⟨_, Tie_bitmap_IndexSelect32 ws fuel hlen hfuel, fun i fuel' hi hf => E2E_C02_select32 ws hlen hok i fuel' hi hf⟩

/-- the same as one equation -/
theorem E2E_C02_select32_bind (ws : List Nat) (fuel fuel' i : Nat) (hlen : ws.length < 2^25) (hok : WordsOK ws)
    (hfuel : 64 * ws.length + 1 ≤ fuel) (hfuel' : ws.length + 1 ≤ fuel') (hi : i < (ones ws).length) :
    (Gen.Ssa3.bitmap_IndexSelect32 fuel ws).bind (fun sidx => Gen.Ssa2.bitmap_Select32 fuel' ws sidx (i : Int))
      = some (((ones ws)[i] : Int), ((ones ws).getD (i + 1) (64 * ws.length) : Int)) := by
  rw [Tie_bitmap_IndexSelect32 ws fuel hlen hfuel, Option.bind_some]
  exact E2E_C02_select32 ws hlen hok i fuel' hi hfuel'

/-- `C02_select32R64`, builder and query both generated.  Under the same conditions the code of `IndexSelect32R64`
    returns a pair of indexes `(sidx, ridx)` (no panic), and the code of `Select32R64` called with THAT pair and any
    `fuel' ≥ len + 2` returns the same pair of positions for every `i` below the number of 1-bits.
    Hypotheses: `ws.length < 2^25`, `WordsOK ws`, `64 * ws.length + 1 ≤ fuel`; per query `i < (ones ws).length`,
    `ws.length + 2 ≤ fuel'`. -/
theorem E2E_C02_select32R64_full (ws : List Nat) (fuel : Nat) (hlen : ws.length < 2^25) (hok : WordsOK ws)
    (hfuel : 64 * ws.length + 1 ≤ fuel) :
    ∃ sidx ridx, Gen.Ssa3.bitmap_IndexSelect32R64 fuel ws = some (sidx, ridx) ∧
      ∀ (i fuel' : Nat) (hi : i < (ones ws).length), ws.length + 2 ≤ fuel' →
        Gen.Ssa2.bitmap_Select32R64 fuel' ws sidx ridx (i : Int)
          = some (((ones ws)[i] : Int), ((ones ws).getD (i + 1) (64 * ws.length) : Int)) :=
  ⟨_, _, Tie_bitmap_IndexSelect32R64 ws fuel hlen hfuel,
    fun i fuel' hi hf => E2E_C02_select32R64 ws hlen hok i fuel' hi hf⟩

/-- the same as one equation -/
theorem E2E_C02_select32R64_bind (ws : List Nat) (fuel fuel' i : Nat) (hlen : ws.length < 2^25) (hok : WordsOK ws)
    (hfuel : 64 * ws.length + 1 ≤ fuel) (hfuel' : ws.length + 2 ≤ fuel') (hi : i < (ones ws).length) :
    (Gen.Ssa3.bitmap_IndexSelect32R64 fuel ws).bind
        (fun p => Gen.Ssa2.bitmap_Select32R64 fuel' ws p.1 p.2 (i : Int))
      = some (((ones ws)[i] : Int), ((ones ws).getD (i + 1) (64 * ws.length) : Int)) := by
  rw [Tie_bitmap_IndexSelect32R64 ws fuel hlen hfuel, Option.bind_some]
  exact E2E_C02_select32R64 ws hlen hok i fuel' hi hfuel'

/-! non-vacuity: 66 one-bits over three words with an empty word in the middle -/
/-- the index the generated builder returns on the demonstration bitmap, evaluated once -/
theorem IndexSelect32_demo : Gen.Ssa3.bitmap_IndexSelect32 193 [2^64 - 1, 0, 2^63 + 1] = some [0, 32, 128] := by
  decide +kernel

set_option maxRecDepth 8000 in
example : Gen.Ssa3.bitmap_IndexSelect32 193 [2^64 - 1, 0, 2^63 + 1] = some [0, 32, 128] := IndexSelect32_demo
set_option maxRecDepth 8000 in
example : (Gen.Ssa3.bitmap_IndexSelect32 193 [2^64 - 1, 0, 2^63 + 1]).bind
    (fun sidx => Gen.Ssa2.bitmap_Select32 4 [2^64 - 1, 0, 2^63 + 1] sidx 63) = some (63, 128) := by
  rw [IndexSelect32_demo]
  decide +kernel
set_option maxRecDepth 8000 in
example : (Gen.Ssa3.bitmap_IndexSelect32R64 193 [2^64 - 1, 0, 2^63 + 1]).bind
    (fun p => Gen.Ssa2.bitmap_Select32R64 5 [2^64 - 1, 0, 2^63 + 1] p.1 p.2 65) = some (191, 192) := by decide +kernel

end Low
