import LowProofs.E2E.C08
import LowProofs.Tie3.bitword_bitWord_FromStr
import LowProofs.Tie3.bitword_bitWord_ToStr
/-
  C08 end to end: `C08_fromStr`, `C08_roundtrip`, `C08_toStr` stated PURELY about definitions REGENERATED
  from the go/ssa form of the methods `bitWord.FromStr`, `bitWord.ToStr` (`Generated/Ssa3/bitword_bitWord_*.lean`;
  nested loops are recursion on `fuel`, the slices they allocate are functional lists) and `bitWord.Get`
  (`Generated/Ssa2/`).  The receiver is passed field by field: `(width, byteCap, wordMask) = (n, 8/n, bwWordMask n)` are
  the values `newBW(n)` stores (these three numbers are the only model-side part of the statements; `E2E7/C08.lean` takes
  the receiver from the generated constructor).  No model function occurs in the conclusions: only generated code and the
  specifications `bwWordAt`, `bitsBE`, `BytesOK`.
-/
namespace Low

/-- `C08_fromStr` on generated code.  The code of `FromStr(s)` (regenerated from its SSA form), for a width
    `n ∈ {1,2,4,8}`, a byte string `s` shorter than `2^32` bytes and EVERY `fuel ≥ len(s) + 9`: terminates, does not
    panic and returns `8*len(s)/n` words; word `i` is the `n` bits of `s` starting at bit `i*n`, most significant first
    (`bwWordAt`), and equals what the code of `Get(s, i)` (regenerated) returns, which does not panic for these `i`.
    Hypotheses: `n ∈ [1,2,4,8]`, `BytesOK s`, `s.length < 2^32`, `s.length + 9 ≤ fuel`. -/
theorem E2E_C08_fromStr (n : Nat) (hn : n ∈ [1,2,4,8]) (s : List Nat) (hs : BytesOK s) (hlen : s.length < 2^32)
    (fuel : Nat) (hfuel : s.length + 9 ≤ fuel) :
    ∃ ws, Gen.Ssa3.bitword_bitWord_FromStr fuel (n : Int) ((8 / n : Nat) : Int) (bwWordMask n) s = some ws ∧
      ws.length = 8 * s.length / n ∧
      ∀ i, i < 8 * s.length / n →
        ws[i]? = some (bwWordAt n s i) ∧
        Gen.Ssa2.bitword_bitWord_Get (n : Int) ((8 / n : Nat) : Int) (bwWordMask n) s (i : Int)
          = some (bwWordAt n s i) := by
  refine ⟨_, Tie_bitword_bitWord_FromStr n s fuel (E2EL.width_cases hn) hlen hfuel, (C08_fromStr n hn s hs).1, ?_⟩
  intro i hi
  exact ⟨((C08_fromStr n hn s hs).2 i hi).1, E2E_C08_get n hn s hs (by omega) i hi⟩

/-- `C08_roundtrip` on generated code: `ToStr(FromStr(s)) = s`.  For a width `n ∈ {1,2,4,8}`, a byte string `s` shorter
    than `2^29` bytes (its at most `8*len(s)` words then number fewer than `2^32`), every `fuel ≥ len(s) + 9` and every
    `fuel' ≥ 8*len(s)/n + 9`: the code of `FromStr` returns a word slice (no panic) and the code of `ToStr` on THAT slice
    returns exactly `s`.
    Hypotheses: `n ∈ [1,2,4,8]`, `BytesOK s`, `s.length < 2^29`, `s.length + 9 ≤ fuel`, `8 * s.length / n + 9 ≤ fuel'`. -/
theorem E2E_C08_roundtrip (n : Nat) (hn : n ∈ [1,2,4,8]) (s : List Nat) (hs : BytesOK s) (hlen : s.length < 2^29)
    (fuel fuel' : Nat) (hfuel : s.length + 9 ≤ fuel) (hfuel' : 8 * s.length / n + 9 ≤ fuel') :
    (Gen.Ssa3.bitword_bitWord_FromStr fuel (n : Int) ((8 / n : Nat) : Int) (bwWordMask n) s).bind
      (Gen.Ssa3.bitword_bitWord_ToStr fuel' (n : Int) ((8 / n : Nat) : Int) (bwWordMask n)) = some s := by
  have hl := (C08_fromStr n hn s hs).1
  have hle : 8 * s.length / n ≤ 8 * s.length := Nat.div_le_self _ _
  rw [Tie_bitword_bitWord_FromStr n s fuel (E2EL.width_cases hn) (by omega) hfuel, Option.bind_some,
    Tie_bitword_bitWord_ToStr n _ fuel' (E2EL.width_cases hn) (by omega) (by omega), C08_roundtrip n hn s hs]

/-- `C08_toStr` on generated code.  The code of `ToStr(ws)` (regenerated from its SSA form), for a width
    `n ∈ {1,2,4,8}`, ANY slice of fewer than `2^32` in-range words (`< 2^n`) and EVERY `fuel ≥ len(ws) + 9`: terminates,
    does not panic and returns a byte string whose bits are the words packed MSB-first (each word contributes its `n`
    bits, most significant first), padded with zero bits up to the byte boundary.
    Hypotheses: `n ∈ [1,2,4,8]`, `∀ w ∈ ws, w < 2^n`, `ws.length < 2^32`, `ws.length + 9 ≤ fuel`. -/
theorem E2E_C08_toStr (n : Nat) (hn : n ∈ [1,2,4,8]) (ws : List Nat) (hws : ∀ w ∈ ws, w < 2 ^ n)
    (hlen : ws.length < 2^32) (fuel : Nat) (hfuel : ws.length + 9 ≤ fuel) :
    ∃ bs, Gen.Ssa3.bitword_bitWord_ToStr fuel (n : Int) ((8 / n : Nat) : Int) (bwWordMask n) ws = some bs ∧
      bitsBE bs =
        ws.flatMap (fun w => (List.range n).map fun j => w.testBit (n - 1 - j)) ++
          List.replicate (8 * ((ws.length * n + 7) / 8) - ws.length * n) false ∧
      BytesOK bs :=
  ⟨_, Tie_bitword_bitWord_ToStr n ws fuel (E2EL.width_cases hn) hlen hfuel, C08_toStr n hn ws hws⟩

/-! non-vacuity: width 2 on two bytes, by the generated code; the round trip; an odd number of 4-bit words -/
example : Gen.Ssa3.bitword_bitWord_FromStr 11 2 4 (bwWordMask 2) [0xb4, 0x1e] = some [2, 3, 1, 0, 0, 1, 3, 2] := by
  decide +kernel
example : (Gen.Ssa3.bitword_bitWord_FromStr 12 4 2 (bwWordMask 4) [0xff, 0x80, 0x01]).bind
    (Gen.Ssa3.bitword_bitWord_ToStr 15 4 2 (bwWordMask 4)) = some [0xff, 0x80, 0x01] := by decide +kernel
example : Gen.Ssa3.bitword_bitWord_ToStr 12 4 2 (bwWordMask 4) [0xf, 0x8, 0x1] = some [0xf8, 0x10] := by decide +kernel
example := E2E_C08_roundtrip 4 (by decide +kernel) [0xff, 0x80, 0x01] (by unfold BytesOK; decide +kernel) (by decide +kernel) 12 15
  (by decide +kernel) (by decide +kernel)

end Low
