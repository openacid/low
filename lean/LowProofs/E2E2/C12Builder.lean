import LowProofs.Props.C12
import LowProofs.Tie3.bitmap_Builder_Extend
import LowProofs.Tie3.bitmap_Builder_Set
import LowProofs.Tie3.bitmap_Of
/-
  C12 end to end (Builder clauses): `C12_builder(_from)` and `C12_builder_set` stated PURELY about the
  definitions REGENERATED from the go/ssa form of the methods `(*Builder).Extend` and `(*Builder).Set`
  (`Generated/Ssa3/bitmap_Builder_*.lean`; the two loops of `Extend` / the growing loop of `Set` are recursion on `fuel`).
  The generated methods take the receiver's fields `(Words, Offset)` and return their new values; a `Builder` record
  here is just that pair.  `genExtendAll` runs a sequence of `Extend` calls through the GENERATED method (`none` as soon
  as one panics or runs out of fuel).  No model function occurs in the conclusions: only generated code (through the
  runner) and the specifications `bitAt`, `WordsOK`, `segOff`.
  (The runs here start from the literal `⟨[], 0⟩`, what `NewBuilder(n)` returns for `n ≥ 0` -- the capacity `n >> 6` it
  preallocates is not observable; `E2E7/C12.lean` starts them from the generated `NewBuilder`, which panics for `n < 0`.)

  Domain.  Positions and `Offset` are `int32`; the hypotheses say, about the INPUTS only, that the bit length reached
  (`B`: every `offset_k + size_k ≤ B`, every `offset_k + p < B`) is an `int32` (`B < 2^31`).  The ties' hypotheses for
  every intermediate receiver (its `Offset`, fewer than `2^57` words, `end` not wrapping) are proved along the run.
-/
namespace Low
open Low.C12L

/-- one `Extend` executed by the GENERATED method on the receiver `b` -/
def genExtend (fuel : Nat) (b : Builder) (ps : List Int) (size : Int) : Option Builder :=
  (Gen.Ssa3.bitmap_Builder_Extend fuel b.words b.offset ps size).map (fun r => ⟨r.1, r.2⟩)

/-- one `Set` executed by the GENERATED method on the receiver `b` -/
def genSet (fuel : Nat) (b : Builder) (pos value : Int) : Option Builder :=
  (Gen.Ssa3.bitmap_Builder_Set fuel b.words b.offset pos value).map (fun r => ⟨r.1, r.2⟩)

/-- a sequence of `Extend(ps, size)` calls executed by the GENERATED method; `none` as soon as one panics -/
def genExtendAll (fuel : Nat) (b : Builder) : List (List Int × Int) → Option Builder
  | [] => some b
  | (ps, size) :: rest =>
    match genExtend fuel b ps size with
    | none => none
    | some b' => genExtendAll fuel b' rest

private theorem map_mk (o : Option Builder) : (o.map (fun b' => (b'.words, b'.offset))).map
    (fun r : List Nat × Int => (⟨r.1, r.2⟩ : Builder)) = o := by
  cases o <;> rfl

private theorem segOff_zero (segs : List (List Int × Int)) : segOff segs 0 = 0 := by
  simp [segOff]

private theorem segOff_succ (s : List Int × Int) (rest : List (List Int × Int)) (k : Nat) :
    segOff (s :: rest) (k + 1) = s.2 + segOff rest k := by
  simp [segOff, List.take_succ_cons, List.map_cons, List.sum_cons]

/-- on the domain of `E2E_C12_builder_extend` the generated `Extend` is the model's -/
theorem genExtend_eq (b : Builder) (ps : List Int) (size : Int) (fuel B : Nat)
    (hb : 0 ≤ b.offset) (hw : b.words.length < 2^57) (h0 : ∀ p ∈ ps, 0 ≤ p) (hsz : 0 ≤ size) (hlen : ps.length < 2^63)
    (hB : B < 2^31) (hBs : b.offset + size ≤ B) (hBp : ∀ p ∈ ps, b.offset + p < B) (hfuel1 : (B + 63) / 64 + 1 ≤ fuel)
    (hfuel2 : ps.length + 1 ≤ fuel) : genExtend fuel b ps size = b.extend ps size := by
  have hE : b.extendEnd ps size ≤ B := by
    unfold Builder.extendEnd
    cases hl : ps.getLast? with
    | none => exact hBs
    | some l =>
      have := hBp l (List.mem_of_getLast? hl)
      simp only
      split <;> omega
  rw [genExtend, Tie_bitmap_Builder_Extend b ps size fuel hlen hw ⟨by omega, by omega⟩
    (fun p hp => ⟨by have := h0 p hp; omega, by have := hBp p hp; omega⟩)
    (fun l hl _ => by have := hBp l (List.mem_of_getLast? hl); omega) (by omega) hfuel2, map_mk]

/-- `Extend`, one step, on generated code.  From ANY receiver with `0 ≤ Offset` and fewer than `2^57` words, for
    ascending non-negative positions `ps` (duplicates allowed, positions may exceed `size`), `size ≥ 0`, with
    `Offset + size ≤ B`, every `Offset + p < B`, `B < 2^31`, and every `fuel ≥ max (⌈B/64⌉) (len ps) + 1`: the code of
    `Extend` (regenerated from its SSA form) terminates, does not panic, advances `Offset` by `size`, ORs in exactly the
    positions rebased by the old `Offset`, keeps `uint64` words, and leaves
    `max (old len) ⌈(Offset + max size (last+1)) / 64⌉` words. -/
theorem E2E_C12_builder_extend (b : Builder) (ps : List Int) (size : Int) (fuel B : Nat)
    (hb : 0 ≤ b.offset) (hw : b.words.length < 2^57) (hs : ps.Pairwise (· ≤ ·)) (h0 : ∀ p ∈ ps, 0 ≤ p)
    (hsz : 0 ≤ size) (hlen : ps.length < 2^63) (hB : B < 2^31) (hBs : b.offset + size ≤ B)
    (hBp : ∀ p ∈ ps, b.offset + p < B) (hfuel1 : (B + 63) / 64 + 1 ≤ fuel) (hfuel2 : ps.length + 1 ≤ fuel) :
    ∃ b', genExtend fuel b ps size = some b' ∧ b'.offset = b.offset + size ∧
      b'.words.length = max b.words.length
        ((b.offset + max size (match ps.getLast? with | none => 0 | some l => l + 1) + 63) / 64).toNat ∧
      (WordsOK b.words → WordsOK b'.words) ∧
      ∀ i : Nat, (bitAt b'.words i = true ↔ (bitAt b.words i = true ∨ ∃ p ∈ ps, (i : Int) = b.offset + p)) := by
  obtain ⟨b', e1, rest⟩ := extend_spec b ps size hb hsz hs h0
  exact ⟨b', by rw [genExtend_eq b ps size fuel B hb hw h0 hsz hlen hB hBs hBp hfuel1 hfuel2, e1], rest⟩

/-- `C12_builder_set` on generated code.  The code of `Builder.Set(pos, value)` (regenerated from its SSA form), from
    ANY receiver, for `0 ≤ pos < 2^31 - 1`, any `value` and EVERY `fuel ≥ pos/64 + 2`: terminates, does not panic, ORs
    the single bit `pos` in iff `value` is odd (`value & 1`), leaves all other bits, moves `Offset` to
    `max(Offset, pos + 1)`, grows the words to `max (old len) (pos/64 + 1)` and keeps them `uint64`.
    Hypotheses: `0 ≤ pos`, `pos < 2^31 - 1` (for `pos = 2^31 - 1` the Go `pos + 1` wraps), `pos.toNat / 64 + 2 ≤ fuel`. -/
theorem E2E_C12_builder_set (b : Builder) (pos value : Int) (fuel : Nat) (hp : 0 ≤ pos) (hhi : pos < 2^31 - 1)
    (hfuel : pos.toNat / 64 + 2 ≤ fuel) :
    ∃ b', genSet fuel b pos value = some b' ∧ b'.offset = max b.offset (pos + 1) ∧
      b'.words.length = max b.words.length (pos.toNat / 64 + 1) ∧
      (WordsOK b.words → WordsOK b'.words) ∧
      ∀ i : Nat, (bitAt b'.words i = true ↔ (bitAt b.words i = true ∨ ((i : Int) = pos ∧ value % 2 = 1))) := by
  obtain ⟨b', e1, e2⟩ := C12_builder_set b pos value hp
  refine ⟨b', ?_, e2⟩
  rw [genSet, Tie_bitmap_Builder_Set b pos value fuel (by omega) hhi (by omega), map_mk, e1]

/-- a negative position makes the code of `Builder.Set` panic, for any fuel ≥ 2 -/
theorem E2E_C12_builder_set_neg (b : Builder) (pos value : Int) (fuel : Nat) (hlo : -2^31 ≤ pos) (hp : pos < 0)
    (hfuel : 2 ≤ fuel) : genSet fuel b pos value = none := by
  have e : pos.toNat = 0 := by omega
  rw [genSet, Tie_bitmap_Builder_Set b pos value fuel hlo (by omega) (by rw [e]; omega),
    C12_builder_set_neg b pos value hp]
  rfl

/-- the run through the generated `Extend` equals the specification-level run `extendAll` on the domain; internal -/
private theorem genExtendAll_eq (fuel B : Nat) (hB : B < 2^31) (hfuel1 : (B + 63) / 64 + 1 ≤ fuel) :
    ∀ (segs : List (List Int × Int)) (b0 : Builder), 0 ≤ b0.offset → b0.words.length < 2^57 →
    (∀ s ∈ segs, s.1.Pairwise (· ≤ ·) ∧ (∀ p ∈ s.1, 0 ≤ p) ∧ 0 ≤ s.2 ∧ s.1.length < 2^63 ∧ s.1.length + 1 ≤ fuel) →
    (∀ k ps size, segs[k]? = some (ps, size) →
      b0.offset + segOff segs k + size ≤ B ∧ ∀ p ∈ ps, b0.offset + segOff segs k + p < B) →
    genExtendAll fuel b0 segs = extendAll b0 segs
  | [], _, _, _, _, _ => rfl
  | (ps, size) :: rest, b0, hb, hw, hseg, hdom => by
    obtain ⟨hs, h0, hsz, hl, hf2⟩ := hseg (ps, size) List.mem_cons_self
    obtain ⟨d1, d2⟩ := hdom 0 ps size rfl
    rw [segOff_zero] at d1 d2
    have hBp : ∀ p ∈ ps, b0.offset + p < B := fun p hp => by have := d2 p hp; omega
    obtain ⟨b1', e1', o1, l1, _⟩ := extend_spec b0 ps size hb hsz hs h0
    have hBs : b0.offset + size ≤ B := by omega
    have hw1 : b1'.words.length < 2^57 := by
      rw [l1]
      have := lastEnd_le (ps := ps) (c := B - b0.offset) (by omega) (fun p hp => by have := hBp p hp; omega)
      omega
    have ih := genExtendAll_eq fuel B hB hfuel1 rest b1' (by omega) hw1
      (fun s hs' => hseg s (List.mem_cons_of_mem _ hs'))
      (fun k ps' size' hk => by
        have := hdom (k + 1) ps' size' (by simpa using hk)
        rw [segOff_succ] at this
        refine ⟨by omega, fun p hp => ?_⟩
        have := this.2 p hp
        omega)
    simp only [genExtendAll, extendAll, genExtend_eq b0 ps size fuel B hb hw h0 hsz hl hB hBs hBp hfuel1 hf2, e1', ih]

/-- `C12_builder_from` on generated code.  Any sequence of `Extend` calls executed by the GENERATED method from any
    receiver with `0 ≤ Offset` and fewer than `2^57` words (each segment ascending, non-negative, `size ≥ 0`; positions
    may exceed the size, sizes may be 0), whose rebased positions and sizes stay below a bit length `B < 2^31`, for every
    `fuel ≥ ⌈B/64⌉ + 1` that also exceeds every segment's length: no call panics, `Offset` advances by the sum of the
    sizes, the bits are the old ones plus every position rebased by the old `Offset` and the running sum of the
    preceding sizes, words stay `uint64`, never shrink, and cover `Offset`.
    Hypotheses (inputs only): `0 ≤ b0.offset`, `b0.words.length < 2^57`; per segment `Pairwise (· ≤ ·)`, `0 ≤ p`,
    `0 ≤ size`, `len < 2^63`, `len + 1 ≤ fuel`; `B < 2^31`, `(B + 63) / 64 + 1 ≤ fuel`; for every segment `k`:
    `b0.offset + segOff segs k + size_k ≤ B` and `b0.offset + segOff segs k + p < B` for its positions `p`. -/
theorem E2E_C12_builder_from (segs : List (List Int × Int)) (b0 : Builder) (fuel B : Nat) (hb : 0 ≤ b0.offset)
    (hw : b0.words.length < 2^57)
    (hseg : ∀ s ∈ segs, s.1.Pairwise (· ≤ ·) ∧ (∀ p ∈ s.1, 0 ≤ p) ∧ 0 ≤ s.2 ∧ s.1.length < 2^63 ∧ s.1.length + 1 ≤ fuel)
    (hB : B < 2^31) (hfuel1 : (B + 63) / 64 + 1 ≤ fuel)
    (hdom : ∀ k ps size, segs[k]? = some (ps, size) →
      b0.offset + segOff segs k + size ≤ B ∧ ∀ p ∈ ps, b0.offset + segOff segs k + p < B) :
    ∃ b, genExtendAll fuel b0 segs = some b ∧
      b.offset = b0.offset + (segs.map Prod.snd).sum ∧
      (WordsOK b0.words → WordsOK b.words) ∧
      b0.words.length ≤ b.words.length ∧
      ((segs ≠ [] ∨ b0.offset ≤ 64 * (b0.words.length : Int)) → b.offset ≤ 64 * (b.words.length : Int)) ∧
      ∀ i : Nat, (bitAt b.words i = true ↔ (bitAt b0.words i = true ∨
        ∃ k ps size, segs[k]? = some (ps, size) ∧ ∃ p ∈ ps, (i : Int) = b0.offset + segOff segs k + p)) := by
  rw [genExtendAll_eq fuel B hB hfuel1 segs b0 hb hw hseg hdom]
  exact C12_builder_from segs b0 hb (fun s hs => ⟨(hseg s hs).1, (hseg s hs).2.1, (hseg s hs).2.2.1⟩)

/-- `C12_builder` on generated code.  A Builder from `NewBuilder(n)` (empty words, `Offset` 0), after any sequence of
    `Extend` calls executed by the GENERATED method (same conditions as `E2E_C12_builder_from` with `b0.offset = 0`):
    no panic, `Offset = Σ size_k`, the bits are exactly `{ off_k + p | p ∈ ps_k }` with `off_k = Σ_{j<k} size_j`, the words
    are `uint64` and there are enough of them for `Offset` (and, by `bitAt_oob`, for every bit). -/
theorem E2E_C12_builder (segs : List (List Int × Int)) (fuel B : Nat)
    (hseg : ∀ s ∈ segs, s.1.Pairwise (· ≤ ·) ∧ (∀ p ∈ s.1, 0 ≤ p) ∧ 0 ≤ s.2 ∧ s.1.length < 2^63 ∧ s.1.length + 1 ≤ fuel)
    (hB : B < 2^31) (hfuel1 : (B + 63) / 64 + 1 ≤ fuel)
    (hdom : ∀ k ps size, segs[k]? = some (ps, size) →
      segOff segs k + size ≤ B ∧ ∀ p ∈ ps, segOff segs k + p < B) :
    ∃ b, genExtendAll fuel ⟨[], 0⟩ segs = some b ∧
      b.offset = (segs.map Prod.snd).sum ∧ WordsOK b.words ∧ b.offset ≤ 64 * (b.words.length : Int) ∧
      ∀ i : Nat, (bitAt b.words i = true ↔
        ∃ k ps size, segs[k]? = some (ps, size) ∧ ∃ p ∈ ps, (i : Int) = segOff segs k + p) := by
  rw [genExtendAll_eq fuel B hB hfuel1 segs ⟨[], 0⟩ (Int.le_refl _) (by simp) hseg
    (fun k ps size hk => by
      obtain ⟨a, b⟩ := hdom k ps size hk
      exact ⟨by simpa using a, fun p hp => by simpa using b p hp⟩)]
  exact C12_builder segs (fun s hs => ⟨(hseg s hs).1, (hseg s hs).2.1, (hseg s hs).2.2.1⟩)

/-- `C12_builder_eq_of` on generated code: the Builder's result is the bitmap `Of` would build from the shifted positions.
    Under the conditions of `E2E_C12_builder`, when moreover the shifted concatenation of all segments is ascending, its
    entries are `< 2^31 - 64` and `Σ sizes ≤ 2^31 - 64` (the domain of `Of`): the run of `Extend` calls through the
    GENERATED method and the GENERATED `Of(shifted positions, Σ sizes)` (any `fuel' ≥` number of positions `+ 1`) both
    succeed and yield bitmaps with the same bits. -/
theorem E2E_C12_builder_eq_of (segs : List (List Int × Int)) (fuel fuel' B : Nat)
    (hseg : ∀ s ∈ segs, s.1.Pairwise (· ≤ ·) ∧ (∀ p ∈ s.1, 0 ≤ p) ∧ 0 ≤ s.2 ∧ s.1.length < 2^63 ∧ s.1.length + 1 ≤ fuel)
    (hB : B < 2^31) (hfuel1 : (B + 63) / 64 + 1 ≤ fuel)
    (hdom : ∀ k ps size, segs[k]? = some (ps, size) →
      segOff segs k + size ≤ B ∧ ∀ p ∈ ps, segOff segs k + p < B)
    (hs : (shiftedConcat (segs.map Prod.fst) (segs.map Prod.snd) 0).Pairwise (· ≤ ·))
    (hps : ∀ p ∈ shiftedConcat (segs.map Prod.fst) (segs.map Prod.snd) 0, p < 2^31 - 64)
    (hsum : (segs.map Prod.snd).sum ≤ 2^31 - 64)
    (hlen : (shiftedConcat (segs.map Prod.fst) (segs.map Prod.snd) 0).length < 2^63)
    (hfuel' : (shiftedConcat (segs.map Prod.fst) (segs.map Prod.snd) 0).length + 1 ≤ fuel') :
    ∃ b ws, genExtendAll fuel ⟨[], 0⟩ segs = some b ∧
      Gen.Ssa3.bitmap_Of fuel' (shiftedConcat (segs.map Prod.fst) (segs.map Prod.snd) 0) [(segs.map Prod.snd).sum]
        = some ws ∧
      ∀ i, bitAt b.words i = bitAt ws i := by
  rw [genExtendAll_eq fuel B hB hfuel1 segs ⟨[], 0⟩ (Int.le_refl _) (by simp) hseg
    (fun k ps size hk => by
      obtain ⟨a, b⟩ := hdom k ps size hk
      exact ⟨by simpa using a, fun p hp => by simpa using b p hp⟩),
    Tie_bitmap_Of_all _ _ fuel' hlen hps
      (by intro n hn; simp only [List.mem_singleton] at hn; subst hn; omega) hfuel']
  exact C12_builder_eq_of segs (fun s hs' => ⟨(hseg s hs').1, (hseg s hs').2.1, (hseg s hs').2.2.1⟩) hs

/-! non-vacuity: three `Extend` calls (one with a position beyond its size, one empty) and `Set`, on generated code -/
example : genExtendAll 4 ⟨[], 0⟩ [([1, 70], 64), ([], 0), ([0], 3)] = some ⟨[2, 2 ^ 6 + 1], 67⟩ := by decide +kernel
example : genSet 3 ⟨[2], 5⟩ 70 3 = some ⟨[2, 2 ^ 6], 71⟩ ∧ genSet 3 ⟨[2], 5⟩ 3 (-2) = some ⟨[2], 5⟩ ∧
    genSet 3 ⟨[2], 5⟩ 3 (-1) = some ⟨[10], 5⟩ ∧ genSet 2 ⟨[2], 5⟩ (-1) 1 = none := by decide +kernel
example := E2E_C12_builder [([1, 70], 64), ([], 0), ([0], 3)] 4 71 (by decide +kernel) (by decide +kernel) (by decide +kernel)
  (by intro k ps size hk
      rcases k with _ | _ | _ | k <;> simp at hk <;> obtain ⟨rfl, rfl⟩ := hk <;> decide +kernel)
example := E2E_C12_builder_set ⟨[2], 5⟩ 70 3 3 (by decide +kernel) (by decide +kernel) (by decide +kernel)
example := E2E_C12_builder_eq_of [([1, 5], 64), ([], 0), ([0], 3)] 4 4 71 (by decide +kernel) (by decide +kernel) (by decide +kernel)
  (by intro k ps size hk
      rcases k with _ | _ | _ | k <;> simp at hk <;> obtain ⟨rfl, rfl⟩ := hk <;> decide +kernel)
  (by decide +kernel) (by decide +kernel) (by decide +kernel) (by decide +kernel) (by decide +kernel)

end Low
