import LowProofs.E2E.C01
import LowProofs.Tie3.bitmap_IndexRank64
import LowProofs.Tie3.bitmap_IndexRank128
/-
  C01 end to end: every clause of `Props/C01.lean` stated PURELY about definitions REGENERATED from the
  go/ssa form of the code: the index builders `bitmap.IndexRank64` / `bitmap.IndexRank128`
  (`Generated/Ssa3/*.lean`, loops are recursion on `fuel`) and the queries `bitmap.Rank64` / `bitmap.Rank128`
  (`Generated/Ssa/*.lean`) called on the index the GENERATED builder returned.  No model function occurs in the
  statements: only generated code and the specifications `rank`, `bitAt`.
  (Composition of `Tie_bitmap_IndexRank64/128` with `E2E_C01_rank64/128` and `C01_indexRank64/128`.)
-/
namespace Low

/-- `C01_indexRank64` on the generated builder.  The code of `IndexRank64(words, opts...)` (regenerated from its SSA
    form), for a bitmap of fewer than `2^25` words (`BmDom`), any `opts` (only `opts[0]` is read; absent = `false`)
    and EVERY `fuel ≥ len(words) + 1`: terminates, does not panic and returns one entry per word -- entry `k` = the
    number of 1-bits before position `64 k` -- plus one final grand-total entry exactly when `trailing = opts[0]` is set.
    Hypotheses: `ws.length < 2^25`, `ws.length + 1 ≤ fuel`. -/
theorem E2E_C01_indexRank64 (ws : List Nat) (opts : List Bool) (fuel : Nat) (hlen : ws.length < 2^25)
    (hfuel : ws.length + 1 ≤ fuel) :
    Gen.Ssa3.bitmap_IndexRank64 fuel ws opts
      = some ((List.range (ws.length + (opts.headD false).toNat)).map (fun k => (rank ws (64 * k) : Int))) := by
  rw [Tie_bitmap_IndexRank64 ws opts fuel hlen hfuel, C01_indexRank64, List.map_map]
  rfl

/-- `C01_indexRank128` on the generated builder.  The code of `IndexRank128(words)` (regenerated from its SSA form), for
    a bitmap of fewer than `2^25` words and EVERY `fuel ≥ len(words) + 1`: terminates, does not panic and returns
    `len/2 + 1` entries, entry `k` = the number of 1-bits before position `128 k`.
    Hypotheses: `ws.length < 2^25`, `ws.length + 1 ≤ fuel`. -/
theorem E2E_C01_indexRank128 (ws : List Nat) (fuel : Nat) (hlen : ws.length < 2^25) (hfuel : ws.length + 1 ≤ fuel) :
    Gen.Ssa3.bitmap_IndexRank128 fuel ws
      = some ((List.range (ws.length / 2 + 1)).map (fun k => (rank ws (128 * k) : Int))) := by
  rw [Tie_bitmap_IndexRank128 ws fuel hlen hfuel, C01_indexRank128, List.map_map]
  rfl

/-- `C01_rank64`, builder and query both generated.  For a bitmap of fewer than `2^25` words, any `opts` (either value of
    `trailing`) and every `fuel ≥ len + 1`: the code of `IndexRank64` returns an index `idx` (no panic), and the code
    of `Rank64` called with THAT index returns, for every position `i` inside the bitmap, without panic, exactly
    (number of 1-bits of `ws` before `i`, bit `i` of `ws`).
    Hypotheses: `ws.length < 2^25`, `ws.length + 1 ≤ fuel`; per query `i < 64 * ws.length`. -/
theorem E2E_C01_rank64_full (ws : List Nat) (opts : List Bool) (fuel : Nat) (hlen : ws.length < 2^25)
    (hfuel : ws.length + 1 ≤ fuel) :
    ∃ idx, Gen.Ssa3.bitmap_IndexRank64 fuel ws opts = some idx ∧
      ∀ i, i < 64 * ws.length →
        Gen.Ssa.bitmap_Rank64 ws idx (i : Int) = some ((rank ws i : Int), ((bitAt ws i).toNat : Int)) :=
  ⟨_, Tie_bitmap_IndexRank64 ws opts fuel hlen hfuel, fun i hi => E2E_C01_rank64 ws _ i hlen hi⟩

/-- the same as one equation: build the index with the generated `IndexRank64`, then query with the generated `Rank64` -/
theorem E2E_C01_rank64_bind (ws : List Nat) (opts : List Bool) (fuel i : Nat) (hlen : ws.length < 2^25)
    (hfuel : ws.length + 1 ≤ fuel) (hi : i < 64 * ws.length) :
    (Gen.Ssa3.bitmap_IndexRank64 fuel ws opts).bind (fun idx => Gen.Ssa.bitmap_Rank64 ws idx (i : Int))
      = some ((rank ws i : Int), ((bitAt ws i).toNat : Int)) := by
  rw [Tie_bitmap_IndexRank64 ws opts fuel hlen hfuel, Option.bind_some]
  exact E2E_C01_rank64 ws _ i hlen hi

/-- `C01_rank128`, builder and query both generated.  For a bitmap of fewer than `2^25` words and every
    `fuel ≥ len + 1`: the code of `IndexRank128` returns an index `idx` (no panic), and the code of `Rank128` called
    with THAT index returns, for every position `i` inside the bitmap, without panic, exactly
    (number of 1-bits of `ws` before `i`, bit `i` of `ws`).
    Hypotheses: `ws.length < 2^25`, `ws.length + 1 ≤ fuel`; per query `i < 64 * ws.length`. -/
theorem E2E_C01_rank128_full (ws : List Nat) (fuel : Nat) (hlen : ws.length < 2^25) (hfuel : ws.length + 1 ≤ fuel) :
    ∃ idx, Gen.Ssa3.bitmap_IndexRank128 fuel ws = some idx ∧
      ∀ i, i < 64 * ws.length →
        Gen.Ssa.bitmap_Rank128 ws idx (i : Int) = some ((rank ws i : Int), ((bitAt ws i).toNat : Int)) :=
  ⟨_, Tie_bitmap_IndexRank128 ws fuel hlen hfuel, fun i hi => E2E_C01_rank128 ws i hlen hi⟩

/-- the same as one equation -/
theorem E2E_C01_rank128_bind (ws : List Nat) (fuel i : Nat) (hlen : ws.length < 2^25)
    (hfuel : ws.length + 1 ≤ fuel) (hi : i < 64 * ws.length) :
    (Gen.Ssa3.bitmap_IndexRank128 fuel ws).bind (fun idx => Gen.Ssa.bitmap_Rank128 ws idx (i : Int))
      = some ((rank ws i : Int), ((bitAt ws i).toNat : Int)) := by
  rw [Tie_bitmap_IndexRank128 ws fuel hlen hfuel, Option.bind_some]
  exact E2E_C01_rank128 ws i hlen hi

/-! non-vacuity: generated builder, then generated query, on a concrete bitmap (odd length for Rank128) -/
example : Gen.Ssa3.bitmap_IndexRank64 4 [5, 2^63, 7] [true] = some [0, 2, 3, 6] := by decide +kernel
example : (Gen.Ssa3.bitmap_IndexRank64 4 [5, 2^63, 7] [true]).bind (fun idx => Gen.Ssa.bitmap_Rank64 [5, 2^63, 7] idx 127)
    = some (2, 1) := by decide +kernel
example : (Gen.Ssa3.bitmap_IndexRank64 4 [5, 2^63, 7] []).bind (fun idx => Gen.Ssa.bitmap_Rank64 [5, 2^63, 7] idx 130)
    = some (5, 1) := by decide +kernel
example : Gen.Ssa3.bitmap_IndexRank128 4 [5, 2^63, 7] = some [0, 3] := by decide +kernel
example : (Gen.Ssa3.bitmap_IndexRank128 4 [5, 2^63, 7]).bind (fun idx => Gen.Ssa.bitmap_Rank128 [5, 2^63, 7] idx 131)
    = some (6, 0) := by decide +kernel
example : (Gen.Ssa3.bitmap_IndexRank64 4 [5, 2^63, 7] [true]).bind
      (fun idx => Gen.Ssa.bitmap_Rank64 [5, 2^63, 7] idx ((127 : Nat) : Int))
    = some ((rank [5, 2^63, 7] 127 : Int), ((bitAt [5, 2^63, 7] 127).toNat : Int)) :=
  E2E_C01_rank64_bind [5, 2^63, 7] [true] 4 127 (by decide +kernel) (by decide +kernel) (by decide +kernel)

end Low
