import LowProofs.E2E.C09
import LowProofs.Tie3.bitstr_New
/-
  C09 end to end: `C09_new`, `C09_cmp` (+ `C09_cmp_eq_zero`, `C09_cmp_antisymm`), `C09_cmpUpto` stated
  PURELY about definitions REGENERATED from the go/ssa form of `bitstr.New` (`Generated/Ssa3/bitstr_New.lean`: the byte
  slice it allocates is a functional list), `bitstr.Len` (`Generated/Ssa/`), `bitstr.Cmp`, `bitstr.CmpUpto`
  (`Generated/Ssa2/`), the latter three called on the encodings the GENERATED `New` returned.  No model function occurs
  in the statements: only generated code and the specifications `bitsBE`, `bsPayload`, `lexCmp`, `BytesOK`.
  (`StrCmpUpto` is in `E2E9/C09.lean`.)

  Domain.  `New` computes `toBit + 7` in `int32`: the hypothesis `t + 7 < 2^31` on the INPUT `toBit` (implied by
  `len(s) + 1 < 2^28` and `t ≤ 8*len(s)`, which the `Len` clause needs anyway).
-/
namespace Low

/-- `C09_new` on generated code.  For a byte string `s` with `len(s) + 1 < 2^28` and `0 ≤ from ≤ to ≤ 8*len(s)`: the
    code of `New(s, from, to)` (regenerated from its SSA form) does not panic and returns bytes `enc` on which the code
    of `Len` (regenerated) returns, without panic, the length in bits of the bit string `s[8*floor(from/8), to)`; the
    first `Len` bits of `enc` are exactly that bit string.
    Hypotheses: `BytesOK s`, `f ≤ t`, `t ≤ 8 * s.length`, `s.length + 1 < 2^28` (it gives the ties' `f < 2^31`,
    `t + 7 < 2^31`, `len(enc) < 2^28`). -/
theorem E2E_C09_new (s : List Nat) (hs : BytesOK s) (f t : Nat) (hft : f ≤ t) (ht : t ≤ 8 * s.length)
    (hlen : s.length + 1 < 2^28) :
    ∃ enc, Gen.Ssa3.bitstr_New s (f : Int) (t : Int) = some enc ∧ BytesOK enc ∧
      Gen.Ssa.bitstr_Len enc = some ((t : Int) - 8 * ((f / 8 : Nat) : Int)) ∧
      (bitsBE enc).take (t - 8 * (f / 8)) = bsPayload s f t := by
  rw [Tie_bitstr_New s f t (by omega) (by omega)]
  exact E2E_C09_new_len s hs f t hft ht hlen

/-- `C09_cmp` on generated code.  The code of `New` (regenerated) on `(s, f, t)` and on `(s', f', t')` does not panic,
    and the code of `Cmp` (regenerated) on the two encodings it returned does not panic and returns the sign of the
    lexicographic comparison of the two bit strings `s[8⌊f/8⌋, t)`, `s'[8⌊f'/8⌋, t')`, a proper prefix sorting first.
    Hypotheses: `BytesOK s`, `f ≤ t`, `t ≤ 8 * s.length`, `t + 7 < 2^31`, `s.length + 1 < 2^63` (a Go length fits an
    `int`), and the same for the primed inputs. -/
theorem E2E_C09_cmp_full (s : List Nat) (hs : BytesOK s) (f t : Nat) (hft : f ≤ t) (ht : t ≤ 8 * s.length)
    (s' : List Nat) (hs' : BytesOK s') (f' t' : Nat) (hft' : f' ≤ t') (ht' : t' ≤ 8 * s'.length)
    (hdom : t + 7 < 2^31) (hdom' : t' + 7 < 2^31) (hlen : s.length + 1 < 2^63) (hlen' : s'.length + 1 < 2^63) :
    ∃ enc enc', Gen.Ssa3.bitstr_New s (f : Int) (t : Int) = some enc ∧
      Gen.Ssa3.bitstr_New s' (f' : Int) (t' : Int) = some enc' ∧
      Gen.Ssa2.bitstr_Cmp enc enc' = some (lexCmp (bsPayload s f t) (bsPayload s' f' t')) := by
  obtain ⟨enc, he, _⟩ := C09_new s hs f t hft ht
  obtain ⟨enc', he', _⟩ := C09_new s' hs' f' t' hft' ht'
  refine ⟨enc, enc', by rw [Tie_bitstr_New s f t (by omega) hdom, he],
    by rw [Tie_bitstr_New s' f' t' (by omega) hdom', he'], ?_⟩
  exact E2E_C09_cmp s hs f t hft ht s' hs' f' t' hft' ht' hlen hlen' enc enc' he he'

/-- consequences of `E2E_C09_cmp_full` and the order laws of `lexCmp`, on generated code: `Cmp` of two encodings made
    by `New` is `0` exactly when the two bit strings are equal, and swapping the arguments negates the result. -/
theorem E2E_C09_cmp_laws (s : List Nat) (hs : BytesOK s) (f t : Nat) (hft : f ≤ t) (ht : t ≤ 8 * s.length)
    (s' : List Nat) (hs' : BytesOK s') (f' t' : Nat) (hft' : f' ≤ t') (ht' : t' ≤ 8 * s'.length)
    (hdom : t + 7 < 2^31) (hdom' : t' + 7 < 2^31) (hlen : s.length + 1 < 2^63) (hlen' : s'.length + 1 < 2^63) :
    ∃ enc enc' r, Gen.Ssa3.bitstr_New s (f : Int) (t : Int) = some enc ∧
      Gen.Ssa3.bitstr_New s' (f' : Int) (t' : Int) = some enc' ∧
      Gen.Ssa2.bitstr_Cmp enc enc' = some r ∧ Gen.Ssa2.bitstr_Cmp enc' enc = some (-r) ∧
      (r = 0 ↔ bsPayload s f t = bsPayload s' f' t') ∧ (r = -1 ∨ r = 0 ∨ r = 1) := by
  obtain ⟨enc, enc', h1, h2, h3⟩ := E2E_C09_cmp_full s hs f t hft ht s' hs' f' t' hft' ht' hdom hdom' hlen hlen'
  obtain ⟨enc2, enc1, h2', h1', h4⟩ := E2E_C09_cmp_full s' hs' f' t' hft' ht' s hs f t hft ht hdom' hdom hlen' hlen
  rw [h1] at h1'; rw [h2] at h2'
  cases h1'; cases h2'
  refine ⟨enc, enc', _, h1, h2, h3, ?_, lexCmp_eq_zero _ _, lexCmp_range _ _⟩
  rw [h4, lexCmp_swap]

/-- `C09_cmpUpto` on generated code.  For plain bytes `a` of ANY length, the code of `New(s, f, t)` (regenerated) does
    not panic, and the code of `CmpUpto` (regenerated) on `a` and the encoding it returned, for EVERY `fuel ≥ 9`,
    terminates, does not panic, and returns the sign of comparing the first `Len(enc)` bits of `a` (all of `a` when
    shorter) with the encoded bit string.
    Hypotheses: `BytesOK a`, `BytesOK s`, `f ≤ t`, `t ≤ 8 * s.length`, `t + 7 < 2^31`, `s.length + 1 < 2^63`,
    `9 ≤ fuel`. -/
theorem E2E_C09_cmpUpto_full (a : List Nat) (ha : BytesOK a)
    (s : List Nat) (hs : BytesOK s) (f t : Nat) (hft : f ≤ t) (ht : t ≤ 8 * s.length)
    (hdom : t + 7 < 2^31) (hlen : s.length + 1 < 2^63) (fuel : Nat) (hfuel : 9 ≤ fuel) :
    ∃ enc, Gen.Ssa3.bitstr_New s (f : Int) (t : Int) = some enc ∧
      Gen.Ssa2.bitstr_CmpUpto fuel a enc
        = some (lexCmp ((bitsBE a).take (t - 8 * (f / 8))) (bsPayload s f t)) := by
  obtain ⟨enc, he, _⟩ := C09_new s hs f t hft ht
  exact ⟨enc, by rw [Tie_bitstr_New s f t (by omega) hdom, he],
    E2E_C09_cmpUpto a ha s hs f t hft ht hlen fuel hfuel enc he⟩

/-! non-vacuity: `New("abc", 5, 12) = 61 60 f0` by the generated code, then generated `Len` / `Cmp` / `CmpUpto` -/
example : Gen.Ssa3.bitstr_New [0x61, 0x62, 0x63] 5 12 = some [0x61, 0x60, 0xf0] := by decide +kernel
example : (Gen.Ssa3.bitstr_New [0x61, 0x62, 0x63] 5 12).bind Gen.Ssa.bitstr_Len = some 12 := by decide +kernel
example : (Gen.Ssa3.bitstr_New [0x61, 0x62, 0x63] 5 12).bind (fun e =>
    (Gen.Ssa3.bitstr_New [0x61, 0x62, 0x7f] 0 16).bind (fun e' => Gen.Ssa2.bitstr_Cmp e e')) = some (-1) := by
  decide +kernel
example : (Gen.Ssa3.bitstr_New [0x61, 0x62, 0x63] 5 12).bind (Gen.Ssa2.bitstr_CmpUpto 9 [0x61, 0x6f, 0x00]) = some 0 := by
  decide +kernel
example := E2E_C09_new [0x61, 0x62, 0x63] (by unfold BytesOK; decide +kernel) 5 12 (by decide +kernel) (by decide +kernel) (by decide +kernel)

end Low
