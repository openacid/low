import LowProofs.Props.C06
import LowProofs.Props.C07
import LowProofs.Tie5.pbcmpl_Unmarshal
import LowProofs.Tie5.pbcmpl_Marshal
/-
  C07 end to end: the clauses of C07 (`C07_truncated`, `C07_readError`, `C07_headerSize`, `C07_bodySize`, `C07_total`,
  `C07_total_readHeader`, `C07_success_complete`, `C07_writer`, `C07_writer_any`) stated about the definitions REGENERATED
  from the go/ssa form of `pbcmpl.Unmarshal`, `ReadHeader`, `Marshal` (and what they call), executed against the oracles
  `Tie5.X` in a world `w : Tie5.World`.  No function of the hand-written model occurs in the statements; `frameBytes` is the
  wire format.  (Composition of the ties of `LowProofs/Tie5` with the theorems of `Props/C07.lean`.)
  Error values: the code returns `errors.WithStack(e)`, here `Err.wrapped e k` (a fresh wrapper, `k` = number of wrappers
  made before); `Tie5.errOf` names the value of each class (`io.EOF`, `io.ErrUnexpectedEOF`, `ErrInvalidHeaderSize`,
  `ErrInvalidBodySize`, the reader's own error).  The writer's error comes back unwrapped (`Tie5.wErr`).
  Hypotheses are about the inputs only; `hlen`: the reader delivers fewer than 2^63 bytes (counts are `int64`).
-/
namespace Low
open Low.C06L Low.Tie5 GoSem5

private theorem frame_ok (ver body : List Nat) (hv : ver.length ≤ 16) : pbFrame ver body = some (frameBytes ver body) :=
  (C06_marshal true (32 + body.length) ver body hv (Nat.le_refl _)).2.1

private theorem embedU_err (w : World) (e : PbErr) (h : (pbUnmarshal w.rd).err = some e) :
    embedU w = (((((pbUnmarshal w.rd).n : Nat) : Int), (pbUnmarshal w.rd).ver, Err.wrapped (errOf e) w.stacks),
      { w with rd := (pbUnmarshal w.rd).rest, stacks := w.stacks + 1 }) := by
  unfold embedU; simp only [h]

private theorem embedU_ok (w : World) (h : (pbUnmarshal w.rd).err = none) (hu : w.uErr = .nil) :
    embedU w = (((((pbUnmarshal w.rd).n : Nat) : Int), (pbUnmarshal w.rd).ver, Err.nil),
      { w with rd := (pbUnmarshal w.rd).rest, got := (pbUnmarshal w.rd).body }) := by
  unfold embedU; simp only [h, wrapE, hu, if_true]

/-- `C07_truncated` on generated code: on any strict prefix of a frame, then EOF, `Unmarshal` never succeeds (the message
    receives nothing), returns the number of bytes that were available and `WithStack(io.EOF)` when nothing was
    available or the cut is right after the header, `WithStack(io.ErrUnexpectedEOF)` otherwise; the reader is drained. -/
theorem E2E_C07_truncated (w : World) (r msg : Obj) (ver body : List Nat) (k fuel : Nat)
    (hr : w.rd = ⟨(frameBytes ver body).take k, .eof⟩)
    (hv : ver.length ≤ 16) (hb : body.length < 2 ^ 63) (hk : k < (frameBytes ver body).length) (hk63 : k < 2^63)
    (hfuel : 17 ≤ fuel) :
    ∃ v' : List Nat, Gen.Ssa5.pbcmpl_Unmarshal fuel X r msg 32 w =
      some (((k : Int), v', Err.wrapped (errOf (if k = 0 ∨ k = 32 then .eof else .unexpectedEOF)) w.stacks),
            { w with rd := ⟨[], .eof⟩, stacks := w.stacks + 1 }) := by
  obtain ⟨h1, _, h3, h4⟩ := C07_truncated ver body _ k (frame_ok ver body hv) hb hk
  rw [← hr] at h1 h3 h4
  refine ⟨(pbUnmarshal w.rd).ver, ?_⟩
  rw [Tie_pbcmpl_Unmarshal w r msg fuel hfuel (by rw [hr]; simp [List.length_take]; omega), embedU_err w _ h3, h1, h4]

/-- `C07_readError` on generated code: a strict prefix of a frame, then a reader error: that error (wrapped) comes back
    with the count of bytes that were available; never success. -/
theorem E2E_C07_readError (w : World) (r msg : Obj) (ver body : List Nat) (k fuel : Nat)
    (hr : w.rd = ⟨(frameBytes ver body).take k, .injected⟩)
    (hv : ver.length ≤ 16) (hb : body.length < 2 ^ 63) (hk : k < (frameBytes ver body).length) (hk63 : k < 2^63)
    (hfuel : 17 ≤ fuel) :
    ∃ v' : List Nat, Gen.Ssa5.pbcmpl_Unmarshal fuel X r msg 32 w =
      some (((k : Int), v', Err.wrapped (errOf .injected) w.stacks),
            { w with rd := ⟨[], .injected⟩, stacks := w.stacks + 1 }) := by
  obtain ⟨h1, _, h3, h4⟩ := C07_readError ver body _ k (frame_ok ver body hv) hb hk
  rw [← hr] at h1 h3 h4
  refine ⟨(pbUnmarshal w.rd).ver, ?_⟩
  rw [Tie_pbcmpl_Unmarshal w r msg fuel hfuel (by rw [hr]; simp [List.length_take]; omega), embedU_err w _ h3, h1, h4]

example : (List.range 35).map (fun k => (Gen.Ssa5.pbcmpl_Unmarshal 17 X theReader theMsg 32
      (ofReader ⟨(frameBytes [49, 46, 48] [7, 8, 9]).take k, .eof⟩)).map (fun x => (x.1.1, x.1.2.2, x.2.got))) =
    (List.range 35).map (fun k => some (Int.ofNat k,
      Err.wrapped (errOf (if k = 0 ∨ k = 32 then .eof else .unexpectedEOF)) 0, none)) := by decide +kernel

example : (List.range 35).map (fun k => (Gen.Ssa5.pbcmpl_Unmarshal 17 X theReader theMsg 32
      (ofReader ⟨(frameBytes [49, 46, 48] [7, 8, 9]).take k, .injected⟩)).map (fun x => (x.1.1, x.1.2.2, x.2.got))) =
    (List.range 35).map (fun k => some (Int.ofNat k, Err.wrapped (errOf .injected) 0, none)) := by decide +kernel

/-- `C07_headerSize` on generated code: any 32 bytes whose header-size field is not 32, followed by anything:
    `WithStack(ErrInvalidHeaderSize)` after consuming exactly 32 bytes; the version field is still reported. -/
theorem E2E_C07_headerSize (w : World) (r msg : Obj) (hdr rest : List Nat) (e : PbErr) (fuel : Nat)
    (hr : w.rd = ⟨hdr ++ rest, e⟩) (hl : hdr.length = 32)
    (hs : wrap64 (unle ((hdr.drop 16).take 8)) ≠ 32) (hlen : (hdr ++ rest).length < 2^63) (hfuel : 17 ≤ fuel) :
    Gen.Ssa5.pbcmpl_Unmarshal fuel X r msg 32 w =
      some ((32, verStr (hdr.take 16), Err.wrapped (.var "pbcmpl.ErrInvalidHeaderSize") w.stacks),
            { w with rd := ⟨rest, e⟩, stacks := w.stacks + 1 }) := by
  have hm := C07_headerSize hdr rest e hl hs
  rw [← hr] at hm
  rw [Tie_pbcmpl_Unmarshal w r msg fuel hfuel (by rw [hr]; exact hlen), embedU_err w .invalidHeaderSize (by rw [hm]), hm]
  rfl

/-- `C07_bodySize` on generated code: header size 32 but a body-size field ≥ 2^63 (negative as int64):
    `WithStack(ErrInvalidBodySize)` after exactly 32 bytes; nothing is read or allocated for the body. -/
theorem E2E_C07_bodySize (w : World) (r msg : Obj) (hdr rest : List Nat) (e : PbErr) (fuel : Nat)
    (hr : w.rd = ⟨hdr ++ rest, e⟩) (hl : hdr.length = 32)
    (hs : wrap64 (unle ((hdr.drop 16).take 8)) = 32) (hbs : wrap64 (unle ((hdr.drop 24).take 8)) < 0)
    (hlen : (hdr ++ rest).length < 2^63) (hfuel : 17 ≤ fuel) :
    Gen.Ssa5.pbcmpl_Unmarshal fuel X r msg 32 w =
      some ((32, verStr (hdr.take 16), Err.wrapped (.var "pbcmpl.ErrInvalidBodySize") w.stacks),
            { w with rd := ⟨rest, e⟩, stacks := w.stacks + 1 }) := by
  have hm := C07_bodySize hdr rest e hl hs hbs
  rw [← hr] at hm
  rw [Tie_pbcmpl_Unmarshal w r msg fuel hfuel (by rw [hr]; exact hlen), embedU_err w .invalidBodySize (by rw [hm]), hm]
  rfl

example : (Gen.Ssa5.pbcmpl_Unmarshal 17 X theReader theMsg 32
      (ofReader ⟨List.replicate 16 65 ++ le64 (2^32 + 32) ++ le64 0 ++ [1, 2], .eof⟩)).map (fun x => (x.1, x.2.rd)) =
    some ((32, List.replicate 16 65, Err.wrapped (.var "pbcmpl.ErrInvalidHeaderSize") 0), ⟨[1, 2], .eof⟩) := by decide +kernel
example : (Gen.Ssa5.pbcmpl_Unmarshal 17 X theReader theMsg 32
      (ofReader ⟨List.replicate 16 0 ++ le64 32 ++ le64 (2^64 - 1) ++ [1, 2], .eof⟩)).map (fun x => (x.1, x.2.rd)) =
    some ((32, [], Err.wrapped (.var "pbcmpl.ErrInvalidBodySize") 0), ⟨[1, 2], .eof⟩) := by decide +kernel

/-- `C07_total` on generated code: for ARBITRARY bytes and end error `Unmarshal` returns normally (`some`: no panic — in
    particular the `Header` it dereferences is never nil); the count is non-negative and at most the bytes available;
    the reader is left exactly after the counted bytes; and the error is nil exactly when `proto.Unmarshal` was handed a
    body (for a message that had received nothing before and a `proto.Unmarshal` that succeeds). -/
theorem E2E_C07_total (w : World) (r msg : Obj) (bytes : List Nat) (e : PbErr) (fuel : Nat)
    (hr : w.rd = ⟨bytes, e⟩) (hg : w.got = none) (hu : w.uErr = .nil) (hlen : bytes.length < 2^63) (hfuel : 17 ≤ fuel) :
    ∃ (n : Nat) (v : List Nat) (err : Err) (w' : World),
      Gen.Ssa5.pbcmpl_Unmarshal fuel X r msg 32 w = some (((n : Int), v, err), w') ∧
      n ≤ bytes.length ∧ (err = Err.nil ↔ w'.got ≠ none) ∧ w'.rd = ⟨bytes.drop n, e⟩ := by
  obtain ⟨h1, h2, h3⟩ := C07_total bytes e
  rw [← hr] at h1 h2 h3
  rw [Tie_pbcmpl_Unmarshal w r msg fuel hfuel (by rw [hr]; exact hlen)]
  cases herr : (pbUnmarshal w.rd).err with
  | some pe =>
    refine ⟨(pbUnmarshal w.rd).n, (pbUnmarshal w.rd).ver, _,
      { w with rd := (pbUnmarshal w.rd).rest, stacks := w.stacks + 1 }, by rw [embedU_err w pe herr], h1, ?_, h3⟩
    simp [hg]
  | none =>
    refine ⟨(pbUnmarshal w.rd).n, (pbUnmarshal w.rd).ver, _,
      { w with rd := (pbUnmarshal w.rd).rest, got := (pbUnmarshal w.rd).body }, by rw [embedU_ok w herr hu], h1, ?_, h3⟩
    have := h2.1 herr
    simpa using this

/-- corrupted size fields of every magnitude: always a normal return, never more than the input consumed -/
example : ([0, 2, 3, 33, 2 ^ 31, 2 ^ 63 - 1, 2 ^ 63, 2 ^ 64 - 1].map fun s =>
      (Gen.Ssa5.pbcmpl_Unmarshal 17 X theReader theMsg 32
        (ofReader ⟨List.replicate 16 0 ++ le64 32 ++ le64 s ++ [1, 2], .eof⟩)).map (fun x => (x.1.1, classOf x.1.2.2, x.2.got))) =
    [some (32, none, some []), some (34, none, some [1, 2]), some (34, some .unexpectedEOF, none),
     some (34, some .unexpectedEOF, none), some (34, some .unexpectedEOF, none), some (34, some .unexpectedEOF, none),
     some (32, some .invalidBodySize, none), some (32, some .invalidBodySize, none)] := by decide +kernel

/-- `C07_total_readHeader` on generated code: `ReadHeader` returns normally on arbitrary input, the count is at most the
    bytes available, the reader is left after the counted bytes, and the error is nil exactly when a `Header` is returned. -/
theorem E2E_C07_total_readHeader (w : World) (r : Obj) (bytes : List Nat) (e : PbErr) (hr : w.rd = ⟨bytes, e⟩) :
    ∃ (n : Nat) (h : Option GoSem5.Header) (err : Err) (w' : World),
      Gen.Ssa5.pbcmpl_ReadHeader X r 32 w = some (((n : Int), h, err), w') ∧
      n ≤ bytes.length ∧ (err = Err.nil ↔ h ≠ none) ∧ w'.rd = ⟨bytes.drop n, e⟩ := by
  rw [Tie_pbcmpl_ReadHeader_raw]
  unfold embedRH
  rcases readFull_cases w.rd 32 with ⟨h, hle⟩ | ⟨err, h, hlt⟩
  · rw [h]
    refine ⟨32, _, _, _, rfl, by rw [hr] at hle; exact hle, by simp, by simp [hr]⟩
  · rw [h]
    refine ⟨_, _, _, _, rfl, by simp [hr], by simp, ?_⟩
    simp [hr]

example : ([0, 1, 31, 32, 40].map fun k => (Gen.Ssa5.pbcmpl_ReadHeader X theReader 32 (ofReader ⟨List.replicate k 7, .eof⟩)).map
      (fun x => (x.1.1, x.1.2.1.isSome, classOf x.1.2.2, x.2.rd.avail.length))) =
    [some (0, false, some .eof, 0), some (1, false, some .unexpectedEOF, 0), some (31, false, some .unexpectedEOF, 0),
     some (32, true, none, 0), some (32, true, none, 8)] := by decide +kernel

/-- `C07_success_complete` on generated code: `Unmarshal` reports no error only if a complete frame was present: the
    message then received exactly `|b|` bytes `b` that follow a 32-byte header whose header-size field is 32 and whose
    body-size field is `|b|`; the count is the length of that frame and the reader is left right after it. -/
theorem E2E_C07_success_complete (w w' : World) (r msg : Obj) (bytes v : List Nat) (e : PbErr) (n : Int) (fuel : Nat)
    (hr : w.rd = ⟨bytes, e⟩) (hlen : bytes.length < 2^63) (hfuel : 17 ≤ fuel)
    (h : Gen.Ssa5.pbcmpl_Unmarshal fuel X r msg 32 w = some ((n, v, Err.nil), w')) :
    ∃ b : List Nat, w'.got = some b ∧
      32 + b.length ≤ bytes.length ∧
      wrap64 (unle ((bytes.drop 16).take 8)) = 32 ∧
      wrap64 (unle ((bytes.drop 24).take 8)) = (b.length : Int) ∧
      (bytes.drop 32).take b.length = b ∧
      n = ((32 + b.length : Nat) : Int) ∧
      w'.rd = ⟨bytes.drop (32 + b.length), e⟩ := by
  rw [Tie_pbcmpl_Unmarshal w r msg fuel hfuel (by rw [hr]; exact hlen)] at h
  cases herr : (pbUnmarshal w.rd).err with
  | some pe => rw [embedU_err w pe herr] at h; simp at h
  | none =>
    have hbody : (pbUnmarshal w.rd).body ≠ none := by
      have := (C07_total bytes e).2.1.1
      rw [← hr] at this
      exact this herr
    obtain ⟨b, hb⟩ := Option.ne_none_iff_exists'.1 hbody
    obtain ⟨c1, c2, c3, c4, c5, _, c7⟩ := C07_success_complete bytes b e (by rw [← hr]; exact hb)
    rw [← hr] at c5 c7
    unfold embedU at h
    simp only [herr, wrapE] at h
    split at h
    · simp only [Option.some.injEq, Prod.mk.injEq] at h
      obtain ⟨⟨hn, _, _⟩, hw'⟩ := h
      refine ⟨b, by rw [← hw', hb], c1, c2, c3, c4, by rw [← hn, c5], by rw [← hw', c7]⟩
    · simp at h

example : (Gen.Ssa5.pbcmpl_Unmarshal 17 X theReader theMsg 32
      (ofReader ⟨List.replicate 16 0 ++ le64 32 ++ le64 2 ++ [1, 2, 3], .eof⟩)).map (fun x => (x.1, x.2.got)) =
    some ((34, [], Err.nil), some [1, 2]) := by decide +kernel

/-- `C07_writer` on generated code: the destination writer has room for `cap < |frame|` bytes.  `Marshal` reports the
    writer's error and the count `k` of bytes the writer took, which are exactly the first `k` bytes of the frame:
    `k = cap` for a writer that accepts partially, `k = 0` / `32` for an all-or-nothing writer. -/
theorem E2E_C07_writer (w : World) (wr msg : Obj) (m : Bool) (cap : Nat) (rest : List WAns)
    (hw : w.wans = capAns m cap 32 :: capAns m (cap - 32) w.body.length :: rest) (hm : w.mErr = .nil)
    (hv : (verOf w).length ≤ 16) (hb : 32 + w.body.length < 2^63) (hc : cap < (frameBytes (verOf w) w.body).length) :
    (Gen.Ssa5.pbcmpl_Marshal X wr msg 32 w).map (fun res => (res.1.1, decide (res.1.2 ≠ Err.nil), res.2.wrote)) =
      some (if m then (((if cap < 32 then 0 else 32 : Nat) : Int), true,
                        w.wrote ++ (frameBytes (verOf w) w.body).take (if cap < 32 then 0 else 32))
            else ((cap : Int), true, w.wrote ++ (frameBytes (verOf w) w.body).take cap)) := by
  rw [Tie_pbcmpl_Marshal_cap w wr msg m cap rest hw hm hb]
  obtain ⟨h1, h2⟩ := C07_writer (verOf w) w.body _ cap (frame_ok (verOf w) w.body hv) hc
  cases m with
  | false => rw [h1]; simp
  | true => rw [h2]; simp

/-- `C07_writer_any` on generated code: ANY writer, scripted call by call (an answer may be short, may fail, may fail after
    taking the whole buffer): the count `Marshal` returns is the number of bytes the writer took, those are the first `k`
    bytes of the frame, the writer's failure (its own error value) is reported, and the body is not written after a
    failed header write (`wcalls`). -/
theorem E2E_C07_writer_any (w : World) (wr msg : Obj) (a1 a2 : WAns) (rest : List WAns)
    (hw : w.wans = a1 :: a2 :: rest) (hm : w.mErr = .nil)
    (hv : (verOf w).length ≤ 16) (hb : 32 + w.body.length < 2^63) :
    (Gen.Ssa5.pbcmpl_Marshal X wr msg 32 w).map (fun res => (res.1, res.2.wrote, res.2.wcalls)) =
      some (if (a1.fail || decide (min a1.accept 32 < 32)) = true
        then ((((min a1.accept 32 : Nat) : Int), wErr), w.wrote ++ (frameBytes (verOf w) w.body).take (min a1.accept 32),
              w.wcalls + 1)
        else ((((32 + min a2.accept w.body.length : Nat) : Int),
               if (a2.fail || decide (min a2.accept w.body.length < w.body.length)) = true then wErr else Err.nil),
              w.wrote ++ (frameBytes (verOf w) w.body).take (32 + min a2.accept w.body.length), w.wcalls + 2)) := by
  rw [Tie_pbcmpl_Marshal w wr msg a1 a2 rest hw hm hb]
  unfold embedM
  rw [C07_writer_any (verOf w) w.body _ a1 a2 (frame_ok (verOf w) w.body hv)]
  by_cases h1 : (a1.fail || decide (min a1.accept 32 < 32)) = true
  · simp [h1, hdrFailed]
  · simp [h1, hdrFailed]

example : (Gen.Ssa5.pbcmpl_Marshal X theWriter theMsg 32 (ofWriter none [7, 8, 9] [⟨32, true⟩, ⟨3, false⟩])).map
      (fun res => (res.1, res.2.wrote, res.2.wcalls)) =
    some ((32, wErr), (frameBytes [49, 46, 48, 46, 48] [7, 8, 9]).take 32, 1) := by decide +kernel
example : (Gen.Ssa5.pbcmpl_Marshal X theWriter theMsg 32 (ofWriter none [7, 8, 9] [capAns false 33 32, capAns false 1 3])).map
      (fun res => (res.1.1, decide (res.1.2 ≠ Err.nil), res.2.wrote)) =
    some (33, true, (frameBytes [49, 46, 48, 46, 48] [7, 8, 9]).take 33) := by decide +kernel

end Low
