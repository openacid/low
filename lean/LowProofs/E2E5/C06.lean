import LowProofs.Props.C06
import LowProofs.Tie5.pbcmpl_Unmarshal
import LowProofs.Tie5.pbcmpl_Marshal
import LowProofs.Tie5.pbcmpl_Size
/-
  C06 end to end: the clauses of C06 (`C06_marshal`, `C06_readHeader`, `C06_unmarshal`, `C06_unmarshal_anyver`, `C06_stream`)
  stated about the definitions REGENERATED from the go/ssa form of `pbcmpl.Marshal`, `marshal`, `newHeader`, `Size`,
  `HeaderSize`, `ReadHeader`, `Unmarshal`, the getters of `*headerInfo` and `verStr` (`Generated/Ssa5`, `Ssa4`), executed
  against the oracles `Tie5.X` (`LowProofs/Tie5/Oracles.lean`: the assumed behaviour of `io.ReadFull`, `io.CopyN`, `io.Writer`,
  `proto.Marshal/Unmarshal/Size`, `errors.WithStack`) in a world `w : Tie5.World`.  No function of the hand-written model
  `LowModel/Pbcmpl.lean` occurs in the statements; `frameBytes` (Props/C06) is the specification of the wire format.
  (Composition of the ties of `LowProofs/Tie5` with the theorems of `Props/C06.lean`.)
  Hypotheses are about the inputs only: the version has at most 16 bytes (and, where it must come back unchanged, does not
  end in NUL); `32 + |body| < 2^63` resp. the stream is shorter than 2^63 bytes (counts are `int64`; see the tie
  docstrings); `fuel ≥ 17` (the loop of `verStr`); `proto.Marshal` / `proto.Unmarshal` of the caller's message succeed.
-/
namespace Low
open Low.C06L Low.Tie5 GoSem5

/-- `C06_marshal` on generated code: into a writer with enough room (`cap`; either failure mode) `Marshal` writes exactly
    the frame, returns no error and the count `32 + |body|`, which is also what the regenerated `Size` returns. -/
theorem E2E_C06_marshal (w : World) (wr msg : Obj) (m : Bool) (cap : Nat) (rest : List WAns)
    (hw : w.wans = capAns m cap 32 :: capAns m (cap - 32) w.body.length :: rest) (hm : w.mErr = .nil)
    (hv : (verOf w).length ≤ 16) (hb : 32 + w.body.length < 2^63) (hcap : 32 + w.body.length ≤ cap) :
    (Gen.Ssa5.pbcmpl_Marshal X wr msg 32 w).map (fun res => (res.1.1, res.1.2, res.2.wrote)) =
      some (((32 + w.body.length : Nat) : Int), Err.nil, w.wrote ++ frameBytes (verOf w) w.body) ∧
    (Gen.Ssa5.pbcmpl_Size X msg 32 w).1 = ((32 + w.body.length : Nat) : Int) ∧
    (frameBytes (verOf w) w.body).length = 32 + w.body.length := by
  have h := Tie_pbcmpl_Marshal w wr msg _ _ rest hw hm hb
  have hc := (C06_marshal m cap (verOf w) w.body hv hcap)
  rw [pbMarshal_eq_script] at hc
  refine ⟨?_, by rw [Tie_pbcmpl_Size w msg hb], hc.2.2⟩
  rw [h]; unfold embedM; rw [hc.1]; simp

example : (Gen.Ssa5.pbcmpl_Marshal X theWriter theMsg 32 (ofWriter (some [50, 46, 49]) [7, 8, 9] [capAns true 40 32, capAns true 8 3])).map
      (fun res => (res.1.1, res.1.2, res.2.wrote)) = some (35, Err.nil, frameBytes [50, 46, 49] [7, 8, 9]) := by decide +kernel

/-- `C06_readHeader` on generated code: on a frame followed by anything `ReadHeader` consumes 32 bytes and returns a
    non-nil `Header` whose (regenerated) getters report the version, header size 32 and body size `|body|`. -/
theorem E2E_C06_readHeader (w : World) (r : Obj) (ver body rest : List Nat) (e : PbErr) (fuel : Nat)
    (hr : w.rd = ⟨frameBytes ver body ++ rest, e⟩)
    (hv : ver.length ≤ 16) (hnz : ver.getLast? ≠ some 0) (hb : body.length < 2 ^ 63) (hfuel : 17 ≤ fuel) :
    ∃ h : GoSem5.Header,
      Gen.Ssa5.pbcmpl_ReadHeader X r 32 w = some ((32, some h, Err.nil), { w with rd := ⟨body ++ rest, e⟩ }) ∧
      Gen.Ssa5.pbcmpl_headerInfo_GetVersion fuel h = some ver ∧
      Gen.Ssa5.pbcmpl_headerInfo_GetHeaderSize h = 32 ∧
      Gen.Ssa5.pbcmpl_headerInfo_GetBodySize h = (body.length : Int) := by
  have hl : (pad16 ver ++ le64 32 ++ le64 body.length).length = 32 := pbHeader_length (pbHeader_eq ver body.length hv)
  have hsplit : frameBytes ver body ++ rest = (pad16 ver ++ le64 32 ++ le64 body.length) ++ (body ++ rest) := by
    simp [frameBytes, pad16]
  have hrf := readFull_append (pad16 ver ++ le64 32 ++ le64 body.length) (body ++ rest) e
  rw [hl, ← hsplit, ← hr] at hrf
  have hraw := Tie_pbcmpl_ReadHeader_raw w r
  unfold embedRH at hraw
  rw [hrf] at hraw
  have hi := hdrInfo_frame ver body.length hv hb
  generalize pad16 ver ++ le64 32 ++ le64 body.length = hdr at *
  refine ⟨hdrOf hdr, hraw, ?_, ?_, ?_⟩
  · have h1 : (hdrInfo hdr).ver = verStr (List.take 16 hdr) := by unfold hdrInfo; simp only []
    have hver : verStr ver = ver := by simpa using verStr_pad ver 0 hnz
    unfold hdrOf
    rw [Tie_pbcmpl_headerInfo_GetVersion _ _ _ fuel (by simp [List.length_take]; omega) (by simp [List.length_take]; omega),
      ← h1, hi, hver]
  · have h2 : (hdrInfo hdr).headerSize = wrap64 ((unle (List.take 8 (List.drop 16 hdr)) : Nat) : Int) := by
      unfold hdrInfo; simp only []
    unfold hdrOf
    rw [Tie_pbcmpl_headerInfo_GetHeaderSize, ← h2, hi]
  · have h3 : (hdrInfo hdr).bodySize = wrap64 ((unle (List.take 8 (List.drop 24 hdr)) : Nat) : Int) := by
      unfold hdrInfo; simp only []
    unfold hdrOf
    rw [Tie_pbcmpl_headerInfo_GetBodySize, ← h3, hi]

example : (Gen.Ssa5.pbcmpl_ReadHeader X theReader 32 (ofReader ⟨frameBytes [49, 46, 48] [7, 8, 9] ++ [5], .injected⟩)).map
      (fun res => (res.1.1, res.1.2.2, res.2.rd.avail)) = some (32, Err.nil, [7, 8, 9, 5]) := by decide +kernel
example : ((Gen.Ssa5.pbcmpl_ReadHeader X theReader 32 (ofReader ⟨frameBytes [49, 46, 48] [7, 8, 9] ++ [5], .injected⟩)).bind
      (fun res => res.1.2.1)).map (fun h => (Gen.Ssa5.pbcmpl_headerInfo_GetVersion 17 h,
        Gen.Ssa5.pbcmpl_headerInfo_GetHeaderSize h, Gen.Ssa5.pbcmpl_headerInfo_GetBodySize h)) =
    some (some [49, 46, 48], 32, 3) := by decide +kernel

/-- `C06_unmarshal_anyver` on generated code: on a frame followed by anything `Unmarshal` hands exactly the body to
    `proto.Unmarshal`, returns the version with trailing NULs stripped, the count `32 + |body|`, no error (when
    `proto.Unmarshal` reports none), and leaves the reader right after the frame. -/
theorem E2E_C06_unmarshal_anyver (w : World) (r msg : Obj) (ver body rest : List Nat) (e : PbErr) (fuel : Nat)
    (hr : w.rd = ⟨frameBytes ver body ++ rest, e⟩) (hu : w.uErr = .nil)
    (hv : ver.length ≤ 16) (hb : body.length < 2 ^ 63) (hlen : (frameBytes ver body ++ rest).length < 2^63)
    (hfuel : 17 ≤ fuel) :
    Gen.Ssa5.pbcmpl_Unmarshal fuel X r msg 32 w =
      some ((((32 + body.length : Nat) : Int), verStr ver, Err.nil), { w with rd := ⟨rest, e⟩, got := some body }) := by
  rw [Tie_pbcmpl_Unmarshal w r msg fuel hfuel (by rw [hr]; exact hlen)]
  unfold embedU
  rw [hr, C06_unmarshal_anyver ver body rest e hv hb]
  simp [wrapE, hu]

/-- `C06_unmarshal` on generated code: … and the very version when it does not end in NUL. -/
theorem E2E_C06_unmarshal (w : World) (r msg : Obj) (ver body rest : List Nat) (e : PbErr) (fuel : Nat)
    (hr : w.rd = ⟨frameBytes ver body ++ rest, e⟩) (hu : w.uErr = .nil)
    (hv : ver.length ≤ 16) (hnz : ver.getLast? ≠ some 0) (hb : body.length < 2 ^ 63)
    (hlen : (frameBytes ver body ++ rest).length < 2^63) (hfuel : 17 ≤ fuel) :
    Gen.Ssa5.pbcmpl_Unmarshal fuel X r msg 32 w =
      some ((((32 + body.length : Nat) : Int), ver, Err.nil), { w with rd := ⟨rest, e⟩, got := some body }) := by
  have hver : verStr ver = ver := by simpa using verStr_pad ver 0 hnz
  rw [E2E_C06_unmarshal_anyver w r msg ver body rest e fuel hr hu hv hb hlen hfuel, hver]

example : Gen.Ssa5.pbcmpl_Unmarshal 17 X theReader theMsg 32 (ofReader ⟨frameBytes [49, 46, 48] [7, 8, 9] ++ [5, 5], .eof⟩) =
    some ((35, [49, 46, 48], Err.nil), { ofReader ⟨[5, 5], .eof⟩ with got := some [7, 8, 9] }) := by decide +kernel

/-- Marshal THEN Unmarshal, both regenerated: what `Marshal` made the writer take, read back by `Unmarshal`, is the
    body, the version and the same count. -/
theorem E2E_C06_roundtrip (w : World) (wr rd msg : Obj) (m : Bool) (cap : Nat) (rest : List WAns) (fuel : Nat)
    (hw : w.wans = capAns m cap 32 :: capAns m (cap - 32) w.body.length :: rest) (hm : w.mErr = .nil)
    (hw0 : w.wrote = []) (hu : w.uErr = .nil)
    (hv : (verOf w).length ≤ 16) (hnz : (verOf w).getLast? ≠ some 0) (hb : 32 + w.body.length < 2^63)
    (hcap : 32 + w.body.length ≤ cap) (hfuel : 17 ≤ fuel) :
    ∃ w1 : World, Gen.Ssa5.pbcmpl_Marshal X wr msg 32 w = some ((((32 + w.body.length : Nat) : Int), Err.nil), w1) ∧
      Gen.Ssa5.pbcmpl_Unmarshal fuel X rd msg 32 { w1 with rd := ⟨w1.wrote, .eof⟩ } =
        some ((((32 + w.body.length : Nat) : Int), verOf w, Err.nil),
              { w1 with rd := ⟨[], .eof⟩, got := some w.body }) := by
  have h := Tie_pbcmpl_Marshal w wr msg _ _ rest hw hm hb
  have hc := (C06_marshal m cap (verOf w) w.body hv hcap)
  rw [pbMarshal_eq_script] at hc
  unfold embedM at h
  rw [hc.1] at h
  simp only [Option.map_some, Bool.false_eq_true, if_false, hw0, List.nil_append] at h
  refine ⟨_, h, ?_⟩
  have hl : (frameBytes (verOf w) w.body ++ []).length < 2^63 := by
    simp only [List.append_nil]; rw [hc.2.2]; exact hb
  have := E2E_C06_unmarshal
    { rd := ⟨frameBytes (verOf w) w.body, .eof⟩,
      wans := if hdrFailed (capAns m cap 32) = true then capAns m (cap - 32) w.body.length :: rest else rest,
      wrote := frameBytes (verOf w) w.body,
      wcalls := w.wcalls + if hdrFailed (capAns m cap 32) = true then 1 else 2, body := w.body, mErr := w.mErr,
      ver := w.ver, got := w.got, uErr := w.uErr, stacks := w.stacks }
    rd msg (verOf w) w.body [] .eof fuel (by simp) hu hv hnz (by omega) hl hfuel
  exact this

example : ((Gen.Ssa5.pbcmpl_Marshal X theWriter theMsg 32 (ofWriter (some [50]) [7, 8] [capAns false 99 32, capAns false 67 2])).bind
      fun r1 => (Gen.Ssa5.pbcmpl_Unmarshal 17 X theReader theMsg 32 { r1.2 with rd := ⟨r1.2.wrote, .eof⟩ }).map
        fun r2 => (r1.1, r2.1, r2.2.got)) = some ((34, Err.nil), (34, [50], Err.nil), some [7, 8]) := by decide +kernel

/-- call the regenerated `Unmarshal` `k` times on the same reader, threading the world; collect the Go results and what
    the message had received after each call -/
def runUnmarshal (fuel : Nat) (r msg : Obj) : Nat → World → List ((Int × List Nat × Err) × Option (List Nat))
  | 0, _ => []
  | k + 1, w =>
    match Gen.Ssa5.pbcmpl_Unmarshal fuel X r msg 32 w with
    | none => []
    | some res => (res.1, res.2.got) :: runUnmarshal fuel r msg k res.2

/-- `C06_stream` on generated code: frames written back to back are returned one per call, in order (count, version, the
    body handed to `proto.Unmarshal`), and the call after the last frame returns count 0 and (wrapped) `io.EOF`. -/
theorem E2E_C06_stream (r msg : Obj) (fuel : Nat) (hfuel : 17 ≤ fuel) :
    ∀ (fs : List (List Nat × List Nat)) (w : World), (∀ p ∈ fs, FrameOK p) → w.rd = ⟨streamOf fs, .eof⟩ → w.uErr = .nil →
      (streamOf fs).length < 2^63 →
      runUnmarshal fuel r msg (fs.length + 1) w =
        fs.map (fun p => ((((32 + p.2.length : Nat) : Int), p.1, Err.nil), some p.2)) ++
          [((0, [], Err.wrapped (.var "io.EOF") w.stacks), if fs = [] then w.got else (fs.getLast?.map (·.2)))]
  | [], w, _, hr, _, _ => by
    have ht := Tie_pbcmpl_Unmarshal w r msg fuel hfuel (by rw [hr]; simp [streamOf])
    have hm := pbUnmarshal_short [] .eof (by simp)
    simp only [streamOf] at hr
    unfold embedU at ht
    rw [hr, hm] at ht
    simp only [List.length_nil, if_true] at ht
    simp [runUnmarshal, ht, errOf]
  | (v, b) :: fs, w, h, hr, hu, hlen => by
    obtain ⟨h1, h2, h3⟩ := h (v, b) (by simp)
    have hlen' : (frameBytes v b ++ streamOf fs).length < 2^63 := by simpa [streamOf] using hlen
    have hstep := E2E_C06_unmarshal w r msg v b (streamOf fs) .eof fuel (by simpa [streamOf] using hr) hu h1 h2 h3 hlen' hfuel
    have ih := E2E_C06_stream r msg fuel hfuel fs { w with rd := ⟨streamOf fs, .eof⟩, got := some b }
      (fun p hp => h p (by simp [hp])) rfl hu (by simp only [List.length_append] at hlen'; omega)
    simp only [runUnmarshal, List.length_cons, hstep, ih, List.map_cons, List.cons_append]
    cases fs with
    | nil => simp
    | cons q qs => simp [List.getLast?_cons_cons]

example : (runUnmarshal 17 theReader theMsg 3 (ofReader ⟨streamOf [([49], [7, 8]), ([], [])], .eof⟩)) =
    [((34, [49], Err.nil), some [7, 8]), ((32, [], Err.nil), some []),
     ((0, [], Err.wrapped (.var "io.EOF") 0), some [])] := by decide +kernel

end Low
