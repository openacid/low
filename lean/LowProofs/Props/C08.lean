import LowProofs.Lemmas.C08
/-
  C08 -- bitword: n-bit word split/join round-trips and indexes consistently (bitword/bitword.go).
  Byte strings are `List Nat` with `BytesOK` (every element < 256); the width is `n ∈ [1,2,4,8]`
  (the four instances in the Go map `BitWord`).  Specification: `bwWordAt n s i` = value of the bits
  `[i*n, i*n+n)` of `bitsBE s` (most significant bit of each byte first), `LowModel/Bitword.lean`.
  Only the property theorems and their non-vacuity examples live here.
  The hypotheses are the property's quantifier domain; `hs` of `C08_fromStr` and `ha`, `hb` of `C08_firstDiff` are part of
  that domain but not used by the proofs (FromStr, Get and FirstDiff read only the low 8 bits of an element).
-/
namespace Low
open C08L

/-- FromStr(s) has 8*len(s)/n words; word i is the n bits of s starting at bit i*n (MSB first)
    and equals Get(s,i) (which does not panic for these i). -/
theorem C08_fromStr (n : Nat) (hn : n ∈ [1,2,4,8]) (s : List Nat) (hs : BytesOK s) :
    (bwFromStr n s).length = 8 * s.length / n ∧
    ∀ i, i < 8 * s.length / n →
      (bwFromStr n s)[i]? = some (bwWordAt n s i) ∧ bwGet n s i = some (bwWordAt n s i) := by
  rw [words_eq hn, fromStr_eq_map hn s]
  refine ⟨by simp, ?_⟩
  intro i hi
  refine ⟨?_, get_eq hn s i hi⟩
  rw [List.getElem?_map, List.getElem?_range hi]; rfl

example : bwFromStr 2 [0xb4, 0x1e] = [2, 3, 1, 0, 0, 1, 3, 2] ∧ bwGet 2 [0xb4, 0x1e] 6 = some 3
    ∧ bwWordAt 2 [0xb4, 0x1e] 6 = 3 := by decide +kernel

/-- ToStr(FromStr(s)) = s. -/
theorem C08_roundtrip (n : Nat) (hn : n ∈ [1,2,4,8]) (s : List Nat) (hs : BytesOK s) :
    bwToStr n (bwFromStr n s) = s := by
  apply bitsBE_inj _ _ (toStr_ok hn _) hs
  rw [toStr_bits hn _ (fromStr_lt hn s), fromStr_bits hn s]
  obtain ⟨-, -, -, hm, -⟩ := width_facts n hn
  have hl : (bwFromStr n s).length = s.length * (8 / n) := by
    rw [fromStr_eq_map hn s]; simp
  -- `s.length` bytes are exactly enough: no padding
  rw [hl, Nat.add_sub_assoc hm, Nat.add_comm, Nat.add_mul_div_right _ _ hm,
    Nat.div_eq_of_lt (Nat.sub_lt hm Nat.one_pos), Nat.zero_add, Nat.sub_self, Nat.zero_mul]
  simp

example : bwToStr 4 (bwFromStr 4 [0xff, 0x80, 0x01]) = [0xff, 0x80, 0x01] := by decide +kernel

/-- ToStr of any slice of in-range words packs them MSB-first (each word contributes its `n` bits, most
    significant first) and pads the last byte with zero bits up to the byte boundary; the result is a
    byte string. (Its length is `(len(ws) + 8/n - 1) / (8/n)` by definition of the model, hence the
    `8*ceil(len(ws)*n/8)` bits on the right.) -/
theorem C08_toStr (n : Nat) (hn : n ∈ [1,2,4,8]) (ws : List Nat) (hws : ∀ w ∈ ws, w < 2 ^ n) :
    bitsBE (bwToStr n ws) =
      ws.flatMap (fun w => (List.range n).map fun j => w.testBit (n - 1 - j)) ++
        List.replicate (8 * ((ws.length * n + 7) / 8) - ws.length * n) false ∧
    BytesOK (bwToStr n ws) := by
  refine ⟨?_, toStr_ok hn ws⟩
  rw [toStr_bits hn ws hws]
  obtain ⟨hmn, -⟩ := width_facts n hn
  rw [Nat.sub_mul, Nat.mul_assoc, hmn, bytes_of_words n hn, Nat.mul_comm _ 8]
  rfl

example : bwToStr 2 [3, 0, 1, 2, 1] = [0xc6, 0x40] := by decide +kernel

/-- FirstDiff(a,b,from,end), for `0 ≤ from` and ANY `end` (also `end = -1`, `end` beyond either string,
    `end ≤ from`, negative `end`): with `lim = min(end', words(a), words(b))`, `end' = words(a)` if
    `end = -1` and `end` otherwise, the call does not panic and returns `r` such that
    * either `r = lim`, or `from ≤ r < lim` and word `r` of `a` and `b` differ, and
    * the words of `a` and `b` agree at every index in `[from, r)`;
    that is, `r` is the smallest index in `[from, lim)` at which they differ, or `lim` if there is none. -/
theorem C08_firstDiff (n : Nat) (hn : n ∈ [1,2,4,8]) (a b : List Nat) (ha : BytesOK a) (hb : BytesOK b)
    (frm e : Int) (hfrm : 0 ≤ frm) :
    let wa : Int := ((8 * a.length / n : Nat) : Int)
    let wb : Int := ((8 * b.length / n : Nat) : Int)
    let lim : Int := min (min (if e = -1 then wa else e) wa) wb
    ∃ r, bwFirstDiff n a b frm e = some r ∧
      (r = lim ∨ (frm ≤ r ∧ r < lim ∧ bwWordAt n a r.toNat ≠ bwWordAt n b r.toNat)) ∧
      ∀ j, frm ≤ j → j < r → bwWordAt n a j.toNat = bwWordAt n b j.toNat := by
  intro wa wb lim
  have hlim : bwFirstDiff n a b frm e = bwFirstDiffLoop n a b lim (lim - frm).toNat frm := by
    simp only [bwFirstDiff, ite_gt_eq_min, ← Int.natCast_mul, ← words_eq hn]
    rfl
  rw [hlim]
  exact firstDiffLoop_spec hn a b lim
    (by rw [← words_eq hn]; exact Int.le_trans (Int.min_le_left _ _) (Int.min_le_right _ _))
    (by rw [← words_eq hn]; exact Int.min_le_right _ _) _ frm hfrm rfl

/-- In particular an empty window (`from ≥ lim`, e.g. `from ≥ end`) yields `lim` itself. -/
theorem C08_firstDiff_empty (n : Nat) (hn : n ∈ [1,2,4,8]) (a b : List Nat) (ha : BytesOK a) (hb : BytesOK b)
    (frm e : Int) (hfrm : 0 ≤ frm) :
    let wa : Int := ((8 * a.length / n : Nat) : Int)
    let wb : Int := ((8 * b.length / n : Nat) : Int)
    let lim : Int := min (min (if e = -1 then wa else e) wa) wb
    lim ≤ frm → bwFirstDiff n a b frm e = some lim := by
  intro wa wb lim h
  obtain ⟨r, hr, h1, -⟩ := C08_firstDiff n hn a b ha hb frm e hfrm
  rcases h1 with h1 | ⟨h1, h2, -⟩
  · rw [hr, h1]
  · exfalso
    omega

example : bwFirstDiff 4 [0x12, 0x34, 0x56] [0x12, 0x35, 0x56, 0x78] 1 (-1) = some 3
    ∧ bwFirstDiff 4 [0x12, 0x34, 0x56] [0x12, 0x35, 0x56, 0x78] 4 (-1) = some 6
    ∧ bwFirstDiff 4 [0x12, 0x34, 0x56] [0x12, 0x35, 0x56, 0x78] 1 3 = some 3
    ∧ bwFirstDiff 4 [0x12, 0x34, 0x56] [0x12, 0x35, 0x56, 0x78] 5 2 = some 2 := by decide +kernel

/-
  C08_map: "FromStrs/ToStrs apply the conversions element-wise".  The Go loops
  `for i, s := range strs { rst[i] = w.FromStr(s) }` have no model function of their own: the driver
  (`LowModel/Driver/Strs.lean`, `hBwStrs`) evaluates them literally as `List.map (bwFromStr n)` /
  `List.map (bwToStr n)`, so the clause holds by definition of the model; that the Go functions behave like this
  map is checked by the correspondence run only.  What Lean adds is the element-wise consequence of the
  theorems above:
-/
/-- ToStrs(FromStrs(strs)) = strs, and FromStrs(strs)[k] is the word list described by `C08_fromStr`. -/
theorem C08_map (n : Nat) (hn : n ∈ [1,2,4,8]) (ss : List (List Nat)) (hss : ∀ s ∈ ss, BytesOK s) :
    (ss.map (bwFromStr n)).map (bwToStr n) = ss ∧
    ss.map (bwFromStr n) = ss.map fun s => (List.range (8 * s.length / n)).map (bwWordAt n s) := by
  constructor
  · rw [List.map_map]
    conv => rhs; rw [← List.map_id ss]
    apply List.map_congr_left
    intro s hs
    exact C08_roundtrip n hn s (hss s hs)
  · apply List.map_congr_left
    intro s hs
    rw [words_eq hn, fromStr_eq_map hn s]

example : ([[0xa5], [], [0x0f, 0xf0]].map (bwFromStr 4)).map (bwToStr 4) = [[0xa5], [], [0x0f, 0xf0]] := by decide +kernel

end Low
