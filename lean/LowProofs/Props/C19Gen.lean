import Generated.Effects
/-
  C19, layer 2: theorems over the effect table REGENERATED from /repo's source on every C19 run
  (tools/effects, go/ssa). They are re-checked by the kernel each time; a new write to an argument,
  to a package-level variable or through an unknown pointer, or a call to something not on the
  reviewed list of pure callees, makes them fail.
  This module is deliberately NOT imported by LowProofs.lean: only the C19 check builds it, so a change
  of the table can never disturb another property's check.
-/
namespace Low
open Low.Gen

/-- callees outside the five packages that the query/codec functions may call: pure functions of their
    arguments (math/bits, bytes.Compare, fmt.Sprintf, strings.Join, reflect inspection in bitmap.Fmt) and the
    no-op contract stubs of openacid/must in a release build -/
def pureCallees : List String := [
  "math/bits.LeadingZeros32", "math/bits.LeadingZeros64", "math/bits.OnesCount8", "math/bits.OnesCount16",
  "math/bits.OnesCount32", "math/bits.OnesCount64", "math/bits.Reverse8", "math/bits.TrailingZeros8",
  "math/bits.TrailingZeros64", "math/bits.TrailingZeros32", "math/bits.LeadingZeros8", "math/bits.Len64", "math/bits.Len32",
  "math/bits.Len", "math/bits.Len8", "math/bits.Len16", "math/bits.LeadingZeros16", "math/bits.LeadingZeros",
  "math/bits.TrailingZeros16", "math/bits.TrailingZeros", "math/bits.OnesCount", "math/bits.Reverse16", "math/bits.Reverse32",
  "math/bits.Reverse64", "math/bits.ReverseBytes16", "math/bits.ReverseBytes32", "math/bits.ReverseBytes64",
  "math/bits.RotateLeft8", "math/bits.RotateLeft16", "math/bits.RotateLeft32", "math/bits.RotateLeft64",
  "math/bits.Add64", "math/bits.Sub64", "math/bits.Mul64",
  "bytes.Compare", "bytes.Equal", "bytes.HasPrefix", "bytes.HasSuffix", "bytes.Index", "bytes.IndexByte", "bytes.LastIndexByte",
  "bytes.Count", "bytes.Contains",
  "fmt.Sprintf", "strings.Join", "strings.Repeat", "strings.HasPrefix", "strings.HasSuffix", "strings.Index", "strings.IndexByte",
  "strings.LastIndex", "strings.LastIndexByte", "strings.Compare", "strings.Contains", "strings.Count", "strings.TrimRight",
  "strings.TrimLeft", "strings.Trim", "strings.TrimPrefix", "strings.TrimSuffix", "strings.Split", "strings.EqualFold",
  "strconv.FormatUint", "strconv.FormatInt", "strconv.Itoa", "strconv.ParseUint", "strconv.ParseInt", "strconv.Atoi", "strconv.Quote",
  "unicode/utf8.RuneCountInString", "unicode/utf8.DecodeRuneInString", "unicode/utf8.DecodeLastRuneInString",
  "unicode/utf8.ValidString", "unicode/utf8.RuneLen", "unicode/utf8.RuneCount", "unicode/utf8.DecodeRune", "unicode/utf8.Valid",
  "(encoding/binary.bigEndian).Uint16", "(encoding/binary.bigEndian).Uint32", "(encoding/binary.bigEndian).Uint64",
  "(encoding/binary.littleEndian).Uint16", "(encoding/binary.littleEndian).Uint32", "(encoding/binary.littleEndian).Uint64",
  "reflect.ValueOf", "(reflect.Value).Index", "(reflect.Value).Interface", "(reflect.Value).Kind", "(reflect.Value).Len",
  "(*github.com/openacid/must/disabled.foo).Equal", "(*github.com/openacid/must/disabled.foo).NotEqual",
  "(*github.com/openacid/must/disabled.foo).OK", "(*github.com/openacid/must/disabled.foo).True"]

/-- every memory write a query or codec function of bitmap, bmtree, bitstr, bitword, sigbits can perform
    (outside package initialisation) goes to memory allocated by that same call: never to an argument,
    a string, a package-level table or through a pointer of unknown origin -/
theorem C19_effects_ok : ∀ e ∈ effects, e.root = Root.owned ∨ e.initOnly = true := by decide

/-- every call leaving the analysed functions (outside package initialisation) is to a reviewed pure callee;
    there is no dynamic call, goroutine, defer, channel operation or map iteration -/
theorem C19_calls_ok : ∀ c ∈ extCalls, c.initOnly = true ∨ c.callee ∈ pureCallees := by decide +kernel

/-- list membership that compares byte sizes before contents: the kernel compares two string literals byte by
    byte along their common prefix, and the names of the table share long prefixes -/
def memFast (l : List String) (f : String) : Bool :=
  l.any fun g => g.utf8ByteSize == f.utf8ByteSize && g == f

theorem memFast_sound {l : List String} {f : String} (h : memFast l f = true) : f ∈ l := by
  obtain ⟨g, hg, h⟩ := List.any_eq_true.1 h
  rw [Bool.and_eq_true] at h
  exact eq_of_beq h.2 ▸ hg
/-- the listed query functions are among the analysed ones -/
theorem C19_analysed_covers : ∀ f ∈ [
    "github.com/openacid/low/bitmap.Rank64", "github.com/openacid/low/bitmap.Rank128",
    "github.com/openacid/low/bitmap.Select32", "github.com/openacid/low/bitmap.Select32R64",
    "github.com/openacid/low/bitmap.NextOne", "github.com/openacid/low/bitmap.PrevOne",
    "github.com/openacid/low/bitmap.Slice", "github.com/openacid/low/bitmap.ToArray",
    "github.com/openacid/low/bitmap.Getw", "github.com/openacid/low/bitmap.FromStr32",
    "github.com/openacid/low/bmtree.PathToIndex", "github.com/openacid/low/bmtree.PathToIndexLoose",
    "github.com/openacid/low/bmtree.IndexToPath", "github.com/openacid/low/bmtree.AllPaths",
    "github.com/openacid/low/bmtree.Decode",
    "github.com/openacid/low/bitstr.Cmp", "github.com/openacid/low/bitstr.CmpUpto", "github.com/openacid/low/bitstr.StrCmpUpto",
    "github.com/openacid/low/sigbits.FirstDiffBits", "github.com/openacid/low/sigbits.ShardByPrefix",
    "(*github.com/openacid/low/sigbits.SigBits).CountPrefixes",
    "(*github.com/openacid/low/bitword.bitWord).FromStr", "(*github.com/openacid/low/bitword.bitWord).ToStr",
    "(*github.com/openacid/low/bitword.bitWord).Get", "(*github.com/openacid/low/bitword.bitWord).FirstDiff"],
    f ∈ analysed := fun f hf => memFast_sound (List.all_eq_true.1 (by decide +kernel) f hf)

end Low
