import LowProofs.Lemmas.C12Build
/-
  C12 -- Bitmap construction and inspection agree on which bits are set.
  The property vocabulary (`shiftedConcat`, `extendAll`, `segOff`) with its lemmas (`ofManyFlat_eq`,
  `length_shiftedConcat_le`, `mem_shiftedConcat`, `builder_from_mem`), the property theorems and their examples; other helpers are in Lemmas/C12Bits.lean, C12.lean, C12Build.lean (namespace Low.C12L).

  A bitmap `ws` denotes the set `{i | bitAt ws i = true}`; `ones ws` is the specification of its ascending
  enumeration.  Positions are `Int` (Go `int32`), `none` = Go panic, so `= some _` also proves panic-freedom.
  (The model uses unbounded integers; it represents the int32 code for `BmDom`, see DESIGN 3.1. No theorem
  below needs `BmDom` as a hypothesis: the model has no overflow to exclude.)
  "ascending" is `List.Pairwise (· ≤ ·)` (duplicates allowed) unless a theorem says strictly ascending.
-/
namespace Low
open Low.C12L

/-- Get returns the bit in place, Get1 the bit as 0/1, for every position inside the bitmap (no panic). -/
theorem C12_get (ws : List Nat) (i : Nat) (hi : i < 64 * ws.length) :
    get ws i = some ((bitAt ws i).toNat <<< (i % 64)) ∧ get1 ws i = some (bitAt ws i).toNat := by
  have hw := List.getElem?_eq_getElem (show i / 64 < ws.length by omega)
  simp only [get, get1, hw, Option.bind_eq_bind, Option.bind_some, bitAt_eq hw, bit, and_two_pow_eq,
    shiftRight_mod_two, and_self]

/-- outside the bitmap Get and Get1 panic (index out of range) -- which is what the Safe variants avoid. -/
theorem C12_get_oob (ws : List Nat) (i : Nat) (hi : 64 * ws.length ≤ i) : get ws i = none ∧ get1 ws i = none := by
  have hw := List.getElem?_eq_none (show ws.length ≤ i / 64 by omega)
  simp [get, get1, hw]

/-- SafeGet / SafeGet1 are total: the same answers as Get / Get1 inside, 0 for negative positions and
    positions at or beyond the end. -/
theorem C12_safeGet (ws : List Nat) (i : Int) :
    safeGet ws i = (if 0 ≤ i ∧ i < 64 * (ws.length : Int) then (bitAt ws i.toNat).toNat <<< (i.toNat % 64) else 0) ∧
    safeGet1 ws i = (if 0 ≤ i ∧ i < 64 * (ws.length : Int) then (bitAt ws i.toNat).toNat else 0) := by
  by_cases h : 0 ≤ i ∧ i < 64 * (ws.length : Int)
  · have h1 := mt (wordI_out i ws.length).mp (not_not_intro h)
    obtain ⟨j, rfl⟩ := Int.eq_ofNat_of_zero_le h.1
    have hw := List.getElem?_eq_getElem (show j / 64 < ws.length from Nat.div_lt_of_lt_mul (by omega))
    have hg : ws.getD (j / 64) 0 = ws[j / 64] := by simp [List.getD, hw]
    simp only [safeGet, safeGet1, if_neg h1, if_pos h, toNat_div, toNat_mod, Int.toNat_natCast, hg, bitAt_eq hw, bit,
      and_two_pow_eq, shiftRight_mod_two, and_self]
  · simp only [safeGet, safeGet1, if_pos ((wordI_out i ws.length).mpr h), if_neg h, and_self]

/-- inside the bitmap the Safe variants agree with the panicking ones. -/
theorem C12_safeGet_eq_get (ws : List Nat) (i : Nat) (hi : i < 64 * ws.length) :
    get ws i = some (safeGet ws i) ∧ get1 ws i = some (safeGet1 ws i) := by
  have h : (0 : Int) ≤ (i : Int) ∧ (i : Int) < 64 * (ws.length : Int) := by omega
  rw [(C12_safeGet ws i).1, (C12_safeGet ws i).2, if_pos h, if_pos h]
  exact C12_get ws i hi

/-- Of(ps, n?) for ascending non-negative `ps` and any optional `n` (negative, smaller or larger than last+1):
    does not panic, returns ceil(max(n, last+1, 0)/64) words, all uint64, in which exactly the listed bits are 1. -/
theorem C12_of (ps : List Int) (nOpt : Option Int) (hs : ps.Pairwise (· ≤ ·)) (h0 : ∀ p ∈ ps, 0 ≤ p) :
    ∃ ws, bmOf ps nOpt = some ws ∧
      ws.length = ((max (max (nOpt.getD 0) (match ps.getLast? with | none => 0 | some l => l + 1)) 0 + 63) / 64).toNat ∧
      WordsOK ws ∧ ∀ i : Nat, (bitAt ws i = true ↔ (i : Int) ∈ ps) :=
  bmOf_spec ps nOpt hs h0

/-- ToArray returns exactly the set bits in ascending order: it is `ones`, whose members are the positions
    inside the bitmap with a 1-bit, strictly ascending. -/
theorem C12_toArray (ws : List Nat) :
    toArray ws = ones ws ∧ (∀ i, i ∈ ones ws ↔ (i < 64 * ws.length ∧ bitAt ws i = true)) ∧
    (ones ws).Pairwise (· < ·) :=
  ⟨toArray_eq_ones ws, mem_ones ws, ones_sorted ws⟩

/-- ToArray(Of(l, n?)) = l for strictly ascending non-negative `l` (any optional size). -/
theorem C12_rt1 (ps : List Int) (nOpt : Option Int) (hs : ps.Pairwise (· < ·)) (h0 : ∀ p ∈ ps, 0 ≤ p) :
    ∃ ws, bmOf ps nOpt = some ws ∧ toArray ws = ps.map Int.toNat ∧ (toArray ws).map Int.ofNat = ps := by
  obtain ⟨ws, h1, _, _, h4⟩ := bmOf_spec ps nOpt (hs.imp (fun h => by omega)) h0
  have := toArray_of hs h0 h4
  exact ⟨ws, h1, this, by rw [this]; exact map_ofNat_toNat h0⟩

/-- Of(ToArray(b)) = b up to trailing zero words: it does not panic, denotes the same set, is not longer,
    does not end in a zero word, and (for uint64 words) `b` is it followed by zero words only. -/
theorem C12_rt2 (ws : List Nat) :
    ∃ ws', bmOf ((toArray ws).map Int.ofNat) none = some ws' ∧ (∀ i, bitAt ws' i = bitAt ws i) ∧
      ws'.length ≤ ws.length ∧ ws'.getLast? ≠ some 0 ∧
      (WordsOK ws → ws = ws' ++ zeros (ws.length - ws'.length)) := by
  rw [toArray_eq_ones]
  obtain ⟨ws', h1, h2, h3, h4⟩ := bmOf_spec _ none (ones_ofNat_sorted ws) (ones_ofNat_nonneg ws)
  have hbits : ∀ i, bitAt ws' i = bitAt ws i := by
    intro i
    exact Bool.eq_iff_iff.mpr ((h4 i).trans (mem_ones_ofNat ws i))
  have hlen : ws'.length ≤ ws.length := by
    rw [h2]
    unfold ofLen lastEnd
    cases hl : ((ones ws).map Int.ofNat).getLast? with
    | none => simp
    | some l =>
      obtain ⟨x, hx, e⟩ := List.mem_map.mp (List.mem_of_getLast? hl)
      have := ((mem_ones ws x).mp hx).1
      subst e
      simp only [Int.ofNat_eq_natCast, Option.getD_none]
      omega
  refine ⟨ws', h1, hbits, hlen, getLast_ne_zero h2 (ones_ofNat_nonneg ws) h4, ?_⟩
  intro hok
  apply words_ext hok (wordsOK_append_zeros h3 _)
  · simp only [zeros, List.length_append, List.length_replicate]; omega
  · intro i; rw [bitAt_append_zeros, hbits]

/-- SPEC: the positions of all sub-lists, each rebased by the running sum of the preceding sizes -/
def shiftedConcat : List (List Int) → List Int → Int → List Int
  | [], _, _ => []
  | _ :: _, [], _ => []
  | e :: subs, s :: sizes, base => e.map (base + ·) ++ shiftedConcat subs sizes (base + s)

theorem ofManyFlat_eq : ∀ (subs : List (List Int)) (sizes : List Int) (base : Int), subs.length ≤ sizes.length →
    ofManyFlat subs sizes base = some (shiftedConcat subs sizes base, base + (sizes.take subs.length).sum)
  | [], _, base, _ => by simp [ofManyFlat, shiftedConcat]
  | e :: subs, s :: sizes, base, h => by
    have ih := ofManyFlat_eq subs sizes (base + s) (by simpa using h)
    simp only [ofManyFlat, ih, shiftedConcat, List.length_cons, List.take_succ_cons, List.sum_cons]
    congr 2; omega

/-- OfMany(subs, sizes), when there is a size for every sub-list, is `Of` of the shifted concatenation with
    n = the sum of those sizes (extra sizes are ignored). -/
theorem C12_ofMany (subs : List (List Int)) (sizes : List Int) (h : subs.length ≤ sizes.length) :
    ofMany subs sizes = bmOf (shiftedConcat subs sizes 0) (some (sizes.take subs.length).sum) := by
  simp only [ofMany, ofManyFlat_eq subs sizes 0 h, Int.zero_add]

/-- hence, when the shifted concatenation is ascending and non-negative, OfMany does not panic and its result
    has exactly those bits, in ceil(max(Σ sizes, last+1, 0)/64) uint64 words. -/
theorem C12_ofMany_bits (subs : List (List Int)) (sizes : List Int) (h : subs.length ≤ sizes.length)
    (hs : (shiftedConcat subs sizes 0).Pairwise (· ≤ ·)) (h0 : ∀ p ∈ shiftedConcat subs sizes 0, 0 ≤ p) :
    ∃ ws, ofMany subs sizes = some ws ∧
      ws.length = ((max (max ((sizes.take subs.length).sum)
        (match (shiftedConcat subs sizes 0).getLast? with | none => 0 | some l => l + 1)) 0 + 63) / 64).toNat ∧
      WordsOK ws ∧ ∀ i : Nat, (bitAt ws i = true ↔ (i : Int) ∈ shiftedConcat subs sizes 0) := by
  rw [C12_ofMany subs sizes h]
  exact C12_of _ _ hs h0

/-- with fewer sizes than sub-lists OfMany panics (`sizes[i]` out of range). -/
theorem C12_ofMany_short : ∀ (subs : List (List Int)) (sizes : List Int), sizes.length < subs.length →
    ofMany subs sizes = none := by
  intro subs sizes h
  simp only [ofMany, ofManyFlat_short subs sizes 0 h]

/-- a sequence of `Extend(ps, size)` calls; `none` as soon as one panics -/
def extendAll (b : Builder) : List (List Int × Int) → Option Builder
  | [] => some b
  | (ps, size) :: rest =>
    match b.extend ps size with
    | none => none
    | some b' => extendAll b' rest

/-- the running sum of the sizes of the segments before segment `k` -/
def segOff (segs : List (List Int × Int)) (k : Nat) : Int := ((segs.take k).map Prod.snd).sum

theorem length_shiftedConcat_le : ∀ (subs : List (List Int)) (sizes : List Int) (base : Int),
    (shiftedConcat subs sizes base).length ≤ (subs.map List.length).sum
  | [], _, _ => by simp [shiftedConcat]
  | _ :: _, [], _ => by simp [shiftedConcat]
  | e :: subs, s :: sizes, base => by
    have := length_shiftedConcat_le subs sizes (base + s)
    simp only [shiftedConcat, List.length_append, List.length_map, List.map_cons, List.sum_cons]
    omega

theorem mem_shiftedConcat : ∀ (segs : List (List Int × Int)) (base x : Int),
    x ∈ shiftedConcat (segs.map Prod.fst) (segs.map Prod.snd) base ↔
      ∃ k ps size, segs[k]? = some (ps, size) ∧ ∃ p ∈ ps, x = base + segOff segs k + p
  | [], base, x => by simp [shiftedConcat]
  | (ps, size) :: rest, base, x => by
    simp only [List.map_cons, shiftedConcat, List.mem_append, List.mem_map, mem_shiftedConcat rest]
    constructor
    · rintro (⟨p, hp, e⟩ | ⟨k, ps', size', hk, p, hp, e⟩)
      · exact ⟨0, ps, size, rfl, p, hp, by simp only [segOff, List.take_zero, List.map_nil, List.sum_nil]; omega⟩
      · refine ⟨k + 1, ps', size', by simpa using hk, p, hp, ?_⟩
        simp only [segOff, List.take_succ_cons, List.map_cons, List.sum_cons] at e ⊢
        omega
    · rintro ⟨k, ps', size', hk, p, hp, e⟩
      cases k with
      | zero =>
        obtain ⟨rfl, rfl⟩ := hk
        refine Or.inl ⟨p, hp, ?_⟩
        simp only [segOff, List.take_zero, List.map_nil, List.sum_nil] at e
        omega
      | succ k =>
        refine Or.inr ⟨k, ps', size', by simpa using hk, p, hp, ?_⟩
        simp only [segOff, List.take_succ_cons, List.map_cons, List.sum_cons] at e ⊢
        omega

/-- `C12_builder_from` with the new bits given as membership in the shifted concatenation, the form in which the
    induction over the calls is immediate -/
theorem builder_from_mem : ∀ (segs : List (List Int × Int)) (b0 : Builder), 0 ≤ b0.offset →
    (∀ s ∈ segs, s.1.Pairwise (· ≤ ·) ∧ (∀ p ∈ s.1, 0 ≤ p) ∧ 0 ≤ s.2) →
    ∃ b, extendAll b0 segs = some b ∧
      b.offset = b0.offset + (segs.map Prod.snd).sum ∧
      (WordsOK b0.words → WordsOK b.words) ∧
      b0.words.length ≤ b.words.length ∧
      ((segs ≠ [] ∨ b0.offset ≤ 64 * (b0.words.length : Int)) → b.offset ≤ 64 * (b.words.length : Int)) ∧
      ∀ i : Nat, (bitAt b.words i = true ↔ (bitAt b0.words i = true ∨
        (i : Int) ∈ shiftedConcat (segs.map Prod.fst) (segs.map Prod.snd) b0.offset))
  | [], b0, _, _ => by
    refine ⟨b0, rfl, by simp, id, Nat.le_refl _, ?_, fun i => by simp [shiftedConcat]⟩
    rintro (h | h)
    · exact absurd rfl h
    · exact h
  | (ps, size) :: rest, b0, hb, hseg => by
    obtain ⟨hs, h0, hsz⟩ := hseg (ps, size) List.mem_cons_self
    obtain ⟨b1, e1, o1, l1, ok1, bits1⟩ := extend_spec b0 ps size hb hsz hs h0
    obtain ⟨b, e2, o2, ok2, l2, c2, bits2⟩ := builder_from_mem rest b1 (by omega)
      (fun s hs' => hseg s (List.mem_cons_of_mem _ hs'))
    refine ⟨b, by simp only [extendAll, e1, e2], ?_, fun h => ok2 (ok1 h), by omega, ?_, fun i => ?_⟩
    · simp only [o2, o1, List.map_cons, List.sum_cons]; omega
    · intro _
      apply c2
      right
      rw [o1, l1]
      exact Int.le_trans (Int.add_le_add_left (Int.le_max_left _ _) _) (le_growTo_length _ _)
    · simp only [bits2, bits1, o1, List.map_cons, shiftedConcat, List.mem_append, List.mem_map, or_assoc,
        eq_comm (a := (i : Int))]

/-- Any sequence of Extend calls from any builder with Offset ≥ 0 (each segment ascending, non-negative,
    size ≥ 0; positions may exceed the size, sizes may be 0): no panic, Offset advances by the sum of the sizes,
    the bits are the old ones plus every position rebased by the old Offset and the running sum of the
    preceding sizes, words stay uint64, never shrink, and cover Offset. -/
theorem C12_builder_from : ∀ (segs : List (List Int × Int)) (b0 : Builder), 0 ≤ b0.offset →
    (∀ s ∈ segs, s.1.Pairwise (· ≤ ·) ∧ (∀ p ∈ s.1, 0 ≤ p) ∧ 0 ≤ s.2) →
    ∃ b, extendAll b0 segs = some b ∧
      b.offset = b0.offset + (segs.map Prod.snd).sum ∧
      (WordsOK b0.words → WordsOK b.words) ∧
      b0.words.length ≤ b.words.length ∧
      ((segs ≠ [] ∨ b0.offset ≤ 64 * (b0.words.length : Int)) → b.offset ≤ 64 * (b.words.length : Int)) ∧
      ∀ i : Nat, (bitAt b.words i = true ↔ (bitAt b0.words i = true ∨
        ∃ k ps size, segs[k]? = some (ps, size) ∧ ∃ p ∈ ps, (i : Int) = b0.offset + segOff segs k + p))
  | segs, b0, hb, hseg => by
    simpa only [mem_shiftedConcat] using builder_from_mem segs b0 hb hseg

/-- Builder from `NewBuilder(n)` (empty words, Offset 0; the preallocated capacity is not observable):
    after any sequence of Extend calls, Offset = Σ size_k, the bits are exactly
    { off_k + p | p ∈ ps_k } with off_k = Σ_{j<k} size_j, the words are uint64 and there are enough of them
    for Offset (and, by `bitAt_oob`, for every bit). -/
theorem C12_builder (segs : List (List Int × Int))
    (hseg : ∀ s ∈ segs, s.1.Pairwise (· ≤ ·) ∧ (∀ p ∈ s.1, 0 ≤ p) ∧ 0 ≤ s.2) :
    ∃ b, extendAll ⟨[], 0⟩ segs = some b ∧
      b.offset = (segs.map Prod.snd).sum ∧ WordsOK b.words ∧ b.offset ≤ 64 * (b.words.length : Int) ∧
      ∀ i : Nat, (bitAt b.words i = true ↔
        ∃ k ps size, segs[k]? = some (ps, size) ∧ ∃ p ∈ ps, (i : Int) = segOff segs k + p) := by
  obtain ⟨b, h1, h2, h3, _, h5, h6⟩ := C12_builder_from segs ⟨[], 0⟩ (Int.le_refl _) hseg
  refine ⟨b, h1, by simpa using h2, h3 (by intro x hx; cases hx), h5 (Or.inr (by simp)), ?_⟩
  intro i
  rw [h6 i]
  simp only [bitAt_nil, Bool.false_eq_true, false_or, Int.zero_add]

/-- every set bit lies inside the words ("enough words for every bit"), for any bitmap. -/
theorem C12_bit_inside (ws : List Nat) (i : Nat) (h : bitAt ws i = true) : i < 64 * ws.length := by
  rcases Nat.lt_or_ge i (64 * ws.length) with h' | h'
  · exact h'
  · rw [bitAt_oob h'] at h; cases h

/-- the builder's result is the bitmap Of would build from the shifted positions: same bits as
    `Of(positions, Σ sizes)` whenever that call is defined (i.e. the shifted concatenation is ascending). -/
theorem C12_builder_eq_of (segs : List (List Int × Int))
    (hseg : ∀ s ∈ segs, s.1.Pairwise (· ≤ ·) ∧ (∀ p ∈ s.1, 0 ≤ p) ∧ 0 ≤ s.2)
    (hs : (shiftedConcat (segs.map Prod.fst) (segs.map Prod.snd) 0).Pairwise (· ≤ ·)) :
    ∃ b ws, extendAll ⟨[], 0⟩ segs = some b ∧
      bmOf (shiftedConcat (segs.map Prod.fst) (segs.map Prod.snd) 0) (some (segs.map Prod.snd).sum) = some ws ∧
      ∀ i, bitAt b.words i = bitAt ws i := by
  obtain ⟨b, h1, _, _, _, _, h6⟩ := builder_from_mem segs ⟨[], 0⟩ (Int.le_refl _) hseg
  have hnn : ∀ p ∈ shiftedConcat (segs.map Prod.fst) (segs.map Prod.snd) 0, 0 ≤ p := by
    intro x hx
    obtain ⟨k, ps, size, hk, p, hp, e⟩ := (mem_shiftedConcat segs 0 x).mp hx
    have hp0 := (hseg _ (List.mem_of_getElem? hk)).2.1 p hp
    have hoff : 0 ≤ segOff segs k := by
      apply sum_nonneg
      intro y hy
      obtain ⟨s, hs', e'⟩ := List.mem_map.mp hy
      subst e'
      exact (hseg s (List.mem_of_mem_take hs')).2.2
    omega
  obtain ⟨ws, w1, _, _, w4⟩ := bmOf_spec _ (some (segs.map Prod.snd).sum) hs hnn
  refine ⟨b, ws, h1, w1, fun i => Bool.eq_iff_iff.mpr ?_⟩
  rw [h6, w4, bitAt_nil]
  simp only [Bool.false_eq_true, false_or]

/-- Builder.Set(pos, value) for pos ≥ 0 (any builder, any value): no panic, ORs the single bit `pos` in iff
    `value` is odd (`value & 1`), leaves all other bits, moves Offset to max(Offset, pos+1), keeps uint64 words. -/
theorem C12_builder_set (b : Builder) (pos value : Int) (hp : 0 ≤ pos) :
    ∃ b', b.set pos value = some b' ∧ b'.offset = max b.offset (pos + 1) ∧
      b'.words.length = max b.words.length (pos.toNat / 64 + 1) ∧
      (WordsOK b.words → WordsOK b'.words) ∧
      ∀ i : Nat, (bitAt b'.words i = true ↔ (bitAt b.words i = true ∨ ((i : Int) = pos ∧ value % 2 = 1))) := by
  obtain ⟨p, rfl⟩ := Int.eq_ofNat_of_zero_le hp
  simp only [Int.toNat_natCast]
  have hlen : (b.words ++ zeros (p / 64 + 1 - b.words.length)).length = max b.words.length (p / 64 + 1) := by
    simp only [zeros, List.length_append, List.length_replicate]; omega
  have hq : p / 64 < (b.words ++ zeros (p / 64 + 1 - b.words.length)).length :=
    hlen ▸ Nat.lt_of_lt_of_le (Nat.lt_succ_self _) (Nat.le_max_right _ _)
  have hw := List.getElem?_eq_getElem hq
  have hv : (value % 2).toNat = (decide (value % 2 = 1)).toNat := by
    have : value % 2 = 0 ∨ value % 2 = 1 := by omega
    rcases this with h | h <;> simp [h]
  refine ⟨_, by simp only [Builder.set, if_neg (Int.not_lt.mpr hp), Int.toNat_natCast, hw]; rfl, ?_, ?_, ?_, ?_⟩
  · simp only [Int.max_def]; split <;> split <;> omega
  · simp only [List.length_set, hlen]
  · intro hok
    have hok1 := wordsOK_append_zeros hok (p / 64 + 1 - b.words.length)
    apply wordsOK_set hok1
    rw [hv]
    apply Nat.or_lt_two_pow (hok1 _ (List.getElem_mem hq))
    cases decide (value % 2 = 1)
    · simp
    · simp only [Bool.toNat_true, Nat.one_shiftLeft]
      exact Nat.pow_lt_pow_right (by omega) (Nat.mod_lt _ (by decide))
  · intro i
    rw [hv, bitAt_set_or_bool hw, bitAt_append_zeros]
    simp only [Bool.or_eq_true, Bool.and_eq_true, decide_eq_true_eq, Int.natCast_inj, and_comm]

/-- a negative position makes Builder.Set panic. -/
theorem C12_builder_set_neg (b : Builder) (pos value : Int) (hp : pos < 0) : b.set pos value = none := by
  simp [Builder.set, hp]

example : bmOf [0, 63, 64, 65, 200] (some (-5)) = some [2 ^ 63 + 1, 3, 0, 2 ^ 8] := by decide +kernel
example : [0, 63, 64, 65, 200].Pairwise (· ≤ ·) ∧ ∀ p ∈ ([0, 63, 64, 65, 200] : List Int), 0 ≤ p := by decide
example : bmOf [] (some 65) = some [0, 0] := by decide +kernel
example : toArray [2 ^ 63 + 1, 3, 0, 2 ^ 8] = [0, 63, 64, 65, 200] := by decide +kernel
example : bmOf ((toArray [5, 0, 2, 0, 0]).map Int.ofNat) none = some [5, 0, 2] := by decide +kernel
example : get [5, 2 ^ 63] 127 = some (2 ^ 63) ∧ get1 [5, 2 ^ 63] 127 = some 1 ∧ get1 [5, 2 ^ 63] 1 = some 0 := by
  decide +kernel
example : safeGet [5, 2 ^ 63] 127 = 2 ^ 63 ∧ safeGet [5] (-1) = 0 ∧ safeGet1 [5] 64 = 0 ∧ safeGet1 [5] 2 = 1 := by
  decide +kernel
example : ofMany [[1, 70], [], [0]] [64, 0, 3, 9] = bmOf [1, 70, 64] (some 67) := by decide +kernel
example : shiftedConcat [[1, 70], [], [0]] [64, 0, 3, 9] 0 = [1, 70, 64] := by decide +kernel
example : ofMany [[1], [2]] [64] = none := by decide +kernel
example : extendAll ⟨[], 0⟩ [([1, 70], 64), ([], 0), ([0], 3)] = some ⟨[2, 2 ^ 6 + 1], 67⟩ := by decide +kernel
example : segOff [([1, 70], 64), ([], 0), ([0], 3)] 2 = 64 := by decide +kernel
example : (⟨[2], 5⟩ : Builder).set 70 3 = some ⟨[2, 2 ^ 6], 71⟩ ∧ (⟨[2], 5⟩ : Builder).set 3 (-2) = some ⟨[2], 5⟩ ∧
    (⟨[2], 5⟩ : Builder).set 3 (-1) = some ⟨[10], 5⟩ := by decide +kernel

-- the theorems instantiated on those values (their hypotheses are satisfiable and decidable)
example := C12_of [0, 63, 64, 65, 200] (some (-5)) (by decide) (by decide)
example := C12_rt1 [0, 63, 64, 65, 200] (some 1000) (by decide) (by decide)
example := C12_rt2 [5, 0, 2, 0, 0]
example := C12_ofMany [[1, 70], [], [0]] [64, 0, 3, 9] (by decide)
example := C12_ofMany_bits [[1, 5], [], [0]] [64, 0, 3, 9] (by decide) (by decide +kernel) (by decide +kernel)
example := C12_builder [([1, 70], 64), ([], 0), ([0], 3)] (by decide)
example := C12_builder_eq_of [([1, 5], 64), ([], 0), ([0], 3)] (by decide) (by decide +kernel)
example := C12_builder_set ⟨[2], 5⟩ 70 3 (by decide)

end Low
