import LowProofs.Lemmas.C15
/-
  C15 -- TailBitmap never forgets a set bit nor invents one, across any Set/Compact history.
  The property vocabulary (`TbOp`, `tbStep`, `tbRun`, `mem`, `tbEnd`), three facts about it (`tbRun_append`, `mem_snoc`, `tbRun_new`),
  the property theorems and their non-vacuity examples (with `tbDemo_run`, the demo history evaluated once) live here; helpers are in Lemmas/C15.lean (namespace Low.C15L).

  Model: `TailBitmap` (offset : Int, words, reclaimed); `thr` is the package variable `reclaimThreshold`
  and is arbitrary in every theorem (it only influences the unobservable field `reclaimed`).
  The initial offset `o` is any multiple of 64 (any sign); indices `j`, `i` are arbitrary integers.
  `none` = Go panic (index out of range), so every `= some _` below is also panic-freedom.
-/
namespace Low
open Low.C15L

/-- the mutating operations of a history -/
inductive TbOp where
  | set (i : Int)
  | compact
deriving DecidableEq, Repr

def tbStep (thr : Int) (tb : TailBitmap) : TbOp → TailBitmap
  | .set i => tb.set thr i
  | .compact => tb.compact thr

/-- run a history, left to right -/
def tbRun (thr : Int) (tb : TailBitmap) (ops : List TbOp) : TailBitmap := ops.foldl (tbStep thr) tb

/-- SPEC: the abstract set after history `ops` from `NewTailBitmap(o)`: everything below `o`, plus every index set -/
def mem (o : Int) (ops : List TbOp) (j : Int) : Prop := j < o ∨ TbOp.set j ∈ ops

instance (o : Int) (ops : List TbOp) (j : Int) : Decidable (mem o ops j) := by unfold mem; infer_instance

/-- one past the last stored bit -/
def tbEnd (tb : TailBitmap) : Int := tb.offset + 64 * tb.words.length

/-- running a history and then a continuation is running the concatenation (so the last clause of
    `C15_offset` says: the offset after any prefix of a history is ≤ the offset after the whole history) -/
theorem tbRun_append (thr : Int) (tb : TailBitmap) (ops ops' : List TbOp) :
    tbRun thr (tbRun thr tb ops) ops' = tbRun thr tb (ops ++ ops') := by
  simp only [tbRun, List.foldl_append]

theorem mem_snoc (o : Int) (ops : List TbOp) (op : TbOp) (j : Int) :
    mem o (ops ++ [op]) j ↔ (mem o ops j ∨ op = TbOp.set j) := by
  simp only [mem, List.mem_append, List.mem_singleton]
  rw [or_assoc, eq_comm]

/-- one step keeps the invariant (w.r.t. the extended history) and never lowers the offset -/
theorem C15_inv_step (thr o : Int) (ops : List TbOp) (tb : TailBitmap) (op : TbOp) (h : Inv (mem o ops) tb) :
    Inv (mem o (ops ++ [op])) (tbStep thr tb op) ∧ tb.offset ≤ (tbStep thr tb op).offset := by
  cases op with
  | set i =>
    obtain ⟨h1, h2⟩ := set_spec thr i h
    refine ⟨h1.congr ?_, h2⟩
    intro j
    rw [mem_snoc]
    exact or_congr Iff.rfl ⟨fun e => e ▸ rfl, fun e => (TbOp.set.inj e).symm⟩
  | compact =>
    obtain ⟨h1, h2, _⟩ := compact_spec thr h.pre
    refine ⟨h1.congr ?_, h2⟩
    intro j
    rw [mem_snoc]
    exact ⟨Or.inl, fun h' => h'.elim id (nomatch ·)⟩

/-- the invariant is preserved along any history; the offset is monotone along it -/
theorem C15_inv_run (thr o : Int) : ∀ (ops ops0 : List TbOp) (tb : TailBitmap), Inv (mem o ops0) tb →
    Inv (mem o (ops0 ++ ops)) (tbRun thr tb ops) ∧ tb.offset ≤ (tbRun thr tb ops).offset
  | [], ops0, tb, h => by simpa [tbRun] using h
  | op :: rest, ops0, tb, h => by
    obtain ⟨h1, h2⟩ := C15_inv_step thr o ops0 tb op h
    obtain ⟨h3, h4⟩ := C15_inv_run thr o rest (ops0 ++ [op]) _ h1
    rw [List.append_assoc, List.singleton_append] at h3
    exact ⟨h3, Int.le_trans h2 h4⟩

theorem tbRun_new (thr o : Int) (ho : (64 : Int) ∣ o) (ops : List TbOp) :
    Inv (mem o ([] ++ ops)) (tbRun thr (newTailBitmap o) ops) ∧
      (newTailBitmap o).offset ≤ (tbRun thr (newTailBitmap o) ops).offset :=
  C15_inv_run thr o ops [] (newTailBitmap o) ((inv_new ho).congr (by intro j; simp [mem]))

/-- the representation invariant holds after `NewTailBitmap(o)` and any finite history. -/
theorem C15_inv (thr o : Int) (ho : (64 : Int) ∣ o) (ops : List TbOp) :
    Inv (mem o ops) (tbRun thr (newTailBitmap o) ops) := by
  simpa using (tbRun_new thr o ho ops).1

/-- Get1(j) is 1 exactly when `j < o` or `j` has been set, for every `j` below the end of the stored words
    (any sign of `j`, any history, any threshold), and does not panic there. -/
theorem C15_get1 (thr o : Int) (ho : (64 : Int) ∣ o) (ops : List TbOp) (j : Int)
    (hj : j < tbEnd (tbRun thr (newTailBitmap o) ops)) :
    (tbRun thr (newTailBitmap o) ops).get1 j = some (if mem o ops j then 1 else 0) :=
  get1_spec (C15_inv thr o ho ops).pre j hj

/-- Get(j) returns that bit at position `j mod 64`. -/
theorem C15_get (thr o : Int) (ho : (64 : Int) ∣ o) (ops : List TbOp) (j : Int)
    (hj : j < tbEnd (tbRun thr (newTailBitmap o) ops)) :
    (tbRun thr (newTailBitmap o) ops).get j = some (if mem o ops j then 2 ^ (j % 64).toNat else 0) :=
  get_spec (C15_inv thr o ho ops).pre j hj

/-- every index ever set lies below the end of the stored words ... -/
theorem C15_covers (thr o : Int) (ho : (64 : Int) ∣ o) (ops : List TbOp) (i : Int) (hi : TbOp.set i ∈ ops) :
    i < tbEnd (tbRun thr (newTailBitmap o) ops) :=
  (C15_inv thr o ho ops).pre.covers i (Or.inr hi)

/-- ... hence every `j` up to the highest index ever set is answered (with the membership bit). -/
theorem C15_get1_upto (thr o : Int) (ho : (64 : Int) ∣ o) (ops : List TbOp) (i j : Int)
    (hi : TbOp.set i ∈ ops) (hji : j ≤ i) :
    (tbRun thr (newTailBitmap o) ops).get1 j = some (if mem o ops j then 1 else 0) ∧
    (tbRun thr (newTailBitmap o) ops).get j = some (if mem o ops j then 2 ^ (j % 64).toNat else 0) := by
  have := C15_covers thr o ho ops i hi
  exact ⟨C15_get1 thr o ho ops j (by omega), C15_get thr o ho ops j (by omega)⟩

/-- Offset stays a multiple of 64, never goes below the initial offset, never moves past a position that is
    still 0 (everything below it is a member), and never decreases under any continuation of the history. -/
theorem C15_offset (thr o : Int) (ho : (64 : Int) ∣ o) (ops : List TbOp) :
    (64 : Int) ∣ (tbRun thr (newTailBitmap o) ops).offset ∧
    o ≤ (tbRun thr (newTailBitmap o) ops).offset ∧
    (∀ j, j < (tbRun thr (newTailBitmap o) ops).offset → mem o ops j) ∧
    (∀ ops' : List TbOp, (tbRun thr (newTailBitmap o) ops).offset ≤
        (tbRun thr (tbRun thr (newTailBitmap o) ops) ops').offset) := by
  have h := C15_inv thr o ho ops
  refine ⟨h.pre.dvd, ?_, h.pre.below, ?_⟩
  · simpa [newTailBitmap] using (tbRun_new thr o ho ops).2
  · intro ops'
    exact (C15_inv_run thr o ops' ops _ h).2

/-- the first stored word is never all-ones (in particular after every Set). -/
theorem C15_firstWord (thr o : Int) (ho : (64 : Int) ∣ o) (ops : List TbOp) :
    (tbRun thr (newTailBitmap o) ops).words.head? ≠ some allOnes64 :=
  (C15_inv thr o ho ops).head

/-- all stored words are uint64 values -/
theorem C15_wordsOK (thr o : Int) (ho : (64 : Int) ∣ o) (ops : List TbOp) :
    WordsOK (tbRun thr (newTailBitmap o) ops).words :=
  (C15_inv thr o ho ops).pre.ok

/-- Compact changes no Get/Get1 result (for any threshold `thr'`, also one different from the history's),
    and keeps the end of the stored words. -/
theorem C15_compact (thr thr' o : Int) (ho : (64 : Int) ∣ o) (ops : List TbOp) :
    (∀ j, j < tbEnd (tbRun thr (newTailBitmap o) ops) →
      ((tbRun thr (newTailBitmap o) ops).compact thr').get1 j = (tbRun thr (newTailBitmap o) ops).get1 j ∧
      ((tbRun thr (newTailBitmap o) ops).compact thr').get j = (tbRun thr (newTailBitmap o) ops).get j) ∧
    tbEnd ((tbRun thr (newTailBitmap o) ops).compact thr') = tbEnd (tbRun thr (newTailBitmap o) ops) := by
  have h := C15_inv thr o ho ops
  obtain ⟨h1, _, h3⟩ := compact_spec thr' h.pre
  refine ⟨?_, h3⟩
  intro j hj
  have hj' : j < ((tbRun thr (newTailBitmap o) ops).compact thr').offset +
      64 * ((((tbRun thr (newTailBitmap o) ops).compact thr').words.length : Nat) : Int) := by
    rw [h3]; exact hj
  rw [get1_spec h1.pre j hj', get_spec h1.pre j hj', get1_spec h.pre j hj, get_spec h.pre j hj]
  exact ⟨rfl, rfl⟩

/-- Compact changes no Get/Get1 result at all: also at or beyond the end both calls panic before and after. -/
theorem C15_compact_all (thr thr' o : Int) (ho : (64 : Int) ∣ o) (ops : List TbOp) (j : Int) :
    ((tbRun thr (newTailBitmap o) ops).compact thr').get1 j = (tbRun thr (newTailBitmap o) ops).get1 j ∧
    ((tbRun thr (newTailBitmap o) ops).compact thr').get j = (tbRun thr (newTailBitmap o) ops).get j := by
  obtain ⟨h1, h2⟩ := C15_compact thr thr' o ho ops
  by_cases hj : j < tbEnd (tbRun thr (newTailBitmap o) ops)
  · exact h1 j hj
  · have a := get_oob (tb := tbRun thr (newTailBitmap o) ops) (j := j) (by unfold tbEnd at hj; omega)
    have b := get_oob (tb := (tbRun thr (newTailBitmap o) ops).compact thr') (j := j)
      (by unfold tbEnd at hj h2; omega)
    rw [a.1, a.2, b.1, b.2]; exact ⟨rfl, rfl⟩

/-- a history that fills the first word out of order (so that `Set` compacts), sets below the offset,
    repeats, and crosses a 2-word reclaim threshold -/
def C15_demoOps : List TbOp :=
  (List.range 64).reverse.map (fun (i : Nat) => TbOp.set (128 + (i : Int))) ++
    [TbOp.set 5, TbOp.set 200, TbOp.compact, TbOp.set 200, TbOp.set 192, TbOp.set 450]

/-- the state after the history, with threshold 128: evaluated once, the examples below read it off -/
theorem tbDemo_run : tbRun 128 (newTailBitmap 128) C15_demoOps = ⟨192, [2 ^ 0 + 2 ^ 8, 0, 0, 0, 2 ^ 2], 128⟩ := by
  decide +kernel

example : (64 : Int) ∣ 128 := by decide +kernel
example : (tbRun 128 (newTailBitmap 128) C15_demoOps).offset = 192 := by rw [tbDemo_run]
example : tbEnd (tbRun 128 (newTailBitmap 128) C15_demoOps) = 512 := by rw [tbDemo_run]; rfl
example : (tbRun 128 (newTailBitmap 128) C15_demoOps).reclaimed = 128 := by rw [tbDemo_run]
example : (tbRun 64 (newTailBitmap 128) C15_demoOps).reclaimed = 192 := by decide +kernel
-- inside the stored words: a set bit, an unset bit, a bit below the (moved) offset, a negative index
example : (tbRun 128 (newTailBitmap 128) C15_demoOps).get1 200 = some 1 := by
  rw [C15_get1 128 128 (by decide +kernel) _ _ (by rw [tbDemo_run]; decide)]; decide +kernel
example : (tbRun 128 (newTailBitmap 128) C15_demoOps).get1 201 = some 0 := by
  rw [C15_get1 128 128 (by decide +kernel) _ _ (by rw [tbDemo_run]; decide)]; decide +kernel
example : (tbRun 128 (newTailBitmap 128) C15_demoOps).get 450 = some (2 ^ 2) := by
  rw [C15_get 128 128 (by decide +kernel) _ _ (by rw [tbDemo_run]; decide)]; decide +kernel
example : (tbRun 128 (newTailBitmap 128) C15_demoOps).get1 (-3) = some 1 := by
  rw [C15_get1 128 128 (by decide +kernel) _ _ (by rw [tbDemo_run]; decide)]; decide +kernel
example : TbOp.set 450 ∈ C15_demoOps := by decide +kernel
example : (tbRun 128 (newTailBitmap 128) C15_demoOps).get1 512 = none := by rw [tbDemo_run]; rfl
example : (tbRun 128 (newTailBitmap 128) C15_demoOps).words.head? = some (2 ^ 0 + 2 ^ 8) := by rw [tbDemo_run]; rfl

end Low
