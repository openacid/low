import LowProofs.Lemmas.C11
import LowProofs.Props.C10
/-
  C11 -- FromStr32/PathOf extract exactly the requested bits of a string.
  Strings are byte lists `s : List Nat` with `BytesOK s` (every byte < 256); `bitsBE s` is the specification of
  "the bits of s, most significant bit of each byte first". Natural subtraction clamps at 0, so
  `min (8 * s.length - frm) w` is `clamp (8*len(s) - from, 0, w)`.
  A w-bit value "whose top k bits are bits [frm, frm+k) of s and whose other bits are 0" is stated as
  `bitsVal (those k bits ++ (w - k) zeros)` (`bitsVal` = big-endian value of a bit list).
  Besides the property theorems and their examples: the specification `adjDedup` of PathsOf's dedup and the two
  loop lemmas `pathsOfGo_nodedup`, `pathsOfGo_dedup`.
-/
namespace Low
open Low.C11L

/-- FromStr32 returns `k = clamp (8|s| - frm, 0, w)` and the `w`-bit value whose top `k` bits are bits
    `[frm, frm+k)` of `s` and whose remaining `w - k` bits are 0. -/
theorem C11_fromStr32 {s : List Nat} (hs : BytesOK s) (frm w : Nat) (hw : w ≤ 32) :
    fromStr32 s frm (frm + w) =
      (min (8 * s.length - frm) w,
       bitsVal (((bitsBE s).drop frm).take (min (8 * s.length - frm) w) ++
         List.replicate (w - min (8 * s.length - frm) w) false)) := by
  obtain ⟨i, o, ho, rfl⟩ : ∃ i o, o < 8 ∧ frm = 8 * i + o :=
    ⟨frm / 8, frm % 8, Nat.mod_lt _ (by decide), (Nat.div_add_mod frm 8).symm⟩
  generalize hk : min (8 * s.length - (8 * i + o)) w = k
  unfold fromStr32
  simp only []
  have ei : (8 * i + o) / 8 = i := by omega
  have e1 : 8 * i + o + w - (8 * i + o) = w := Nat.add_sub_cancel_left ..
  have e2 : 8 * i + o + w - i * 8 = w + o := by omega
  rw [ei, e1, e2]
  -- the clamped count of available bits, an `int` in the code, is `k`
  have hb : (if (s.length * 8 - (8 * i + o : Nat) : Int) > w then (w : Int) else s.length * 8 - (8 * i + o : Nat)).toNat = k := by
    rw [ite_gt_eq_min, ← hk, Nat.mul_comm 8 s.length, ← toNat_min_sub, Int.natCast_mul]; rfl
  generalize (if (s.length * 8 - (8 * i + o : Nat) : Int) > w then (w : Int) else s.length * 8 - (8 * i + o : Nat)) = blen at hb
  by_cases hk0 : k = 0
  · rw [if_pos (by omega), hk0]
    simp [bitsVal_replicate_false]
  · rw [if_neg (by omega), hb]
    refine Prod.ext rfl ?_
    rw [gather_rd, shr64, if_pos (by omega), mask, Nat.and_two_pow_sub_one_eq_mod, ← hk]
    have hpos : 0 < 8 * s.length - (8 * i + o) ∧ 0 < w := Nat.lt_min.mp (hk ▸ Nat.pos_of_ne_zero hk0)
    have hq : 8 * i + o + w ≤ 8 * ((8 * i + o + w + 7) / 8) ∧ 8 * ((8 * i + o + w + 7) / 8) < 8 * i + o + w + 8 := by
      omega
    clear hk hb hk0 ei e1 e2
    generalize (8 * i + o + w + 7) / 8 = q at hq ⊢
    generalize hl : (if s.length > q then q else s.length) = l
    have : i < l ∧ l ≤ s.length ∧ (l = s.length ∨ 8 * i + o + w ≤ 8 * l) ∧ 8 * l < 8 * i + o + w + 8 := by
      split at hl <;> omega
    exact value_eq hs i o w l ho hw this.1 this.2.1 this.2.2.1 this.2.2.2

/-- "abc" = 61 62 63: bits 4..15 are 0001 0110 0010; a 12-bit window starting at bit 20 runs off the end after 4 bits -/
example : fromStr32 [0x61, 0x62, 0x63] 4 16 = (12, 0b000101100010)
    ∧ fromStr32 [0x61, 0x62, 0x63] 20 32 = (4, 0b001100000000)
    ∧ fromStr32 [0x61, 0x62, 0x63] 30 40 = (0, 0) := by decide +kernel
example : (min (8 * [0x61, 0x62, 0x63].length - 20) 12,
    bitsVal (((bitsBE [0x61, 0x62, 0x63]).drop 20).take (min (8 * [0x61, 0x62, 0x63].length - 20) 12) ++
      List.replicate (12 - min (8 * [0x61, 0x62, 0x63].length - 20) 12) false)) = (4, 0b001100000000) := by decide +kernel

/-- The same statement bit by bit, without `bitsVal`: the value has `w` bits; for `j < k` its bit `w-1-j`
    (counting from the least significant) is bit `frm + j` of the string; for `k ≤ j < w` it is 0. -/
theorem C11_fromStr32_bits {s : List Nat} (hs : BytesOK s) (frm w : Nat) (hw : w ≤ 32) :
    (fromStr32 s frm (frm + w)).1 = min (8 * s.length - frm) w ∧
    (fromStr32 s frm (frm + w)).2 < 2 ^ w ∧
    (∀ j, j < min (8 * s.length - frm) w →
      (bitsBE s)[frm + j]? = some ((fromStr32 s frm (frm + w)).2.testBit (w - 1 - j))) ∧
    (∀ j, min (8 * s.length - frm) w ≤ j → j < w → (fromStr32 s frm (frm + w)).2.testBit (w - 1 - j) = false) := by
  rw [C11_fromStr32 hs frm w hw]
  generalize hk : min (8 * s.length - frm) w = k
  generalize hL : ((bitsBE s).drop frm).take k ++ List.replicate (w - k) false = L
  have hkw : k ≤ w := hk ▸ Nat.min_le_right _ _
  have hks : k ≤ 8 * s.length - frm := hk ▸ Nat.min_le_left _ _
  clear hk
  have hlt : (((bitsBE s).drop frm).take k).length = k := by
    rw [List.length_take, List.length_drop, length_bitsBE]; exact Nat.min_eq_left hks
  have hlen : L.length = w := by rw [← hL, List.length_append, hlt, List.length_replicate]; omega
  refine ⟨rfl, ?_, ?_, ?_⟩
  · have := bitsVal_lt L; rwa [hlen] at this
  · intro j hj
    have := getElem?_eq_testBit_bitsVal L (j := j) (by omega)
    rwa [hlen, ← hL, List.getElem?_append_left (by omega), List.getElem?_take_of_lt hj, List.getElem?_drop, hL] at this
  · intro j hj hjw
    have := getElem?_eq_testBit_bitsVal L (j := j) (by omega)
    rw [hlen, ← hL, List.getElem?_append_right (by omega), hlt, List.getElem?_replicate, if_pos (by omega), hL] at this
    exact (Option.some.inj this).symm

example : (bitsBE [0x61, 0x62, 0x63])[20 + 2]? = some ((fromStr32 [0x61, 0x62, 0x63] 20 (20 + 12)).2.testBit (12 - 1 - 2)) :=
  (C11_fromStr32_bits (by simp [BytesOK]) 20 12 (by decide +kernel)).2.2.1 2 (by decide +kernel)

/-- PathOf is the path word of height `h` of the node spelled by bits `[frm, frm+k)` of `s`. -/
theorem C11_pathOf {s : List Nat} (hs : BytesOK s) (frm h : Nat) (hh : h ≤ 32) :
    pathOf s frm h = encPath h (((bitsBE s).drop frm).take (min (8 * s.length - frm) h)) := by
  generalize hT : ((bitsBE s).drop frm).take (min (8 * s.length - frm) h) = T
  have hlen : T.length = min (8 * s.length - frm) h := by
    rw [← hT]; simp [length_bitsBE]
  have hl : T.length ≤ h := by omega
  simp only [pathOf, C11_fromStr32 hs frm h hh, hT]
  rw [← hlen, bitsVal_append, bitsVal_replicate_false, List.length_replicate, Nat.add_zero, ← Nat.shiftLeft_eq]
  exact C10_newPath hh hl

example : pathOf [0x61, 0x62, 0x63] 20 12 = encPath 12 [false, false, true, true] := by decide +kernel

/-- Hence PathStr (PathOf s frm h) is the bit string `s[frm, frm+k)`. -/
theorem C11_pathStr {s : List Nat} (hs : BytesOK s) (frm h : Nat) (hh : h ≤ 32) :
    pathStr (pathOf s frm h) =
      String.ofList ((((bitsBE s).drop frm).take (min (8 * s.length - frm) h)).map
        (fun b => if b then '1' else '0')) := by
  rw [C11_pathOf hs frm h hh]
  exact C10_str hh (by simp [length_bitsBE]; omega)

example : pathStr (pathOf [0x61, 0x62, 0x63] 20 12) = "0011" := by
  rw [C11_pathStr (by simp [BytesOK]) 20 12 (by decide +kernel)]; decide +kernel

/-- SPEC: `adjDedupFrom prev ps` drops every element of `ps` equal to its predecessor, `prev` preceding the head -/
def adjDedupFrom (prev : Nat) : List Nat → List Nat
  | [] => []
  | x :: r => if x = prev then adjDedupFrom x r else x :: adjDedupFrom x r

/-- SPEC: drop every element equal to its predecessor (the head has none and is kept) -/
def adjDedup : List Nat → List Nat
  | [] => []
  | x :: r => x :: adjDedupFrom x r

example : adjDedup [1, 1, 2, 2, 2, 1, 3, 3] = [1, 2, 1, 3] := by decide +kernel

theorem pathsOfGo_nodedup (frm h : Nat) : ∀ (keys : List (List Nat)) (prev : Option Nat),
    pathsOfGo frm h false keys prev = keys.map (fun s => pathOf s frm h)
  | [], _ => rfl
  | s :: r, prev => by simp [pathsOfGo, pathsOfGo_nodedup frm h r]

theorem pathsOfGo_dedup (frm h : Nat) : ∀ (keys : List (List Nat)) (q : Nat),
    pathsOfGo frm h true keys (some q) = adjDedupFrom q (keys.map (fun s => pathOf s frm h))
  | [], _ => rfl
  | s :: r, q => by
    by_cases e : pathOf s frm h = q
    · simp [pathsOfGo, adjDedupFrom, pathsOfGo_dedup frm h r, e]
    · have e' : ¬ q = pathOf s frm h := fun x => e x.symm
      simp [pathsOfGo, adjDedupFrom, pathsOfGo_dedup frm h r, e, e']

/-- PathsOf maps PathOf over the keys and, when `dedup`, drops every path equal to its predecessor.
    (No hypothesis on keys, frm, h is needed: this is about the loop. It is a theorem of the repaired loop only:
    defect D4 in DESIGN.md section 8.) -/
theorem C11_pathsOf (keys : List (List Nat)) (frm h : Nat) (dedup : Bool) :
    pathsOf keys frm h dedup =
      (if dedup then adjDedup (keys.map (fun s => pathOf s frm h)) else keys.map (fun s => pathOf s frm h)) := by
  cases dedup
  · simp [pathsOf, pathsOfGo_nodedup]
  · cases keys with
    | nil => rfl
    | cons s r => simp [pathsOf, pathsOfGo, adjDedup, pathsOfGo_dedup]

example : pathsOf [[0x61], [0x61, 0x00], [0x62], [0x62], [0x61]] 0 8 true = [0x61000000ff, 0x62000000ff, 0x61000000ff]
    ∧ pathsOf [[0x61], [0x61, 0x00], [0x62]] 0 8 false = [0x61000000ff, 0x61000000ff, 0x62000000ff] := by decide +kernel
/-- the case the unrepaired loop got wrong: height 32, first key of 32 one-bits -/
example : pathsOf [[0xff, 0xff, 0xff, 0xff]] 0 32 true = [0xffffffffffffffff] := by decide +kernel

end Low
