import LowProofs.Lemmas.C02Loops
/-
  C02 -- Select is exact and inverse to rank (Select32, Select32R64).
  The proofs are in
  `LowProofs/Lemmas/C02{Spec,Idx,Word,Scan,Loops}.lean` (namespace `Low.C02L`).
  `n` of the property is `(ones ws).length`; "position of the i-th 1-bit" is `(ones ws)[i]`.
  (The model uses unbounded naturals; it represents the int32 code for `BmDom ws`, see DESIGN 3.1.
   `WordsOK ws` = every word is a uint64; it is only assumed where the proof needs it.)
-/
namespace Low
open Low.C02L

/-- Pure spec fact: the i-th entry of `ones` is a 1-bit and exactly `i` 1-bits precede it,
    i.e. rank(select(i)) = i and the selected bit is 1. (No `WordsOK` needed.) -/
theorem C02_rank_select (ws : List Nat) (i : Nat) (hi : i < (ones ws).length) :
    rank ws ((ones ws)[i]) = i ∧ bitAt ws ((ones ws)[i]) = true := by
  obtain ⟨_, h2, h3⟩ := ones_getElem? (List.getElem?_eq_getElem hi)
  exact ⟨h3, h2⟩

/-- IndexSelect32 lists the position of every 32nd 1-bit: ceil(n/32) entries, entry k is the
    position of the (32k)-th 1-bit. (No `WordsOK` needed.) -/
theorem C02_indexSelect32 (ws : List Nat) :
    indexSelect32 ws =
      (List.range (((ones ws).length + 31) / 32)).map (fun k => (ones ws).getD (32 * k) 0) :=
  indexSelect32_eq ws

/-- IndexSelect32R64 returns the same select index together with IndexRank64(words, true). -/
theorem C02_indexSelect32R64 (ws : List Nat) :
    indexSelect32R64 ws = (indexSelect32 ws, indexRank64 ws true) := rfl

/-- Select32 with the IndexSelect32 index does not panic and returns exactly
    (position of the i-th 1-bit, position of the (i+1)-th 1-bit or 64*len when i is the last). -/
theorem C02_select32 (ws : List Nat) (hok : WordsOK ws) (i : Nat) (hi : i < (ones ws).length) :
    select32 ws (indexSelect32 ws) i =
      some ((ones ws)[i], (ones ws).getD (i + 1) (64 * ws.length)) := by
  obtain ⟨a, b, h, hb, hr, hn⟩ := select32_spec hok hi
  obtain ⟨_, e1, e2⟩ := ones_pair hb hr hn
  rw [h, e1, e2]

/-- Select32R64 with the two IndexSelect32R64 indexes does not panic and returns the same pair. -/
theorem C02_select32R64 (ws : List Nat) (hok : WordsOK ws) (i : Nat) (hi : i < (ones ws).length) :
    select32R64 ws (indexSelect32 ws) (indexRank64 ws true) i =
      some ((ones ws)[i], (ones ws).getD (i + 1) (64 * ws.length)) := by
  obtain ⟨a, b, h, hb, hr, hn⟩ := select32R64_spec hok hi
  obtain ⟨_, e1, e2⟩ := ones_pair hb hr hn
  rw [h, e1, e2]

/-- the same, stated through the pair actually returned by IndexSelect32R64 -/
theorem C02_select32R64_pair (ws : List Nat) (hok : WordsOK ws) (i : Nat) (hi : i < (ones ws).length) :
    select32R64 ws (indexSelect32R64 ws).1 (indexSelect32R64 ws).2 i =
      some ((ones ws)[i], (ones ws).getD (i + 1) (64 * ws.length)) :=
  C02_select32R64 ws hok i hi

/-! non-vacuity: 66 one-bits over three words with an empty word in the middle; selects that cross
    the 32-checkpoint, the word boundary, the empty word, and the last 1-bit (tail `l<<6`). -/
private theorem ones_v : (ones [2^64 - 1, 0, 2^63 + 1]).length = 66 := by decide +kernel
private theorem sidx_v : indexSelect32 [2^64 - 1, 0, 2^63 + 1] = [0, 32, 128] := by decide +kernel
private theorem ridx_v : indexRank64 [2^64 - 1, 0, 2^63 + 1] true = [0, 64, 64, 66] := by decide +kernel

example : WordsOK [2^64 - 1, 0, 2^63 + 1] := by unfold WordsOK; decide +kernel
example : (ones [2^64 - 1, 0, 2^63 + 1]).length = 66 := ones_v
example : indexSelect32 [2^64 - 1, 0, 2^63 + 1] = [0, 32, 128] := sidx_v
example : indexSelect32R64 [2^64 - 1, 0, 2^63 + 1] = ([0, 32, 128], [0, 64, 64, 66]) := by
  rw [indexSelect32R64, sidx_v, ridx_v]
-- `sel8_eq` lets the kernel read one row instead of building the 2048-entry table for each lookup
example : select32 [2^64 - 1, 0, 2^63 + 1] (indexSelect32 [2^64 - 1, 0, 2^63 + 1]) 63 = some (63, 128) := by
  rw [sidx_v]; simp only [select32, selWord, sel8_eq]; decide +kernel
example : select32 [2^64 - 1, 0, 2^63 + 1] (indexSelect32 [2^64 - 1, 0, 2^63 + 1]) 65 = some (191, 192) := by
  rw [sidx_v]; simp only [select32, selWord, sel8_eq]; decide +kernel
example : select32R64 [2^64 - 1, 0, 2^63 + 1] (indexSelect32 [2^64 - 1, 0, 2^63 + 1])
    (indexRank64 [2^64 - 1, 0, 2^63 + 1] true) 64 = some (128, 191) := by
  rw [sidx_v, ridx_v]; simp only [select32R64, selWord, sel8_eq]; decide +kernel
example : select32R64 [2^64 - 1, 0, 2^63 + 1] (indexSelect32 [2^64 - 1, 0, 2^63 + 1])
    (indexRank64 [2^64 - 1, 0, 2^63 + 1] true) 65 = some (191, 192) := by
  rw [sidx_v, ridx_v]; simp only [select32R64, selWord, sel8_eq]; decide +kernel
/-- the theorems' hypotheses are satisfiable on that bitmap (i = 65 is the last 1-bit) -/
example := C02_select32 [2^64 - 1, 0, 2^63 + 1] (by unfold WordsOK; decide +kernel) 65 (by rw [ones_v]; decide)
example := C02_select32R64 [2^64 - 1, 0, 2^63 + 1] (by unfold WordsOK; decide +kernel) 31 (by rw [ones_v]; decide)
example := C02_rank_select [2^64 - 1, 0, 2^63 + 1] 64 (by rw [ones_v]; decide)
example : rank [2^64 - 1, 0, 2^63 + 1] 191 = 65 ∧ bitAt [2^64 - 1, 0, 2^63 + 1] 191 = true := by
  decide +kernel

end Low
