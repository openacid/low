import LowModel
import LowProofs.Lemmas.Wrap
/-
  C18 -- SectionWriter confines and accounts for every byte across any call sequence.
  Model: LowModel/Iohelper.lean (int64 arithmetic with wrap64, underlying writer scripted by the environment).
  Reference: `RefSW` in LowModel/Spec.lean (plain integers, a cursor machine one can read in a minute).
  The file holds the whole proof: the vocabulary tying the two (`SwInv`, `toRef`, `errName`, `toRefOut`, `toRefCall`),
  one refinement lemma per operation, `step_refines`, then the property theorems.
-/
namespace Low

/-- the section: start and end are non-negative int64 positions, the cursor never lies before the start -/
def SwInv (s : SectionWriter) : Prop :=
  0 ≤ s.base ∧ s.base ≤ s.off ∧ s.base ≤ s.limit ∧ s.limit ≤ 9223372036854775807 ∧ s.off ≤ 9223372036854775807

/-- the reference machine's state has the same three fields -/
def toRef (s : SectionWriter) : RefSW := ⟨s.base, s.off, s.limit⟩

/-- the error classes as the reference machine names them: `ErrShortWrite`, the two `Seek` errors, and whatever the
    underlying writer returned -/
def errName : Option IoErr → Option String
  | none => none
  | some .shortWrite => some "ShortWrite"
  | some .whence => some "Whence"
  | some .offset => some "Offset"
  | some .underlying => some "Underlying"

theorem errName_ite (c : Prop) [Decidable c] (a b : Option IoErr) :
    errName (if c then a else b) = if c then errName a else errName b := by split <;> rfl

/-- one observable outcome: return value, error class, and the call made on the underlying writer (offset, length) -/
def toRefOut (r : Ret) (u : Option UCall) : RefOut := ⟨r.n, errName r.err, u.map fun c => (c.off, c.len)⟩

/-- the same call on the reference machine: the scripted answer of the underlying writer is passed along -/
def toRefCall : SwCall → RefCall
  | .write plen ans => .write plen ans.accept ans.fail
  | .writeAt plen off ans => .writeAt plen off ans.accept ans.fail
  | .seek offset whence => .seek offset whence
  | .size => .size

/-- NewSectionWriter(w, off, n) with 0 ≤ off, 0 ≤ n, off + n an int64 satisfies the invariant -/
theorem C18_init (off n : Int) (h0 : 0 ≤ off) (hn : 0 ≤ n) (h : off + n ≤ 9223372036854775807) :
    SwInv (newSectionWriter off n) ∧ toRef (newSectionWriter off n) = ⟨off, off, off + n⟩ := by
  have : wrap64 (off + n) = off + n := wrap64_id (by omega) (by omega)
  simp only [newSectionWriter, SwInv, toRef, this]
  refine ⟨⟨h0, Int.le_refl _, ?_, ?_, ?_⟩, trivial⟩ <;> omega

/-- the truncation of a request to the room `mx` left in the section, as the reference machine writes it -/
theorem clip_eq (plen : Nat) {mx : Int} (h : 0 ≤ mx) :
    (if (plen : Int) > mx then (mx.toNat, some IoErr.shortWrite) else (plen, none)) =
      (min plen mx.toNat, if plen > mx.toNat then some IoErr.shortWrite else none) := by
  by_cases hp : (plen : Int) > mx
  · have hgt : plen > mx.toNat := by omega
    rw [if_pos hp, if_pos hgt, Nat.min_eq_right (Nat.le_of_lt hgt)]
  · have hgt : ¬ plen > mx.toNat := by omega
    rw [if_neg hp, if_neg hgt, Nat.min_eq_left (Nat.le_of_not_gt hgt)]

/-- the scripted underlying writer answers the model and the reference machine alike; the error classes correspond -/
theorem out_eq (ans : UAns) (k : Nat) (err : Option IoErr) (u : Option UCall) :
    (⟨(refAccept ans.accept ans.fail k).1,
      if (refAccept ans.accept ans.fail k).2 = true then some "Underlying" else errName err,
      u.map fun c => (c.off, c.len)⟩ : RefOut) =
    toRefOut ⟨(ans.apply k).1, if (ans.apply k).2 = true then some .underlying else err⟩ u := by
  rw [show ans.apply k = refAccept ans.accept ans.fail k from rfl]
  generalize refAccept ans.accept ans.fail k = r
  obtain ⟨n, failed⟩ := r
  cases failed <;> rfl

/-- Write: the cursor advances by what the underlying writer accepted, and stays an int64 -/
theorem write_refines (s : SectionWriter) (plen : Nat) (ans : UAns) (hi : SwInv s) :
    SwInv (s.write plen ans).1 ∧
      (toRef s).write plen ans.accept ans.fail =
        (toRef (s.write plen ans).1, toRefOut (s.write plen ans).2.1 (s.write plen ans).2.2) := by
  obtain ⟨b, o, l⟩ := s
  obtain ⟨h0, h1, h2, h3, h4⟩ := hi
  simp only at h0 h1 h2 h3 h4
  rw [show toRef ⟨b, o, l⟩ = ⟨b, o, l⟩ from rfl]
  dsimp only [SectionWriter.write, RefSW.write]
  by_cases hge : o ≥ l
  · rw [if_pos hge, if_pos hge]
    exact ⟨⟨h0, h1, h2, h3, h4⟩, rfl⟩
  · rw [if_neg hge, if_neg hge, wrap64_id (show -9223372036854775808 ≤ l - o by omega) (by omega),
      clip_eq plen (show 0 ≤ l - o by omega)]
    have hn : (ans.apply (min plen (l - o).toNat)).1 ≤ (l - o).toNat :=
      Nat.le_trans (Nat.min_le_right _ _) (Nat.min_le_right _ _)
    have hw := wrap64_id (show -9223372036854775808 ≤ o + ((ans.apply (min plen (l - o).toNat)).1 : Int) by omega)
      (by omega)
    refine ⟨⟨h0, ?_, h2, h3, ?_⟩, ?_⟩
    · show b ≤ wrap64 _
      rw [hw]; omega
    · show wrap64 _ ≤ _
      rw [hw]; omega
    · show (_, _) = ((⟨b, wrap64 _, l⟩ : RefSW), _)
      rw [hw]
      refine congrArg (Prod.mk _) (Eq.trans ?_ (out_eq ans _
        (if plen > (l - o).toNat then some IoErr.shortWrite else none) (some ⟨o, _⟩)))
      rw [errName_ite]
      rfl

/-- WriteAt: for an int64 offset the absolute position `off + base` and the room behind it do not wrap -/
theorem writeAt_refines (s : SectionWriter) (plen : Nat) (off : Int) (ans : UAns) (hi : SwInv s)
    (hlo : -9223372036854775808 ≤ off) (hhi : off ≤ 9223372036854775807) :
    (toRef s).writeAt plen off ans.accept ans.fail =
      toRefOut (s.writeAt plen off ans).1 (s.writeAt plen off ans).2 := by
  obtain ⟨b, o, l⟩ := s
  obtain ⟨h0, h1, h2, h3, h4⟩ := hi
  simp only at h0 h1 h2 h3 h4
  rw [show toRef ⟨b, o, l⟩ = ⟨b, o, l⟩ from rfl]
  dsimp only [SectionWriter.writeAt, RefSW.writeAt]
  rw [wrap64_id (show -9223372036854775808 ≤ l - b by omega) (by omega)]
  by_cases hout : off < 0 ∨ off ≥ l - b
  · rw [if_pos hout, if_pos hout]; rfl
  · rw [if_neg hout, if_neg hout, wrap64_id (show -9223372036854775808 ≤ off + b by omega) (by omega),
      wrap64_id (show -9223372036854775808 ≤ l - (off + b) by omega) (by omega),
      show l - b - off = l - (off + b) by omega, show b + off = off + b by omega]
    by_cases hp : (plen : Int) > l - (off + b)
    · have hgt : plen > (l - (off + b)).toNat := by omega
      rw [if_pos hp, Nat.min_eq_right (Nat.le_of_lt hgt), if_pos hgt]
      exact out_eq ans _ (some .shortWrite) (some ⟨off + b, _⟩)
    · have hgt : ¬ plen > (l - (off + b)).toNat := by omega
      rw [if_neg hp, Nat.min_eq_left (Nat.le_of_not_gt hgt), if_neg hgt]
      exact out_eq ans _ none (some ⟨off + b, _⟩)

/-- what `Seek` does once `whence` has produced the position `t` -/
def SectionWriter.seekTo (s : SectionWriter) (t : Int) : SectionWriter × Ret :=
  if wrap64 t < s.base then (s, ⟨0, some .offset⟩) else ({ s with off := wrap64 t }, ⟨wrap64 (wrap64 t - s.base), none⟩)

def RefSW.seekTo (s : RefSW) (t : Int) : RefSW × RefOut :=
  if t < s.base then (s, ⟨0, some "Offset", none⟩) else ({ s with off := t }, ⟨t - s.base, none, none⟩)

theorem seekTo_refines {s : SectionWriter} (hi : SwInv s) {t : Int}
    (hlo : -9223372036854775808 ≤ t) (hhi : t ≤ 9223372036854775807) :
    SwInv (s.seekTo t).1 ∧ (toRef s).seekTo t = (toRef (s.seekTo t).1, toRefOut (s.seekTo t).2 none) := by
  obtain ⟨h0, h1, h2, h3, h4⟩ := hi
  unfold SectionWriter.seekTo RefSW.seekTo
  rw [wrap64_id hlo (by omega)]
  by_cases hlt : t < s.base
  · rw [if_pos hlt, if_pos (show t < (toRef s).base from hlt)]
    exact ⟨⟨h0, h1, h2, h3, h4⟩, rfl⟩
  · rw [if_neg hlt, if_neg (show ¬ t < (toRef s).base from hlt),
      wrap64_id (show -9223372036854775808 ≤ t - s.base by omega) (by omega)]
    exact ⟨⟨h0, show s.base ≤ t by omega, h2, h3, hhi⟩, rfl⟩

/-- Seek: a whence outside 0, 1, 2 is rejected; otherwise the target position is an int64 by `callOK` -/
theorem seek_refines (s : SectionWriter) (offset whence : Int) (hi : SwInv s)
    (hc : (toRef s).callOK (.seek offset whence) = true) :
    SwInv (s.seek offset whence).1 ∧
      (toRef s).seek offset whence = (toRef (s.seek offset whence).1, toRefOut (s.seek offset whence).2 none) := by
  obtain ⟨b, o, l⟩ := s
  rw [show toRef ⟨b, o, l⟩ = ⟨b, o, l⟩ from rfl] at hc ⊢
  simp only [RefSW.callOK, Bool.or_eq_true, decide_eq_true_eq, Bool.and_eq_true] at hc
  dsimp only [SectionWriter.seek, RefSW.seek]
  by_cases w0 : whence = 0
  · simp only [if_pos w0] at hc
    simp only [if_pos w0, if_neg (fun h : whence ≠ 0 ∧ whence ≠ 1 ∧ whence ≠ 2 => h.1 w0)]
    exact seekTo_refines hi (by omega) (by omega)
  · by_cases w1 : whence = 1
    · simp only [if_neg w0, if_pos w1] at hc
      simp only [if_neg w0, if_pos w1, if_neg (fun h : whence ≠ 0 ∧ whence ≠ 1 ∧ whence ≠ 2 => h.2.1 w1)]
      exact seekTo_refines hi (by omega) (by omega)
    · by_cases w2 : whence = 2
      · simp only [if_neg w0, if_neg w1] at hc
        simp only [if_neg w0, if_neg w1, if_pos w2, if_neg (fun h : whence ≠ 0 ∧ whence ≠ 1 ∧ whence ≠ 2 => h.2.2 w2)]
        exact seekTo_refines hi (by omega) (by omega)
      · simp only [if_neg w0, if_neg w1, if_neg w2, if_pos (show whence ≠ 0 ∧ whence ≠ 1 ∧ whence ≠ 2 from ⟨w0, w1, w2⟩)]
        exact ⟨hi, rfl⟩

/-- one step: on a call inside the int64 domain the model behaves exactly like the reference machine
    (so no int64 sum wraps), and the invariant is preserved -/
theorem step_refines (s : SectionWriter) (c : SwCall) (hi : SwInv s) (hc : (toRef s).callOK (toRefCall c) = true) :
    let (s', r, u) := s.step c
    SwInv s' ∧ ((toRef s).step (toRefCall c)) = (toRef s', toRefOut r u) := by
  cases c with
  | write plen ans => exact write_refines s plen ans hi
  | writeAt plen off ans =>
    simp only [toRefCall, RefSW.callOK, Bool.and_eq_true, decide_eq_true_eq] at hc
    exact ⟨hi, congrArg (Prod.mk (toRef s)) (writeAt_refines s plen off ans hi hc.1 hc.2)⟩
  | seek offset whence => exact seek_refines s offset whence hi hc
  | size =>
    have ⟨h0, _, h2, h3, _⟩ := hi
    have hsz : wrap64 (s.limit - s.base) = s.limit - s.base := wrap64_id (by omega) (by omega)
    refine ⟨hi, ?_⟩
    show (toRef s, (⟨s.limit - s.base, none, none⟩ : RefOut)) = (toRef s, toRefOut ⟨wrap64 (s.limit - s.base), none⟩ none)
    rw [hsz]; rfl

/-- the model's run over a call sequence -/
def swRun (s : SectionWriter) : List SwCall → List (Ret × Option UCall)
  | [] => []
  | c :: r => let (s', ret, u) := s.step c; (ret, u) :: swRun s' r

/-- C18 (refinement): along ANY sequence of Write / WriteAt / Seek / Size calls whose requested positions are
    int64 values, with an underlying writer that may fail or write short at any call, every return value, every
    error and every call made on the underlying writer (offset and number of leading bytes of the caller's
    buffer) is exactly what the reference cursor machine predicts. -/
theorem C18_refine : ∀ (calls : List SwCall) (s : SectionWriter), SwInv s →
    (toRef s).runOK (calls.map toRefCall) = true →
    (swRun s calls).map (fun p => toRefOut p.1 p.2) = (toRef s).run (calls.map toRefCall)
  | [], _, _, _ => rfl
  | c :: r, s, hi, hok => by
    simp only [List.map_cons, RefSW.runOK, Bool.and_eq_true] at hok
    have hs := step_refines s c hi hok.1
    simp only [swRun, List.map_cons, RefSW.run]
    generalize hstep : s.step c = st at hs
    obtain ⟨s', ret, u⟩ := st
    rw [hs.2] at hok ⊢
    rw [C18_refine r s' hs.1 hok.2]

/-- the reference machine hands the underlying writer only ranges inside the section -/
theorem ref_confine (s : RefSW) (c : RefCall) (hb : s.base ≤ s.off) (o : Int) (len : Nat)
    (hu : (s.step c).2.ucall = some (o, len)) : s.base ≤ o ∧ o + len ≤ s.limit := by
  cases c with
  | write plen accept fail =>
    simp only [RefSW.step, RefSW.write] at hu
    split at hu
    · cases hu
    · simp only [Option.some.injEq, Prod.mk.injEq] at hu
      omega
  | writeAt plen off accept fail =>
    simp only [RefSW.step, RefSW.writeAt] at hu
    split at hu
    · cases hu
    · simp only [Option.some.injEq, Prod.mk.injEq] at hu
      omega
  | seek offset whence =>
    have : (s.seek offset whence).2.ucall = none := by
      unfold RefSW.seek
      by_cases hw : whence ≠ 0 ∧ whence ≠ 1 ∧ whence ≠ 2
      · rw [if_pos hw]
      · rw [if_neg hw]
        generalize offset + _ = t
        by_cases ht : t < s.base
        · rw [if_pos ht]
        · rw [if_neg ht]
    rw [RefSW.step, this] at hu
    cases hu
  | size => cases hu

/-- C18 (confinement): a write reaches the underlying writer only inside [base, limit). (`hl`, the property's
    "non-empty", is a domain hypothesis the proof does not use: an empty range lies inside as well.) -/
theorem C18_confine (s : SectionWriter) (c : SwCall) (hi : SwInv s) (hc : (toRef s).callOK (toRefCall c) = true)
    (o : Int) (len : Nat) (hu : (s.step c).2.2 = some ⟨o, len⟩) (hl : 0 < len) :
    s.base ≤ o ∧ o + len ≤ s.limit := by
  -- the model's step is the reference machine's, and that one confines by inspection
  have h := step_refines s c hi hc
  generalize s.step c = st at h hu
  obtain ⟨s', r, u⟩ := st
  have e : ((toRef s).step (toRefCall c)).2.ucall = some (o, len) := by
    rw [h.2, show u = _ from hu]
    rfl
  exact ref_confine (toRef s) (toRefCall c) hi.2.1 o len e

/-! The reference machine says what the property says (read these off `RefSW` directly): -/

/-- ErrShortWrite, with a non-failing underlying writer: exactly when the request is truncated by,
    or starts at or beyond, the section end; the count is the number of bytes passed through. -/
theorem C18_short_write (s : RefSW) (plen accept : Nat) (ha : plen ≤ accept) :
    let o := (s.write plen accept false).2
    (o.err = some "ShortWrite" ↔ (s.off ≥ s.limit ∨ (plen : Int) > s.limit - s.off)) ∧
    (o.err = none ∨ o.err = some "ShortWrite") ∧
    o.n = (if s.off ≥ s.limit then 0 else min (plen : Int) (s.limit - s.off)) := by
  simp only [RefSW.write, refAccept]
  by_cases hge : s.off ≥ s.limit
  · simp [hge]
  · simp only [hge, ↓reduceIte, Bool.false_or, false_or]
    have hlt : ¬ accept < min plen (s.limit - s.off).toNat := by omega
    by_cases hp : plen > (s.limit - s.off).toNat
    · simp [hp]; omega
    · simp [hp]; omega

theorem C18_short_writeAt (s : RefSW) (plen accept : Nat) (off : Int) (ha : plen ≤ accept) (h0 : 0 ≤ off) :
    let o := s.writeAt plen off accept false
    (o.err = some "ShortWrite" ↔ (off ≥ s.limit - s.base ∨ (plen : Int) > s.limit - s.base - off)) ∧
    (o.err = none ∨ o.err = some "ShortWrite") := by
  simp only [RefSW.writeAt, refAccept]
  by_cases hge : off < 0 ∨ off ≥ s.limit - s.base
  · have : off ≥ s.limit - s.base := by omega
    simp [this]
  · simp only [hge, ↓reduceIte, Bool.false_or]
    have hlt : ¬ accept < min plen (s.limit - s.base - off).toNat := by omega
    by_cases hp : plen > (s.limit - s.base - off).toNat
    · simp [hp]; omega
    · simp [hp]; omega

/-- an error of the underlying writer is propagated, with the count it reported -/
theorem C18_underlying_error (s : RefSW) (plen accept : Nat) (h : s.off < s.limit) :
    (s.write plen accept true).2.err = some "Underlying" ∧
    (s.write plen accept true).2.n = min accept (min plen (s.limit - s.off).toNat) := by
  simp [RefSW.write, refAccept, Int.not_le.mpr h]

/-- Seek: io.Seeker arithmetic relative to the section; invalid whence and positions before the start are
    rejected and leave the cursor unchanged. -/
theorem C18_seek (s : RefSW) (offset whence : Int) :
    let (s', o) := s.seek offset whence
    let target := offset + (if whence = 0 then s.base else if whence = 1 then s.off else s.limit)
    (whence ≠ 0 ∧ whence ≠ 1 ∧ whence ≠ 2 → o.err = some "Whence" ∧ s' = s) ∧
    ((whence = 0 ∨ whence = 1 ∨ whence = 2) → target < s.base → o.err = some "Offset" ∧ s' = s) ∧
    ((whence = 0 ∨ whence = 1 ∨ whence = 2) → s.base ≤ target →
        o.err = none ∧ o.n = target - s.base ∧ s'.off = target ∧ s'.base = s.base ∧ s'.limit = s.limit) := by
  simp only [RefSW.seek]
  by_cases hw : whence ≠ 0 ∧ whence ≠ 1 ∧ whence ≠ 2
  · simp [hw]
  · simp only [hw, ↓reduceIte]
    by_cases ht : offset + (if whence = 0 then s.base else if whence = 1 then s.off else s.limit) < s.base
    · simp [ht]
    · simp [ht]

/-- AtToWriter(w, off) is the section from `off` to the largest int64 -/
theorem C18_atToWriter (off : Int) (h0 : 0 ≤ off) (h1 : off ≤ 9223372036854775807) :
    SwInv (atToWriter off) ∧ toRef (atToWriter off) = ⟨off, off, 9223372036854775807⟩ := by
  have e1 : wrap64 (maxOffset - off) = maxOffset - off := wrap64_id (by simp [maxOffset]; omega) (by simp [maxOffset]; omega)
  have := C18_init off (maxOffset - off) h0 (by simp [maxOffset]; omega) (by simp [maxOffset]; omega)
  simp only [atToWriter, e1]
  refine ⟨this.1, ?_⟩
  rw [this.2]; simp only [maxOffset, RefSW.mk.injEq, true_and]; omega

/-! non-vacuity: a section [5, 8): write 3 (fills it), write 1 (short), seek back 1, write 2 (truncated to 1) -/
example : (swRun (newSectionWriter 5 3) [.write 3 ⟨3, false⟩, .write 1 ⟨1, false⟩, .seek (-1) 1, .write 2 ⟨2, false⟩]).map
    (fun p => toRefOut p.1 p.2) =
    [⟨3, none, some (5, 3)⟩, ⟨0, some "ShortWrite", none⟩, ⟨2, none, none⟩, ⟨1, some "ShortWrite", some (7, 1)⟩] := by
  decide +kernel

end Low
