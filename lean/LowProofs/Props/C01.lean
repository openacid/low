import LowProofs.Lemmas.Count
/-
  C01 -- Rank is exact: Rank64/Rank128 count the 1-bits before any position.
  The index lemmas behind the first two theorems are in Lemmas/Count.lean.
  (The model uses unbounded naturals; it represents the int32 code for `BmDom ws`, see DESIGN 3.1.)
-/
namespace Low

/-- IndexRank64: one entry per word, entry k = number of 1-bits before position 64k,
    plus a final grand-total entry when `trailing`. -/
theorem C01_indexRank64 (ws : List Nat) (t : Bool) :
    indexRank64 ws t = (List.range (ws.length + t.toNat)).map (fun k => rank ws (64 * k)) :=
  indexRank64_eq ws t

/-- IndexRank128: len/2+1 entries, entry k = number of 1-bits before position 128k. -/
theorem C01_indexRank128 (ws : List Nat) :
    indexRank128 ws = (List.range (ws.length / 2 + 1)).map (fun k => rank ws (128 * k)) := by
  have := indexRank128Go_spec ws [] (by simp)
  simpa [indexRank128, rank, List.range_eq_range'] using this

/-- Rank64 with the index built by IndexRank64 (either value of `trailing`) returns exactly
    (number of 1-bits before i, bit i), and does not panic, for every position inside the bitmap. -/
theorem C01_rank64 (ws : List Nat) (t : Bool) (i : Nat) (hi : i < 64 * ws.length) :
    rank64 ws (indexRank64 ws t) i = some (rank ws i, (bitAt ws i).toNat) := by
  have hw : ws[i / 64]? = some ws[i / 64] := List.getElem?_eq_getElem (by omega)
  have hidx : (indexRank64 ws t)[i / 64]? = some (rank ws (64 * (i / 64))) := by
    rw [C01_indexRank64, List.getElem?_map, List.getElem?_range (by omega)]; rfl
  simp only [rank64, hidx, hw, Option.bind_eq_bind, Option.bind_some, popc_and_mask,
    shiftRight_mod_two, bitAt_eq hw, Nat.min_eq_right (Nat.le_of_lt (Nat.mod_lt i (by decide : 0 < 64))),
    rank_eq_word hw]

/-- Rank128 with the index built by IndexRank128 returns exactly (number of 1-bits before i, bit i). -/
theorem C01_rank128 (ws : List Nat) (i : Nat) (hi : i < 64 * ws.length) :
    rank128 ws (indexRank128 ws) i = some ((rank ws i : Int), (bitAt ws i).toNat) := by
  have hw : ws[i / 64]? = some ws[i / 64] := List.getElem?_eq_getElem (by omega)
  have hidx : (indexRank128 ws)[(i + 64) / 128]? = some (rank ws (128 * ((i + 64) / 128))) := by
    rw [C01_indexRank128, List.getElem?_map, List.getElem?_range (by omega)]; rfl
  simp only [rank128, hidx, hw, Option.bind_eq_bind, Option.bind_some, popc_and_mask,
    shiftRight_mod_two, bitAt_eq hw, Nat.min_eq_right (Nat.le_of_lt (Nat.mod_lt i (by decide : 0 < 64))),
    rank_eq_word hw, pair_start]
  rcases Nat.mod_two_eq_zero_or_one (i / 64) with hp | hp
  · rw [hp]; simp
  · rw [hp, Nat.mul_one, rank_word hw 64 (Nat.le_refl _)]; simp

/-! non-vacuity: a concrete two-word bitmap and positions in both halves of a 128-bit block -/
example : rank64 [5, 2^63] (indexRank64 [5, 2^63] true) 127 = some (2, 1) := by decide +kernel
example : rank128 [5, 2^63] (indexRank128 [5, 2^63]) 64 = some (2, 0) := by decide +kernel
example : indexRank128 [1, 3, 7] = [0, 3] ∧ indexRank64 [1, 3, 7] true = [0, 1, 3, 6] := by decide +kernel

end Low
