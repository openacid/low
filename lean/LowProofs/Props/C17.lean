import LowProofs.Lemmas.C17Final
/-
  C17 -- ShardByPrefix: bounded contiguous shards with ordered, unique prefixes.
  Only the property theorems and their non-vacuity examples live here; helpers are in Lemmas/C17*.lean
  (and Lemmas/C16Lcp.lean, C16Fd.lean, BitList.lean for the first-difference bits).
  Keys are `List Nat` with `BytesOK` (every element `< 256`); the result is `(L, B)` = (prefix lengths,
  boundaries). Hypotheses named `_h…` belong to the property's domain but are not needed by the proof.
-/
namespace Low
open Low.C16L Low.C17L

/-- ShardByPrefix does not panic and does not run out of the model's fuel `len(keys)+1` (termination). -/
theorem C17_total (keys : List (List Nat)) (maxSize : Int) (hne : keys ≠ [])
    (_hasc : strictAsc keys = true) (hok : ∀ k ∈ keys, BytesOK k) (hm : 1 ≤ maxSize) :
    ∃ L B, shardByPrefix keys maxSize = some (L, B) := by
  obtain ⟨Ls, Bs, h, _⟩ := shard_valid keys maxSize hne hok hm
  exact ⟨Ls, 0 :: Bs, h⟩

/-- shape: `k+1` boundaries for `k` prefix lengths, `0 = B[0] < B[1] < … < B[k] = len(keys)`. -/
theorem C17_shape (keys : List (List Nat)) (maxSize : Int) (hne : keys ≠ [])
    (_hasc : strictAsc keys = true) (hok : ∀ k ∈ keys, BytesOK k) (hm : 1 ≤ maxSize)
    (L B : List Nat) (h : shardByPrefix keys maxSize = some (L, B)) :
    B.length = L.length + 1 ∧ B.head? = some 0 ∧ B.getLast? = some keys.length ∧
      ∀ j, j < L.length → B.getD j 0 < B.getD (j + 1) 0 := by
  obtain ⟨Bs, rfl, hv⟩ := valid_of_shard keys maxSize hne hok hm h
  refine ⟨by simp [valid_length hv], rfl, valid_last hv, fun j hj => ?_⟩
  exact (valid_index hv j hj).1

/-- size: every shard `keys[B[j]:B[j+1]]` holds at most `maxSize` keys. -/
theorem C17_size (keys : List (List Nat)) (maxSize : Int) (hne : keys ≠ [])
    (_hasc : strictAsc keys = true) (hok : ∀ k ∈ keys, BytesOK k) (hm : 1 ≤ maxSize)
    (L B : List Nat) (h : shardByPrefix keys maxSize = some (L, B)) :
    ∀ j, j < L.length → ((B.getD (j + 1) 0 - B.getD j 0 : Nat) : Int) ≤ maxSize := by
  obtain ⟨Bs, rfl, hv⟩ := valid_of_shard keys maxSize hne hok hm h
  intro j hj
  have := (valid_index hv j hj).2.1
  omega

/-- lcp: `L[j]` is exactly the byte length of the longest common prefix of shard `j`
    (`lcpAll` of a single key is its length). -/
theorem C17_lcp (keys : List (List Nat)) (maxSize : Int) (hne : keys ≠ [])
    (_hasc : strictAsc keys = true) (hok : ∀ k ∈ keys, BytesOK k) (hm : 1 ≤ maxSize)
    (L B : List Nat) (h : shardByPrefix keys maxSize = some (L, B)) :
    ∀ j, j < L.length →
      L.getD j 0 = lcpAll ((keys.drop (B.getD j 0)).take (B.getD (j + 1) 0 - B.getD j 0)) := by
  obtain ⟨Bs, rfl, hv⟩ := valid_of_shard keys maxSize hne hok hm h
  intro j hj
  exact (valid_index hv j hj).2.2

/-- order: the shard prefixes `keys[B[j]][:L[j]]` are strictly ascending in byte order … -/
theorem C17_order (keys : List (List Nat)) (maxSize : Int) (hne : keys ≠ [])
    (hasc : strictAsc keys = true) (hok : ∀ k ∈ keys, BytesOK k) (hm : 1 ≤ maxSize)
    (L B : List Nat) (h : shardByPrefix keys maxSize = some (L, B)) :
    strictAsc ((List.range L.length).map fun j => (keys.getD (B.getD j 0) []).take (L.getD j 0)) = true := by
  obtain ⟨Ls, Bs, h', hv, hp⟩ := shard_ordered keys maxSize hne hasc hok hm
  cases h'.symm.trans h
  rw [PL_eq_map keys L Bs 0 (valid_length hv)]
  exact strictAsc_of_pairwise _ hp

/-- … hence pairwise distinct. -/
theorem C17_unique (keys : List (List Nat)) (maxSize : Int) (hne : keys ≠ [])
    (hasc : strictAsc keys = true) (hok : ∀ k ∈ keys, BytesOK k) (hm : 1 ≤ maxSize)
    (L B : List Nat) (h : shardByPrefix keys maxSize = some (L, B)) :
    ((List.range L.length).map fun j => (keys.getD (B.getD j 0) []).take (L.getD j 0)).Pairwise (· ≠ ·) := by
  have := pairwise_of_strictAsc _ (C17_order keys maxSize hne hasc hok hm L B h)
  refine this.imp ?_
  intro a b hab e
  exact bytesCompare_irrefl a (by rw [← e] at hab; exact hab)

/-- All clauses at once, through the checkable predicate `shardOK` of `LowModel/Spec.lean` (the predicate the
    correspondence harness evaluates on the Go result): no panic, shape, size, lcp and strict order. -/
theorem C17_shardByPrefix (keys : List (List Nat)) (maxSize : Int) (hne : keys ≠ [])
    (hasc : strictAsc keys = true) (hok : ∀ k ∈ keys, BytesOK k) (hm : 1 ≤ maxSize) :
    ∃ L B, shardByPrefix keys maxSize = some (L, B) ∧ shardOK keys maxSize.toNat L B = true := by
  obtain ⟨Ls, Bs, h, hpost⟩ := shard_ordered keys maxSize hne hasc hok hm
  exact ⟨Ls, 0 :: Bs, h, shardOK_of_post keys maxSize.toNat Ls Bs hpost⟩

/-! non-vacuity: a key list with a key that is the common prefix of its successors, NUL bytes and a
    split that restarts (`maxSize = 2`) -/
example : strictAsc [[97], [97, 0], [97, 1], [98], [98, 1, 1], [98, 1, 2], [98, 2]] = true := by decide +kernel
example : ∀ k ∈ ([[97], [97, 0], [97, 1], [98], [98, 1, 1], [98, 1, 2], [98, 2]] : List (List Nat)), BytesOK k := by
  unfold BytesOK
  decide
theorem shardDemo_fds : firstDiffBits [[97], [97, 0], [97, 1], [98], [98, 1, 1], [98, 1, 2], [98, 2]] =
    some [8, 15, 6, 8, 22, 14] := by decide +kernel

example : shardByPrefix [[97], [97, 0], [97, 1], [98], [98, 1, 1], [98, 1, 2], [98, 2]] 2 =
    some ([1, 2, 2, 1, 2, 2], [0, 1, 2, 3, 4, 6, 7]) := by
  simp [shardByPrefix, shardDemo_fds, shardDfs, shardEach, shardScan]
example : shardOK [[97], [97, 0], [97, 1], [98], [98, 1, 1], [98, 1, 2], [98, 2]] 2
    [1, 2, 2, 1, 2, 2] [0, 1, 2, 3, 4, 6, 7] = true := by decide +kernel
example : shardByPrefix [[97], [97, 0], [97, 1], [98], [98, 1, 1], [98, 1, 2], [98, 2]] 3 =
    some ([1, 1, 2, 2], [0, 3, 4, 6, 7]) := by
  simp [shardByPrefix, shardDemo_fds, shardDfs, shardEach, shardScan]
/-- the order clause is not implied by shape/size/lcp: a valid-looking partition with unordered prefixes -/
example : shardOK [[97], [97, 98], [98]] 2 [1, 0] [0, 1, 3] = false := by decide +kernel

end Low
