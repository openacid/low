import LowProofs.Lemmas.C07
/-
  C07 -- pbcmpl reports truncation, write failure and corrupt headers as errors.
  Model: LowModel/Pbcmpl.lean (the code as repaired: a negative body size is ErrInvalidBodySize, the body is
  read incrementally, a short body read after at least one byte is io.ErrUnexpectedEOF).
  "frame of (ver, body)" is `pbFrame ver body = some frame` (which forces `ver.length ≤ 16`);
  `body.length < 2^63` because a Go slice length is an `int`.  A reader is (bytes it will deliver, end error);
  a writer is a capacity with two failure modes (see `wWrite`).
  Header fields of a byte string `bs`, as the code decodes them:
    header size = `wrap64 (unle ((bs.drop 16).take 8))`, body size = `wrap64 (unle ((bs.drop 24).take 8))`.
-/
namespace Low
open C06L C07L

/-- Any strict prefix of a frame, then EOF: never success; the count is the number of bytes that were
    available; the error is io.EOF when nothing was available or for the cut exactly after the 32-byte header,
    io.ErrUnexpectedEOF otherwise; the reader is drained. -/
theorem C07_truncated (ver body frame : List Nat) (k : Nat)
    (hf : pbFrame ver body = some frame) (hb : body.length < 2 ^ 63) (hk : k < frame.length) :
    (pbUnmarshal ⟨frame.take k, .eof⟩).n = k ∧
    (pbUnmarshal ⟨frame.take k, .eof⟩).body = none ∧
    (pbUnmarshal ⟨frame.take k, .eof⟩).err = some (if k = 0 ∨ k = 32 then .eof else .unexpectedEOF) ∧
    (pbUnmarshal ⟨frame.take k, .eof⟩).rest = ⟨[], .eof⟩ := by
  rw [pbUnmarshal_cut ver body frame .eof k hf hb hk]
  simp [cutErr]

example : (pbFrame [49, 46, 48] [7, 8, 9]).map (fun f => (List.range 35).map fun k => (pbUnmarshal ⟨f.take k, .eof⟩).err) =
    some ((List.range 35).map fun k => some (if k = 0 ∨ k = 32 then PbErr.eof else PbErr.unexpectedEOF)) := by decide +kernel
example : (pbFrame [49, 46, 48] [7, 8, 9]).map (fun f => (List.range 35).map fun k => (pbUnmarshal ⟨f.take k, .eof⟩).n) =
    some (List.range 35) := by decide +kernel

/-- Any strict prefix of a frame, then a reader error: that error is returned with the count of bytes
    that were available, never success. -/
theorem C07_readError (ver body frame : List Nat) (k : Nat)
    (hf : pbFrame ver body = some frame) (hb : body.length < 2 ^ 63) (hk : k < frame.length) :
    (pbUnmarshal ⟨frame.take k, .injected⟩).n = k ∧
    (pbUnmarshal ⟨frame.take k, .injected⟩).body = none ∧
    (pbUnmarshal ⟨frame.take k, .injected⟩).err = some .injected ∧
    (pbUnmarshal ⟨frame.take k, .injected⟩).rest = ⟨[], .injected⟩ := by
  rw [pbUnmarshal_cut ver body frame .injected k hf hb hk]
  simp [cutErr]

example : (pbFrame [49, 46, 48] [7, 8, 9]).map (fun f => (List.range 35).map fun k =>
      ((pbUnmarshal ⟨f.take k, .injected⟩).n, (pbUnmarshal ⟨f.take k, .injected⟩).err)) =
    some ((List.range 35).map fun k => (k, some PbErr.injected)) := by decide +kernel

/-- A header whose recorded header size is not 32 (any 32 bytes, followed by anything):
    ErrInvalidHeaderSize after consuming exactly 32 bytes. -/
theorem C07_headerSize (hdr rest : List Nat) (e : PbErr) (hl : hdr.length = 32)
    (hs : wrap64 (unle ((hdr.drop 16).take 8)) ≠ 32) :
    pbUnmarshal ⟨hdr ++ rest, e⟩ = ⟨32, verStr (hdr.take 16), none, some .invalidHeaderSize, ⟨rest, e⟩⟩ := by
  rw [pbUnmarshal_fields hdr rest e hl _ _ rfl rfl, if_pos (show hsField hdr ≠ 32 from hs)]

example : pbUnmarshal ⟨List.replicate 16 65 ++ le64 33 ++ le64 0 ++ [1, 2], .eof⟩ =
    ⟨32, List.replicate 16 65, none, some .invalidHeaderSize, ⟨[1, 2], .eof⟩⟩ := by decide +kernel
example : wrap64 (unle (((List.replicate 16 65 ++ le64 33 ++ le64 0).drop 16).take 8)) ≠ 32 := by decide +kernel

/-- (not named in the property text, but part of its quantifier: body-size fields ≥ 2^63)
    A header with header size 32 whose body-size field is negative as an int64:
    ErrInvalidBodySize after consuming exactly 32 bytes -- nothing is allocated or read. -/
theorem C07_bodySize (hdr rest : List Nat) (e : PbErr) (hl : hdr.length = 32)
    (hs : wrap64 (unle ((hdr.drop 16).take 8)) = 32) (hbs : wrap64 (unle ((hdr.drop 24).take 8)) < 0) :
    pbUnmarshal ⟨hdr ++ rest, e⟩ = ⟨32, verStr (hdr.take 16), none, some .invalidBodySize, ⟨rest, e⟩⟩ := by
  rw [pbUnmarshal_fields hdr rest e hl _ _ rfl rfl, if_neg (not_not_intro (show hsField hdr = 32 from hs)),
    if_pos (show bsField hdr < 0 from hbs)]

example : pbUnmarshal ⟨List.replicate 16 0 ++ le64 32 ++ le64 (2 ^ 63) ++ [1, 2], .eof⟩ =
    ⟨32, [], none, some .invalidBodySize, ⟨[1, 2], .eof⟩⟩ := by decide +kernel

/-- Unmarshal and ReadHeader return normally on arbitrary input. In the model of the repaired code they are
    total functions -- there is no panic outcome, nothing is allocated from the header. What can be stated:
    for ALL bytes and end errors the count never exceeds the bytes available, the reader is left exactly
    after the counted bytes, and there is an error exactly when no body (resp. header) is returned. -/
theorem C07_total (bytes : List Nat) (e : PbErr) :
    (pbUnmarshal ⟨bytes, e⟩).n ≤ bytes.length ∧
    ((pbUnmarshal ⟨bytes, e⟩).err = none ↔ (pbUnmarshal ⟨bytes, e⟩).body ≠ none) ∧
    (pbUnmarshal ⟨bytes, e⟩).rest = ⟨bytes.drop (pbUnmarshal ⟨bytes, e⟩).n, e⟩ := by
  by_cases h : bytes.length < 32
  · rw [pbUnmarshal_short bytes e h]; simp
  · rcases pbUnmarshal_long_cases bytes e (by omega) with ⟨_, hu⟩ | ⟨_, _, hu⟩ | ⟨_, _, _, err, hu⟩ | ⟨_, _, hlen, hu⟩
    · rw [hu]; simp; omega
    · rw [hu]; simp; omega
    · rw [hu]; simp
    · rw [hu]; simp; omega

theorem C07_total_readHeader (bytes : List Nat) (e : PbErr) :
    (pbReadHeader ⟨bytes, e⟩).1 ≤ bytes.length ∧
    ((pbReadHeader ⟨bytes, e⟩).2.2.1 = none ↔ (pbReadHeader ⟨bytes, e⟩).2.1 ≠ none) ∧
    (pbReadHeader ⟨bytes, e⟩).2.2.2 = ⟨bytes.drop (pbReadHeader ⟨bytes, e⟩).1, e⟩ := by
  by_cases h : bytes.length < 32
  · rw [pbReadHeader_short bytes e h]; simp
  · rw [pbReadHeader_long bytes e (by omega)]; simp; omega

/-- corrupted size fields of every magnitude, 2^63 and 2^64-1 included: an error, never more than the input consumed -/
example : ([0, 2, 3, 33, 2 ^ 31, 2 ^ 63 - 1, 2 ^ 63, 2 ^ 64 - 1].map fun s =>
      (pbUnmarshal ⟨List.replicate 16 0 ++ le64 32 ++ le64 s ++ [1, 2], .eof⟩).err) =
    [none, none, some .unexpectedEOF, some .unexpectedEOF, some .unexpectedEOF, some .unexpectedEOF,
      some .invalidBodySize, some .invalidBodySize] := by decide +kernel

/-- Unmarshal succeeds only if a complete frame was present: 32 header bytes whose header-size field is 32
    and whose body-size field is the length of the body returned, followed by exactly those body bytes;
    the count is the length of that frame. -/
theorem C07_success_complete (bytes b : List Nat) (e : PbErr)
    (h : (pbUnmarshal ⟨bytes, e⟩).body = some b) :
    32 + b.length ≤ bytes.length ∧
    wrap64 (unle ((bytes.drop 16).take 8)) = 32 ∧
    wrap64 (unle ((bytes.drop 24).take 8)) = (b.length : Int) ∧
    (bytes.drop 32).take b.length = b ∧
    (pbUnmarshal ⟨bytes, e⟩).n = 32 + b.length ∧
    (pbUnmarshal ⟨bytes, e⟩).err = none ∧
    (pbUnmarshal ⟨bytes, e⟩).rest = ⟨bytes.drop (32 + b.length), e⟩ := by
  by_cases hlt : bytes.length < 32
  · rw [pbUnmarshal_short bytes e hlt] at h; simp at h
  · rcases pbUnmarshal_long_cases bytes e (by omega) with ⟨_, hu⟩ | ⟨_, _, hu⟩ | ⟨_, _, _, err, hu⟩ | ⟨h1, h2, hlen, hu⟩
    · rw [hu] at h; simp at h
    · rw [hu] at h; simp at h
    · rw [hu] at h; simp at h
    · rw [hu] at h ⊢
      simp only [Option.some.injEq] at h
      have hbl : b.length = (bsField bytes).toNat := by
        rw [← h]; simp only [List.length_take, List.length_drop]; omega
      have hbs : bsField bytes = (b.length : Int) := by omega
      refine ⟨by omega, h1, hbs, ?_, ?_, rfl, ?_⟩
      · rw [hbl]; exact h
      · simp only [hbl]
      · simp only [hbl]

example : (pbUnmarshal ⟨List.replicate 16 0 ++ le64 32 ++ le64 2 ++ [1, 2, 3], .eof⟩).body = some [1, 2] := by decide +kernel

/-- ANY destination writer, scripted call by call (`a1` answers the header write, `a2` the body write; an
    answer may be short, may fail, and may even fail after taking the whole buffer -- all legal for io.Writer):
    the count Marshal returns is exactly the number of bytes the writer took, those bytes are exactly the first
    k bytes of the frame, the writer's failure is reported, and the body is not written after a failed header
    write. -/
theorem C07_writer_any (ver body frame : List Nat) (a1 a2 : WAns) (hf : pbFrame ver body = some frame) :
    pbMarshalScript a1 a2 ver body =
      if (a1.fail || decide (min a1.accept 32 < 32)) = true
      then some (min a1.accept 32, true, frame.take (min a1.accept 32))
      else some (32 + min a2.accept body.length, a2.fail || decide (min a2.accept body.length < body.length),
                 frame.take (32 + min a2.accept body.length)) := by
  obtain ⟨hv, rfl⟩ := pbFrame_some hf
  have hh := pbHeader_eq ver body.length hv
  have hl := pbHeader_length hh
  generalize pad16 ver ++ le64 32 ++ le64 body.length = hdr at hh hl
  simp only [pbMarshalScript, hh, hl]
  split
  · rw [List.take_append_of_le_length (by omega)]
  · have t : (hdr ++ body).take (32 + min a2.accept body.length) = hdr ++ body.take (min a2.accept body.length) := by
      rw [List.take_append, hl, List.take_of_length_le (by omega)]
      congr 2; omega
    rename_i hnf
    have h32 : min a1.accept 32 = 32 := by
      simp only [Bool.or_eq_true, decide_eq_true_eq, not_or, Nat.not_lt] at hnf
      omega
    rw [t, h32]

/-- The destination writer fails after accepting k bytes (it has room for `cap` < |frame| bytes):
    Marshal reports the failure and the count k, having emitted exactly the first k bytes of the frame.
    Partial-accept writer: k = cap.  All-or-nothing writer: k = 0 when the header does not fit, else 32. -/
theorem C07_writer (ver body frame : List Nat) (cap : Nat)
    (hf : pbFrame ver body = some frame) (hc : cap < frame.length) :
    pbMarshal false cap ver body = some (cap, true, frame.take cap) ∧
    pbMarshal true cap ver body =
      some (if cap < 32 then 0 else 32, true, frame.take (if cap < 32 then 0 else 32)) := by
  have hlen : frame.length = 32 + body.length := by
    obtain ⟨hv, rfl⟩ := pbFrame_some hf
    exact frame_length ver body hv
  rw [pbMarshal_eq_script, pbMarshal_eq_script, C07_writer_any ver body frame _ _ hf,
    C07_writer_any ver body frame _ _ hf]
  by_cases h32 : cap < 32
  · have : ¬ 32 ≤ cap := by omega
    simp [Tie5.capAns, this, h32, Nat.min_eq_left (Nat.le_of_lt h32)]
  · have h1 : 32 ≤ cap := by omega
    have h2 : ¬ body.length ≤ cap - 32 := by omega
    have h3 : 32 + (cap - 32) = cap := by omega
    simp [Tie5.capAns, h1, h2, h32, Nat.min_eq_left (show cap - 32 ≤ body.length by omega), h3]

example : ∀ cap < 35, pbMarshal false cap [49] [7, 8, 9] =
    (pbFrame [49] [7, 8, 9]).map fun f => (cap, true, f.take cap) := by decide +kernel
example : pbMarshal true 34 [49] [7, 8, 9] =
    some (32, true, [49, 0, 0, 0, 0, 0, 0, 0, 0, 0, 0, 0, 0, 0, 0, 0, 32, 0, 0, 0, 0, 0, 0, 0, 3, 0, 0, 0, 0, 0, 0, 0]) := by decide +kernel
example : pbMarshal true 31 [49] [7, 8, 9] = some (0, true, []) := by decide +kernel

/-- the case the io.Writer contract allows and a capacity-style test writer never produces: the header write
    is taken in full AND reports an error -- Marshal stops there with count 32 -/
example : pbMarshalScript ⟨32, true⟩ ⟨3, false⟩ [49] [7, 8, 9] =
    (pbFrame [49] [7, 8, 9]).map fun f => (32, true, f.take 32) := by decide +kernel
example : pbMarshalScript ⟨32, false⟩ ⟨3, true⟩ [49] [7, 8, 9] =
    (pbFrame [49] [7, 8, 9]).map fun f => (35, true, f) := by decide +kernel

end Low
