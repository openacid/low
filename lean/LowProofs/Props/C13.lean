import LowProofs.Lemmas.C13
/-
  C13 -- NextOne/PrevOne find the nearest 1-bit inside a range.
  Only the property theorems and their non-vacuity examples live here; helpers are in Lemmas/C13.lean.
  (The model uses unbounded naturals; it represents the int32 code for `BmDom ws`, see DESIGN 3.1.
   No theorem below needs `BmDom` as a hypothesis: the model has no overflow to exclude.
   The hypotheses are the property's quantifier domain; those named `_h…` are part of that domain but
   are not needed by the proof, i.e. the model satisfies the conclusion without them.)
-/
namespace Low
open Low.C13L

/-- NextOne(bm, i, end), for `0 ≤ i ≤ end ≤ 64*len(bm)` and `i` inside the bitmap: does not panic and
    returns `-1` exactly when `[i, end)` holds no 1-bit, otherwise the smallest position of a 1-bit in `[i, end)`. -/
theorem C13_next (ws : List Nat) (i e : Nat) (hok : WordsOK ws)
    (_hie : i ≤ e) (he : e ≤ 64 * ws.length) (hi : i < 64 * ws.length) :
    ∃ r : Int, nextOne ws i e = some r ∧
      ((r = -1 ∧ ∀ p, i ≤ p → p < e → bitAt ws p = false) ∨
       (∃ q : Nat, r = (q : Int) ∧ i ≤ q ∧ q < e ∧ bitAt ws q = true ∧
          ∀ p, i ≤ p → p < q → bitAt ws p = false)) := by
  have hk : i / 64 < ws.length := by omega
  have hw : ws[i / 64]? = some ws[i / 64] := List.getElem?_eq_getElem hk
  obtain ⟨nxt, hspec, hn⟩ := nextOne_scan hok (i := i) he hw
  rw [hn]
  rcases hspec with ⟨hrn, hall⟩ | ⟨q, hq, hq1, hq2, hq3⟩
  · subst hrn
    exact ⟨-1, rfl, Or.inl ⟨rfl, hall⟩⟩
  · subst hq
    by_cases hqe : q ≥ e
    · refine ⟨-1, by simp [hqe], Or.inl ⟨rfl, ?_⟩⟩
      intro p h1 h2
      exact hq3 p h1 (by omega)
    · refine ⟨(q : Int), by simp [hqe], Or.inr ⟨q, rfl, hq1, by omega, hq2, hq3⟩⟩

/-- PrevOne(bm, i, end), for `0 ≤ i ≤ end ≤ 64*len(bm)`, `i` inside the bitmap and `end ≥ 1`: does not panic and
    returns `-1` exactly when `[i, end)` holds no 1-bit, otherwise the largest position of a 1-bit in `[i, end)`. -/
theorem C13_prev (ws : List Nat) (i e : Nat) (hok : WordsOK ws)
    (_hie : i ≤ e) (he : e ≤ 64 * ws.length) (_hi : i < 64 * ws.length) (he1 : 1 ≤ e) :
    ∃ r : Int, prevOne ws i e = some r ∧
      ((r = -1 ∧ ∀ p, i ≤ p → p < e → bitAt ws p = false) ∨
       (∃ q : Nat, r = (q : Int) ∧ i ≤ q ∧ q < e ∧ bitAt ws q = true ∧
          ∀ p, q < p → p < e → bitAt ws p = false)) := by
  have hk : (e - 1) / 64 < ws.length := by omega
  have hw : ws[(e - 1) / 64]? = some ws[(e - 1) / 64] := List.getElem?_eq_getElem hk
  obtain ⟨prv, hspec, hn⟩ := prevOne_scan hok (i := i) (by omega) hw
  rw [hn]
  rcases hspec with ⟨hrn, hall⟩ | ⟨q, hq, hq1, hq2, hq3⟩
  · subst hrn
    exact ⟨-1, rfl, Or.inl ⟨rfl, hall⟩⟩
  · subst hq
    by_cases hqi : q < i
    · refine ⟨-1, by simp [hqi], Or.inl ⟨rfl, ?_⟩⟩
      intro p h1 h2
      exact hq3 p (by omega) h2
    · exact ⟨(q : Int), by simp [hqi], Or.inr ⟨q, rfl, by omega, hq1, hq2, hq3⟩⟩

-- non-vacuity: concrete evaluations (multi-word skip, clipping, empty range, word boundaries)

-- skips two all-zero words, finds bit 63 of word 2
example : nextOne [1, 0, 0, 2^63] 1 256 = some 255 := by decide +kernel
-- hit beyond `end` is clipped to -1
example : nextOne [1, 0, 0, 2^63] 1 255 = some (-1) := by decide +kernel
-- i on a word boundary, first word re-read
example : nextOne [0, 6] 64 128 = some 65 := by decide +kernel
example : prevOne [1, 0, 0, 2^63] 0 255 = some 0 := by decide +kernel
example : prevOne [1, 0, 0, 2^63] 1 255 = some (-1) := by decide +kernel
example : prevOne [6, 0] 0 128 = some 2 := by decide +kernel
theorem wordsOK_demo : WordsOK [1, 0, 0, 2^63] := by
  unfold WordsOK
  decide

-- the hypotheses of the theorems are satisfiable on such an input
example : ∃ r : Int, nextOne [1, 0, 0, 2^63] 1 256 = some r ∧
      ((r = -1 ∧ ∀ p, 1 ≤ p → p < 256 → bitAt [1, 0, 0, 2^63] p = false) ∨
       (∃ q : Nat, r = (q : Int) ∧ 1 ≤ q ∧ q < 256 ∧ bitAt [1, 0, 0, 2^63] q = true ∧
          ∀ p, 1 ≤ p → p < q → bitAt [1, 0, 0, 2^63] p = false)) :=
  C13_next [1, 0, 0, 2^63] 1 256 wordsOK_demo
    (by decide +kernel) (by decide +kernel) (by decide +kernel)
example : ∃ r : Int, prevOne [1, 0, 0, 2^63] 0 255 = some r ∧
      ((r = -1 ∧ ∀ p, 0 ≤ p → p < 255 → bitAt [1, 0, 0, 2^63] p = false) ∨
       (∃ q : Nat, r = (q : Int) ∧ 0 ≤ q ∧ q < 255 ∧ bitAt [1, 0, 0, 2^63] q = true ∧
          ∀ p, q < p → p < 255 → bitAt [1, 0, 0, 2^63] p = false)) :=
  C13_prev [1, 0, 0, 2^63] 0 255 wordsOK_demo
    (by decide +kernel) (by decide +kernel) (by decide +kernel) (by decide +kernel)

end Low
