import LowProofs.Lemmas.C06
/-
  C06 -- pbcmpl frames round-trip: Marshal then Unmarshal returns message, version, size.
  Model: LowModel/Pbcmpl.lean.  The protobuf encoding of the message is the parameter `body`
  (the message round trip is `decode (encode m) = m` of the protobuf library, trusted base);
  the version string is the parameter `ver`.
  Domain: `ver.length ≤ 16` (else `newHeader` panics), `body.length < 2^63` (a Go slice length is an
  `int`), and for the clauses that return the version, `ver` does not end in NUL.
  No theorem needs the elements to be bytes (`< 256`); `C06_frame_bytes` shows that the frame consists
  of bytes whenever `ver` and `body` do.

  The default version: "1.0.0" is just the `ver` argument chosen by the caller of `pbMarshal` (Go: `ver := DefaultVer`
  unless the message has `GetVersion`); it has length 5 ≤ 16 and does not end in NUL, so every theorem below applies
  to it (see the examples).
-/
namespace Low
open C06L

/-- the wire format written out: version, NUL padding to 16 bytes, header size 32 and body size
    as little-endian uint64, then the body -/
def frameBytes (ver body : List Nat) : List Nat :=
  ver ++ List.replicate (16 - ver.length) 0 ++ le64 32 ++ le64 body.length ++ body

/-- Marshal into a writer with enough room writes exactly the frame, reports no error, and returns the count
    `32 + |body|` (= `Size` = `HeaderSize` (32) + encoded length), which is the number of bytes on the wire. -/
theorem C06_marshal (allOrNothing : Bool) (cap : Nat) (ver body : List Nat)
    (hv : ver.length ≤ 16) (hcap : 32 + body.length ≤ cap) :
    pbMarshal allOrNothing cap ver body = some (32 + body.length, false, frameBytes ver body) ∧
    pbFrame ver body = some (frameBytes ver body) ∧
    (frameBytes ver body).length = 32 + body.length := by
  have hh := pbHeader_eq ver body.length hv
  refine ⟨?_, pbFrame_eq ver body hv, frame_length ver body hv⟩
  simp only [pbMarshal, hh, wWrite, pbHeader_length hh, if_pos (show 32 ≤ cap by omega),
    if_pos (show body.length ≤ cap - 32 by omega)]
  simp [frameBytes, pad16]

example : pbMarshal true 40 [49, 46, 48, 46, 48] [7, 8, 9] =
    some (35, false, [49, 46, 48, 46, 48, 0, 0, 0, 0, 0, 0, 0, 0, 0, 0, 0, 32, 0, 0, 0, 0, 0, 0, 0, 3, 0, 0, 0, 0, 0, 0, 0, 7, 8, 9]) := by
  decide +kernel
example : pbMarshal false 35 [49, 46, 48, 46, 48] [7, 8, 9] = some (35, false, frameBytes [49, 46, 48, 46, 48] [7, 8, 9]) :=
  (C06_marshal false 35 [49, 46, 48, 46, 48] [7, 8, 9] (by decide +kernel) (by decide +kernel)).1

/-- the frame consists of bytes -/
theorem C06_frame_bytes (ver body : List Nat) (h1 : BytesOK ver) (h2 : BytesOK body) :
    BytesOK (frameBytes ver body) := by
  intro b hb
  simp only [frameBytes, List.mem_append, List.mem_replicate] at hb
  rcases hb with (((hb | hb) | hb) | hb) | hb
  · exact h1 b hb
  · omega
  · exact le64_bytesOK 32 b hb
  · exact le64_bytesOK _ b hb
  · exact h2 b hb

theorem readHeader_frame (ver body rest : List Nat) (e : PbErr) (hv : ver.length ≤ 16) (hb : body.length < 2 ^ 63) :
    pbReadHeader ⟨frameBytes ver body ++ rest, e⟩ =
      (32, some ⟨verStr ver, 32, body.length⟩, none, ⟨body ++ rest, e⟩) := by
  have hl : (pad16 ver ++ le64 32 ++ le64 body.length).length = 32 :=
    pbHeader_length (pbHeader_eq ver body.length hv)
  have := pbReadHeader_hdr (pad16 ver ++ le64 32 ++ le64 body.length) (body ++ rest) e hl
  rw [hdrInfo_frame ver body.length hv hb] at this
  simpa [frameBytes, pad16] using this

/-- ReadHeader on a frame (followed by anything): 32 bytes consumed, the version, header size 32 and
    body size = encoded length; the reader is left at the start of the body. -/
theorem C06_readHeader (ver body rest : List Nat) (e : PbErr)
    (hv : ver.length ≤ 16) (hnz : ver.getLast? ≠ some 0) (hb : body.length < 2 ^ 63) :
    pbReadHeader ⟨frameBytes ver body ++ rest, e⟩ =
      (32, some ⟨ver, 32, body.length⟩, none, ⟨body ++ rest, e⟩) := by
  rw [readHeader_frame ver body rest e hv hb, verStr_of_last hnz]

example : pbReadHeader ⟨frameBytes [49, 46, 48] [7, 8, 9] ++ [5, 5], .injected⟩ =
    (32, some ⟨[49, 46, 48], 32, 3⟩, none, ⟨[7, 8, 9, 5, 5], .injected⟩) := by decide +kernel

/-- without the hypothesis on the last byte, the version comes back with its trailing NULs stripped -/
theorem C06_unmarshal_anyver (ver body rest : List Nat) (e : PbErr)
    (hv : ver.length ≤ 16) (hb : body.length < 2 ^ 63) :
    pbUnmarshal ⟨frameBytes ver body ++ rest, e⟩ =
      ⟨32 + body.length, verStr ver, some body, none, ⟨rest, e⟩⟩ := by
  rw [pbUnmarshal_of_header _ _ _ _ (readHeader_frame ver body rest e hv hb)]
  simp only [Int.toNat_natCast, readFull_append body rest e]
  simp

/-- Unmarshal on a frame followed by anything: the same body bytes, the same version, count = 32 + |body|
    = length of the frame, and the reader has consumed exactly the frame. -/
theorem C06_unmarshal (ver body rest : List Nat) (e : PbErr)
    (hv : ver.length ≤ 16) (hnz : ver.getLast? ≠ some 0) (hb : body.length < 2 ^ 63) :
    pbUnmarshal ⟨frameBytes ver body ++ rest, e⟩ =
      ⟨32 + body.length, ver, some body, none, ⟨rest, e⟩⟩ := by
  rw [C06_unmarshal_anyver ver body rest e hv hb, verStr_of_last hnz]

example : pbUnmarshal ⟨frameBytes [49, 46, 48, 46, 48] [7, 8, 9] ++ [5, 5], .eof⟩ =
    ⟨35, [49, 46, 48, 46, 48], some [7, 8, 9], none, ⟨[5, 5], .eof⟩⟩ := by decide +kernel
/-- empty version, empty body -/
example : pbUnmarshal ⟨frameBytes [] [], .eof⟩ = ⟨32, [], some [], none, ⟨[], .eof⟩⟩ := by decide +kernel
/-- the hypothesis on the version is needed: a trailing NUL is lost -/
example : (pbUnmarshal ⟨frameBytes [49, 0] [7], .eof⟩).ver = [49] := by decide +kernel

/-- frames written back to back -/
def streamOf : List (List Nat × List Nat) → List Nat
  | [] => []
  | (v, b) :: fs => frameBytes v b ++ streamOf fs

/-- call Unmarshal `fuel` times on the same reader, collecting the results -/
def unmarshalAll : Nat → PbReader → List PbResult
  | 0, _ => []
  | fuel + 1, r => pbUnmarshal r :: unmarshalAll fuel (pbUnmarshal r).rest

/-- what the calls must return: one frame per call, in order, each leaving exactly the later frames in
    the reader; then count 0 and the reader's end error -/
def expectAll (e : PbErr) : List (List Nat × List Nat) → List PbResult
  | [] => [⟨0, [], none, some e, ⟨[], e⟩⟩]
  | (v, b) :: fs => ⟨32 + b.length, v, some b, none, ⟨streamOf fs, e⟩⟩ :: expectAll e fs

/-- the domain of C06 for one (version, body) pair -/
def FrameOK (p : List Nat × List Nat) : Prop :=
  p.1.length ≤ 16 ∧ p.1.getLast? ≠ some 0 ∧ p.2.length < 2 ^ 63

theorem C06_stream_anyEnd (e : PbErr) : ∀ (fs : List (List Nat × List Nat)), (∀ p ∈ fs, FrameOK p) →
    unmarshalAll (fs.length + 1) ⟨streamOf fs, e⟩ = expectAll e fs
  | [], _ => by
    have h := pbUnmarshal_short [] e (by simp)
    have he : (if e = PbErr.eof then PbErr.eof else e) = e := by split <;> simp_all
    simp only [List.length_nil, if_true, he] at h
    simp [unmarshalAll, streamOf, expectAll, h]
  | (v, b) :: fs, h => by
    obtain ⟨h1, h2, h3⟩ := h (v, b) (by simp)
    have ih := C06_stream_anyEnd e fs (fun p hp => h p (by simp [hp]))
    have hu := C06_unmarshal v b (streamOf fs) e h1 h2 h3
    simp only [unmarshalAll, streamOf, expectAll, List.length_cons, hu, ih]

/-- Frames written back to back are returned one per call, in order, each call consuming exactly one
    frame; the call after the last frame returns count 0 and io.EOF. -/
theorem C06_stream (fs : List (List Nat × List Nat)) (h : ∀ p ∈ fs, FrameOK p) :
    unmarshalAll (fs.length + 1) ⟨streamOf fs, .eof⟩ = expectAll .eof fs :=
  C06_stream_anyEnd .eof fs h

example : unmarshalAll 4 ⟨streamOf [([49], [7, 8]), ([], []), ([50, 0, 51], [1])], .eof⟩ =
    [⟨34, [49], some [7, 8], none, ⟨streamOf [([], []), ([50, 0, 51], [1])], .eof⟩⟩,
     ⟨32, [], some [], none, ⟨streamOf [([50, 0, 51], [1])], .eof⟩⟩,
     ⟨33, [50, 0, 51], some [1], none, ⟨[], .eof⟩⟩,
     ⟨0, [], none, some .eof, ⟨[], .eof⟩⟩] := by decide +kernel
example : ∀ p ∈ [(([49] : List Nat), ([7, 8] : List Nat)), ([], []), ([50, 0, 51], [1])], FrameOK p := by
  simp [FrameOK]

end Low
