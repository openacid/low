import LowModel
/-
  C20 -- size.Of is the structural sum of a value's parts.
  `sizeOf` follows the two switches of `sizeof` in size/sizeof.go (as repaired: uint and uintptr are scalars);
  `structSize` is the property's table. The file holds the whole proof: the mutual induction `sizeOf_eq` /
  `sizeOfList_eq` / `sizeOfPairs_eq`, then the property theorems.
-/
namespace Low

mutual
theorem sizeOf_eq : ∀ v : GoVal, v.supported = true → sizeOf v = some (structSize v)
  | .scalar w, _ => by simp [sizeOf, structSize]
  | .str n, _ => by simp [sizeOf, structSize]; omega
  | .arr es, h => by
    have := sizeOfList_eq es (by simpa [GoVal.supported] using h)
    simp [sizeOf, structSize, this]
  | .slice es, h => by
    have := sizeOfList_eq es (by simpa [GoVal.supported] using h)
    simp [sizeOf, structSize, this]; omega
  | .map ps, h => by
    have := sizeOfPairs_eq ps (by simpa [GoVal.supported] using h)
    simp [sizeOf, structSize, this]; omega
  | .ptr none, _ => by simp [sizeOf, structSize]
  | .ptr (some v), h => by
    have := sizeOf_eq v (by simpa [GoVal.supported] using h)
    simp [sizeOf, structSize, this]; omega
  | .iface none, _ => by simp [sizeOf, structSize]
  | .iface (some v), h => by
    have := sizeOf_eq v (by simpa [GoVal.supported] using h)
    simp [sizeOf, structSize, this]; omega
  | .struct fs, h => by
    have := sizeOfList_eq fs (by simpa [GoVal.supported] using h)
    simp [sizeOf, structSize, this]
theorem sizeOfList_eq : ∀ l : List GoVal, supportedList l = true → sizeOfList l = some (structSizeList l)
  | [], _ => by simp [sizeOfList, structSizeList]
  | v :: r, h => by
    simp only [supportedList, Bool.and_eq_true] at h
    simp [sizeOfList, structSizeList, sizeOf_eq v h.1, sizeOfList_eq r h.2]
theorem sizeOfPairs_eq : ∀ l : List (GoVal × GoVal), supportedPairs l = true → sizeOfPairs l = some (structSizePairs l)
  | [], _ => by simp [sizeOfPairs, structSizePairs]
  | (k, v) :: r, h => by
    simp only [supportedPairs, Bool.and_eq_true] at h
    simp [sizeOfPairs, structSizePairs, sizeOf_eq k h.1.1, sizeOf_eq v h.1.2, sizeOfPairs_eq r h.2]
end

/-- size.Of returns the structural sum (and does not panic) for every value built from the supported kinds. -/
theorem C20_of (v : GoVal) (h : v.supported = true) : sizeOfTop (some v) = some (structSize v) := by
  simpa [sizeOfTop] using sizeOf_eq v h

/-- a nil argument has size 0 -/
theorem C20_nil : sizeOfTop none = some 0 := rfl

/-- the first line of Stat reports the same number for the same value -/
theorem C20_stat (v : GoVal) (h : v.supported = true) : statHeader (some v) = some (some (structSize v)) := by
  simp [statHeader, sizeOf_eq v h]

/-- the structural sum is what the property's table says, clause by clause -/
theorem C20_table :
    (∀ w, structSize (.scalar w) = w) ∧
    (∀ n, structSize (.str n) = 16 + n) ∧
    (∀ es, structSize (.slice es) = 24 + structSizeList es) ∧
    (∀ ps, structSize (.map ps) = 8 + structSizePairs ps) ∧
    (structSize (.ptr none) = 8 ∧ ∀ v, structSize (.ptr (some v)) = 8 + structSize v) ∧
    (structSize (.iface none) = 16 ∧ ∀ v, structSize (.iface (some v)) = 16 + structSize v) ∧
    (∀ es, structSize (.arr es) = structSizeList es) ∧
    (∀ fs, structSize (.struct fs) = structSizeList fs) ∧
    (structSizeList [] = 0 ∧ ∀ v r, structSizeList (v :: r) = structSize v + structSizeList r) ∧
    (structSizePairs [] = 0 ∧ ∀ k v r, structSizePairs ((k, v) :: r) = structSize k + structSize v + structSizePairs r) := by
  simp [structSize, structSizeList, structSizePairs]

/-- additivity: a slice of `xs ++ ys` costs one header plus both parts -/
theorem structSizeList_append (xs ys : List GoVal) :
    structSizeList (xs ++ ys) = structSizeList xs + structSizeList ys := by
  induction xs with
  | nil => simp [structSizeList]
  | cons x r ih => simp [structSizeList, ih]; omega

theorem C20_slice_append (xs ys : List GoVal) (h : (GoVal.slice (xs ++ ys)).supported = true) :
    sizeOfTop (some (.slice (xs ++ ys))) = some (24 + structSizeList xs + structSizeList ys) := by
  rw [C20_of _ h]; simp [structSize, structSizeList_append]; omega

/-! non-vacuity: []struct{ P *int32; S string }{{nil, "ab"}, {new(int32), ""}} -/
example : sizeOfTop (some (.slice [.struct [.ptr none, .str 2], .struct [.ptr (some (.scalar 4)), .str 0]])) = some 78 := by
  decide +kernel
example : (GoVal.slice [.struct [.ptr none, .str 2], .struct [.ptr (some (.scalar 4)), .str 0]]).supported = true := by
  decide +kernel

end Low
