import LowProofs.Lemmas.C04Main
import LowProofs.Props.C03
/-
  C04 -- AllPaths and Decode enumerate exactly the stored nodes, in order.

  Domain (all theorems): a level mask `T` with `1 ≤ T < 2^31`, `h` its height as computed by the model's
  own `height` (`height T = h`, i.e. `2^h ≤ T < 2^(h+1)`, `h ≤ 30`), `to < 2^64` (a uint64; `frm` may be
  any natural number, the proofs never need its bound), `bm` any word list (shorter, equal or longer
  than `T` bits).  The specification is `storedPaths T h = (preorder T h 0 []).map (encPath h)`
  (LowModel/Spec.lean): the path words of the nodes of depth `≤ h` on a stored level, in recursive
  pre-order.  The model functions are total here (no panic is possible in `AllPaths`/`Decode` on this
  domain: the only indexing, `bm[wordI]`, is guarded by `len(bm) > wordI`, and the index is `≥ 0`).
  Only the property theorems and their non-vacuity examples live here; helpers are in
  `LowProofs/Lemmas/C04*.lean`.
-/
namespace Low
open Low.C04L

/-- The stored path words in pre-order are strictly ascending (hence without duplicates):
    pre-order is numeric order. -/
theorem C04_sorted (T h : Nat) (hT1 : 1 ≤ T) (hT31 : T < 2^31) (hh : height T = (h : Int)) :
    (storedPaths T h).Pairwise (· < ·) := by
  have ⟨_, _, h30⟩ := C03L.height_spec hT1 hT31 hh
  exact storedPaths_sorted T h (by omega)

example : (storedPaths 0x72 6).Pairwise (· < ·) := C04_sorted 0x72 6 (by decide +kernel) (by decide +kernel) (by decide +kernel)
example : storedPaths 5 2 = [0, 0x3, 0x100000003, 0x200000003, 0x300000003] := by decide +kernel

/-- What the members of `storedPaths` are: exactly the path words of the nodes (branch lists) of depth
    `≤ h` whose level is stored. -/
theorem C04_storedPaths_mem (T h p : Nat) :
    p ∈ storedPaths T h ↔ ∃ n : List Bool, n.length ≤ h ∧ T.testBit n.length = true ∧ p = encPath h n := by
  unfold storedPaths
  rw [List.mem_map]
  constructor
  · rintro ⟨n, hn, rfl⟩
    have := (C03L.mem_preorder_root T h n).mp hn
    exact ⟨n, this.1, this.2, rfl⟩
  · rintro ⟨n, h1, h2, rfl⟩
    exact ⟨n, (C03L.mem_preorder_root T h n).mpr ⟨h1, h2⟩, rfl⟩

example : encPath 6 [true, false, true, true] ∈ storedPaths 0x72 6 :=
  (C04_storedPaths_mem 0x72 6 _).mpr ⟨[true, false, true, true], by decide +kernel, by decide +kernel, rfl⟩

/-- AllPaths(T, from, to) returns exactly the stored path words `p` with `from ≤ p < to`, in pre-order
    (= strictly ascending, by `C04_sorted`); `from`/`to` need not be path words. -/
theorem C04_allPaths (T h frm to : Nat) (hT1 : 1 ≤ T) (hT31 : T < 2^31) (hh : height T = (h : Int))
    (hto : to < 2^64) :
    allPaths T frm to = (storedPaths T h).filter (fun p => decide (frm ≤ p ∧ p < to)) :=
  allPaths_eq T h frm to hT1 hT31 hh hto

-- `from`, `to` off actual paths, cutting inside the rows of search values 1 and 2
example : allPaths 5 0x100000001 0x200000004 = [0x100000003, 0x200000003] := by
  rw [C04_allPaths 5 2 _ _ (by decide +kernel) (by decide +kernel) (by decide +kernel) (by decide +kernel)]; decide +kernel
example : allPaths 0x72 0 0x0000000100000000 = (storedPaths 0x72 6).filter (fun p => decide (0 ≤ p ∧ p < 0x0000000100000000)) :=
  C04_allPaths 0x72 6 _ _ (by decide +kernel) (by decide +kernel) (by decide +kernel) (by decide +kernel)

/-- Consequences spelled out: the result is strictly ascending (no duplicates) ... -/
theorem C04_allPaths_ascending (T h frm to : Nat) (hT1 : 1 ≤ T) (hT31 : T < 2^31)
    (hh : height T = (h : Int)) (hto : to < 2^64) :
    (allPaths T frm to).Pairwise (· < ·) := by
  rw [C04_allPaths T h frm to hT1 hT31 hh hto]
  exact (C04_sorted T h hT1 hT31 hh).filter _

/-- ... and its members are exactly the well-formed paths on stored levels inside `[from, to)`. -/
theorem C04_allPaths_mem (T h frm to p : Nat) (hT1 : 1 ≤ T) (hT31 : T < 2^31)
    (hh : height T = (h : Int)) (hto : to < 2^64) :
    p ∈ allPaths T frm to ↔
      (∃ n : List Bool, n.length ≤ h ∧ T.testBit n.length = true ∧ p = encPath h n) ∧ frm ≤ p ∧ p < to := by
  rw [C04_allPaths T h frm to hT1 hT31 hh hto, List.mem_filter, C04_storedPaths_mem, decide_eq_true_eq]

example : (allPaths 0x72 0x500000000 0x900000031).Pairwise (· < ·) :=
  C04_allPaths_ascending 0x72 6 _ _ (by decide +kernel) (by decide +kernel) (by decide +kernel) (by decide +kernel)
example : encPath 6 [false, false, true, true] ∈ allPaths 0x72 0x500000000 0xc00000044 :=
  (C04_allPaths_mem 0x72 6 _ _ _ (by decide +kernel) (by decide +kernel) (by decide +kernel) (by decide +kernel)).mpr
    ⟨⟨[false, false, true, true], by decide +kernel, by decide +kernel, rfl⟩, by decide +kernel, by decide +kernel⟩

/-- The full range (the call made by `Decode` is `to = 2^63`): every stored path word, in pre-order. -/
theorem C04_allPaths_all (T h to : Nat) (hT1 : 1 ≤ T) (hT31 : T < 2^31) (hh : height T = (h : Int))
    (hto : to < 2^64) (hto' : 2^62 ≤ to) :
    allPaths T 0 to = storedPaths T h :=
  allPaths_all T h to hT1 hT31 hh hto hto'

example : allPaths 5 0 (2^63) = [0, 0x3, 0x100000003, 0x200000003, 0x300000003] := by
  rw [C04_allPaths_all 5 2 _ (by decide +kernel) (by decide +kernel) (by decide +kernel) (by decide +kernel) (by decide +kernel)]; decide +kernel
-- height 0 (root only) and the largest height
example : allPaths 1 0 (2^63) = [0] := by
  rw [C04_allPaths_all 1 0 _ (by decide +kernel) (by decide +kernel) (by decide +kernel) (by decide +kernel) (by decide +kernel)]; decide +kernel
example : allPaths 0x7fffffff 0 (2^64 - 1) = storedPaths 0x7fffffff 30 :=
  C04_allPaths_all 0x7fffffff 30 _ (by decide +kernel) (by decide +kernel) (by decide +kernel) (by decide +kernel) (by decide +kernel)

/-- Decode(T, bm) returns, in pre-order (ascending), exactly the stored path words whose PathToIndex
    bit is 1 in `bm`; `bitAt` reads 0 beyond `bm.length` words, and bits at or beyond `T` are never
    consulted because every index is `< T` (`C03_index_lt`). -/
theorem C04_decode (T h : Nat) (bm : List Nat) (hT1 : 1 ≤ T) (hT31 : T < 2^31)
    (hh : height T = (h : Int)) :
    decode T bm = (storedPaths T h).filter (fun p => bitAt bm (pathToIndex T p).toNat) := by
  rw [decode, allPaths_all T h (2^63) hT1 hT31 hh (by decide) (by decide)]
  apply List.filter_congr
  intro p hp
  obtain ⟨n, hn, hs, rfl⟩ := (C04_storedPaths_mem T h p).mp hp
  simp only [C03_strict T h n hT1 hT31 hh hn hs, Int.toNat_natCast]
  exact decode_pred bm (preIdx T 0 n)

/-- Under `-tags debug` the `PathToIndex` calls made by `Decode` pass all their contracts and return
    the release value, so the debug build of `Decode` does not panic and agrees with `decode`. -/
theorem C04_decode_debug_safe (T h p : Nat) (hT1 : 1 ≤ T) (hT31 : T < 2^31) (hh : height T = (h : Int))
    (hp : p ∈ allPaths T 0 (2^63)) :
    pathToIndexDebug T p = some (pathToIndex T p) := by
  rw [allPaths_all T h (2^63) hT1 hT31 hh (by decide) (by decide)] at hp
  obtain ⟨n, hn, hs, rfl⟩ := (C04_storedPaths_mem T h p).mp hp
  exact (C03_strict_debug T h n hT1 hT31 hh hn hs).1

/-- The same, stated over nodes with the specification index `preIdx` (= PathToIndex by C03). -/
theorem C04_decode_nodes (T h : Nat) (bm : List Nat) (hT1 : 1 ≤ T) (hT31 : T < 2^31)
    (hh : height T = (h : Int)) :
    decode T bm = ((preorder T h 0 []).filter (fun n => bitAt bm (preIdx T 0 n))).map (encPath h) := by
  rw [C04_decode T h bm hT1 hT31 hh, storedPaths, List.filter_map]
  congr 1
  apply List.filter_congr
  intro n hn
  obtain ⟨hl, hs⟩ := (C03L.mem_preorder_root T h n).mp hn
  simp only [Function.comp, C03_strict T h n hT1 hT31 hh hl hs, Int.toNat_natCast]

/-- Decode's result is strictly ascending. -/
theorem C04_decode_ascending (T h : Nat) (bm : List Nat) (hT1 : 1 ≤ T) (hT31 : T < 2^31)
    (hh : height T = (h : Int)) :
    (decode T bm).Pairwise (· < ·) := by
  rw [C04_decode T h bm hT1 hT31 hh]
  exact (C04_sorted T h hT1 hT31 hh).filter _

-- T = 5 (root + 4 leaves): bits 0, 2, 4 set; once with an exact-size word, once with an empty bitmap
-- (all words beyond len(bm) read 0), once with garbage at and beyond bit T and extra words
example : decode 5 [0b10101] = [0, 0x100000003, 0x300000003] := by
  rw [C04_decode_nodes 5 2 _ (by decide +kernel) (by decide +kernel) (by decide +kernel)]; decide +kernel
example : decode 5 [] = [] := by
  rw [C04_decode_nodes 5 2 _ (by decide +kernel) (by decide +kernel) (by decide +kernel)]; decide +kernel
example : decode 5 [0xffffffffffffffe0 + 0b10101, 0xffff] = [0, 0x100000003, 0x300000003] := by
  rw [C04_decode_nodes 5 2 _ (by decide +kernel) (by decide +kernel) (by decide +kernel)]; decide +kernel
example : decode 0x72 [0, 1] =
    (storedPaths 0x72 6).filter (fun p => bitAt [0, 1] (pathToIndex 0x72 p).toNat) :=
  C04_decode 0x72 6 _ (by decide +kernel) (by decide +kernel) (by decide +kernel)

/-- The round trip with the path words named through the model's own `pathToIndex` (what the Go
    caller does: `bm[PathToIndex(p)] = 1` for each `p` of the set). -/
theorem C04_roundtrip_paths (T h : Nat) (P : List Nat) (bm : List Nat) (hT1 : 1 ≤ T) (hT31 : T < 2^31)
    (hh : height T = (h : Int)) (hP : P.Sublist (storedPaths T h))
    (hbm : ∀ i, i < T → (bitAt bm i = true ↔ ∃ p, p ∈ P ∧ pathToIndex T p = (i : Int))) :
    decode T bm = P := by
  rw [C04_decode T h bm hT1 hT31 hh]
  apply filter_eq_of_sublist (C04_sorted T h hT1 hT31 hh) hP
  intro p hp
  obtain ⟨n, hl, hs, rfl⟩ := (C04_storedPaths_mem T h p).mp hp
  have hi := C03_strict T h n hT1 hT31 hh hl hs
  have hlt := C03_index_lt T h n hT1 hT31 hh hl hs
  rw [hi, Int.toNat_natCast]
  constructor
  · intro hb
    obtain ⟨p', hp', he⟩ := (hbm _ hlt).mp hb
    obtain ⟨n', hl', hs', rfl⟩ := (C04_storedPaths_mem T h p').mp (hP.subset hp')
    rw [C03_strict T h n' hT1 hT31 hh hl' hs'] at he
    rwa [← C03_index_inj T h n' n hT1 hT31 hh hl' hs' hl hs (by omega)]
  · intro hp'
    exact (hbm _ hlt).mpr ⟨_, hp', hi⟩

/-- Encode-then-decode is the identity on sets of stored nodes: for a set `S` of stored nodes (a sub-list
    of the pre-order enumeration) and ANY bitmap `bm` whose bits below `T` are exactly
    `{PathToIndex(p) | p ∈ S}` (bits at or beyond `T`, and the number of words, are arbitrary),
    `Decode` returns exactly the path words of `S`, in order. -/
theorem C04_roundtrip (T h : Nat) (S : List (List Bool)) (bm : List Nat) (hT1 : 1 ≤ T) (hT31 : T < 2^31)
    (hh : height T = (h : Int)) (hS : S.Sublist (preorder T h 0 []))
    (hbm : ∀ i, i < T → (bitAt bm i = true ↔ ∃ n, n ∈ S ∧ preIdx T 0 n = i)) :
    decode T bm = S.map (encPath h) := by
  apply C04_roundtrip_paths T h _ bm hT1 hT31 hh (hS.map (encPath h))
  intro i hi
  rw [hbm i hi]
  have hstored : ∀ n, n ∈ S → pathToIndex T (encPath h n) = (preIdx T 0 n : Int) := fun n hn =>
    have ⟨hl, hs⟩ := (C03L.mem_preorder_root T h n).mp (hS.subset hn)
    C03_strict T h n hT1 hT31 hh hl hs
  constructor
  · rintro ⟨n, hn, rfl⟩
    exact ⟨_, List.mem_map_of_mem hn, hstored n hn⟩
  · rintro ⟨_, hp, he⟩
    obtain ⟨n, hn, rfl⟩ := List.mem_map.mp hp
    rw [hstored n hn] at he
    exact ⟨n, hn, by omega⟩

-- S = {root, leaf 01, leaf 11} under T = 5: indexes 0, 2, 4; bm has garbage from bit 5 on
example : decode 5 [0xffffffffffffffe0 + 0b10101] = [[], [false, true], [true, true]].map (encPath 2) :=
  C04_roundtrip 5 2 [[], [false, true], [true, true]] _ (by decide +kernel) (by decide +kernel) (by decide +kernel) (by decide +kernel)
    (by decide +kernel)

end Low
