import LowProofs.Lemmas.C03Contracts
import LowProofs.Lemmas.C03Order
/-
  C03 -- PathToIndex is the pre-order rank of a tree node among the stored nodes.

  Domain (all theorems): a level mask `T` with `1 ≤ T < 2^31`, `h` its height as computed by the
  model's own `height` (`height T = h`, i.e. `2^h ≤ T < 2^(h+1)`, see `C03L.height_spec`), and a node
  `n : List Bool` (branch list, `false` = left) of depth `n.length ≤ h`; its path word is `encPath h n`.
  The helpers are in `LowProofs/Lemmas/C03*.lean`.  `C03_strict` carries the hypothesis `_hs` (the node's
  level is stored) because the property is stated for stored nodes; its proof does not use it: the release
  value equals `preIdx` on every level.
-/
namespace Low
open Low.C03L

/-- The number of stored nodes is the bitmap size `T`. -/
theorem C03_preorder_length (T h : Nat) (hT1 : 1 ≤ T) (hT31 : T < 2^31) (hh : height T = (h : Int)) :
    (preorder T h 0 []).length = T := by
  have ⟨_, hi, _⟩ := height_spec hT1 hT31 hh
  rw [preorder_length_of_lt [] (by rw [Nat.zero_add]; exact hi), Nat.shiftRight_zero]

example : (preorder 0x72 6 0 []).length = 0x72 :=
  C03_preorder_length 0x72 6 (by decide +kernel) (by decide +kernel) (by decide +kernel)

/-- `preIdx T 0 n` IS the position of the stored node `n` in the recursive pre-order enumeration of
    the stored nodes. -/
theorem C03_preorder_index (T h : Nat) (n : List Bool) (hT1 : 1 ≤ T) (hT31 : T < 2^31)
    (hh : height T = (h : Int)) (hn : n.length ≤ h) (hs : T.testBit n.length = true) :
    (preorder T h 0 [])[preIdx T 0 n]? = some n := by
  have ⟨_, hi, _⟩ := height_spec hT1 hT31 hh
  have := preorder_index T h 0 [] n (by rw [Nat.zero_add]; exact hi) ⟨hn, by rw [Nat.zero_add]; exact hs⟩
  simpa using this

example : (preorder 5 2 0 [])[preIdx 5 0 [true, false]]? = some [true, false] :=
  C03_preorder_index 5 2 [true, false] (by decide +kernel) (by decide +kernel) (by decide +kernel) (by decide +kernel) (by decide +kernel)

/-- Consequences: the index of a stored node is `< T`, and distinct stored nodes have distinct indexes. -/
theorem C03_index_lt (T h : Nat) (n : List Bool) (hT1 : 1 ≤ T) (hT31 : T < 2^31)
    (hh : height T = (h : Int)) (hn : n.length ≤ h) (hs : T.testBit n.length = true) :
    preIdx T 0 n < T := by
  have h1 := C03_preorder_index T h n hT1 hT31 hh hn hs
  have h2 := (List.getElem?_eq_some_iff.mp h1).1
  rwa [C03_preorder_length T h hT1 hT31 hh] at h2

theorem C03_index_inj (T h : Nat) (n n' : List Bool) (hT1 : 1 ≤ T) (hT31 : T < 2^31)
    (hh : height T = (h : Int)) (hn : n.length ≤ h) (hs : T.testBit n.length = true)
    (hn' : n'.length ≤ h) (hs' : T.testBit n'.length = true) (he : preIdx T 0 n = preIdx T 0 n') :
    n = n' := by
  have h1 := C03_preorder_index T h n hT1 hT31 hh hn hs
  have h2 := C03_preorder_index T h n' hT1 hT31 hh hn' hs'
  rw [he, h2] at h1
  exact (Option.some.inj h1).symm

example : preIdx 0x72 0 [true, false, true, true] < 0x72 :=
  C03_index_lt 0x72 6 _ (by decide +kernel) (by decide +kernel) (by decide +kernel) (by decide +kernel) (by decide +kernel)

/-- Every position `i < T` is the index of a stored node (with the two theorems above: `preIdx` is a
    bijection from the stored nodes onto `[0, T)`), and that node is the `i`-th of the enumeration. -/
theorem C03_index_surj (T h i : Nat) (hT1 : 1 ≤ T) (hT31 : T < 2^31) (hh : height T = (h : Int))
    (hi : i < T) :
    ∃ n : List Bool, n.length ≤ h ∧ T.testBit n.length = true ∧ preIdx T 0 n = i ∧
      (preorder T h 0 [])[i]? = some n := by
  have ⟨_, hi2, _⟩ := height_spec hT1 hT31 hh
  have hlen := C03_preorder_length T h hT1 hT31 hh
  have ⟨s, h1, ⟨h2, h3⟩, h4⟩ := preorder_surj T h 0 [] i (by rw [Nat.zero_add]; exact hi2) (by omega)
  exact ⟨s, h2, by simpa using h3, h4, by simpa using h1⟩

example : ∃ n : List Bool, n.length ≤ 6 ∧ Nat.testBit 0x72 n.length = true ∧ preIdx 0x72 0 n = 100 ∧
    (preorder 0x72 6 0 [])[100]? = some n :=
  C03_index_surj 0x72 6 100 (by decide +kernel) (by decide +kernel) (by decide +kernel) (by decide +kernel)

/-- The index is strictly monotone for the pre-order on nodes given directly (not through the list):
    `n` precedes `n'` when `n` is a proper prefix of `n'`, or when at the first difference `n` goes
    left and `n'` goes right. -/
theorem C03_index_strictMono (T h : Nat) (n n' : List Bool) (hT1 : 1 ≤ T) (hT31 : T < 2^31)
    (hh : height T = (h : Int)) (hn : n.length ≤ h) (hs : T.testBit n.length = true)
    (hn' : n'.length ≤ h) (hs' : T.testBit n'.length = true) (hlt : preLt n n' = true) :
    preIdx T 0 n < preIdx T 0 n' := by
  have ⟨_, hi, _⟩ := height_spec hT1 hT31 hh
  exact preIdx_strictMono T h n n' 0 (by rw [Nat.zero_add]; exact hi)
    ⟨hn, by simpa using hs⟩ ⟨hn', by simpa using hs'⟩ hlt

example : preIdx 0x72 0 [false, true, true, true] < preIdx 0x72 0 [true, false, false, false, false] :=
  C03_index_strictMono 0x72 6 _ _ (by decide +kernel) (by decide +kernel) (by decide +kernel) (by decide +kernel) (by decide +kernel)
    (by decide +kernel) (by decide +kernel) (by decide +kernel)

/-- PathToIndexLoose (release build) returns (number of stored nodes before the node in pre-order,
    1 iff the node's own level is stored). Covers the full-tree closed form, the leaf-only branch
    and the general `shiftMulti` branch. -/
theorem C03_loose (T h : Nat) (n : List Bool) (hT1 : 1 ≤ T) (hT31 : T < 2^31)
    (hh : height T = (h : Int)) (hn : n.length ≤ h) :
    pathToIndexLoose T (encPath h n) = ((preIdx T 0 n : Int), (T.testBit n.length).toNat) := by
  have v : Valid T h n := Valid.of_height hT1 hT31 hh hn
  simp only [pathToIndexLoose, core_eq v true,
    pathLen_encPath (by have := v.h30; omega) v.len, shiftRight_mod_two]

example : pathToIndexLoose 0x72 (encPath 6 [true, false, true]) = (72, 0) := by
  rw [C03_loose 0x72 6 _ (by decide +kernel) (by decide +kernel) (by decide +kernel) (by decide +kernel)]; decide +kernel
example : pathToIndexLoose 0x7f (encPath 6 [true, false, true]) = (81, 1) := by
  rw [C03_loose 0x7f 6 _ (by decide +kernel) (by decide +kernel) (by decide +kernel) (by decide +kernel)]; decide +kernel
example : pathToIndexLoose 0x40 (encPath 6 [true, false, true, true, false, true]) = (45, 1) := by
  rw [C03_loose 0x40 6 _ (by decide +kernel) (by decide +kernel) (by decide +kernel) (by decide +kernel)]; decide +kernel

/-- PathToIndex (release build) returns the same index for every node on a stored level. -/
theorem C03_strict (T h : Nat) (n : List Bool) (hT1 : 1 ≤ T) (hT31 : T < 2^31)
    (hh : height T = (h : Int)) (hn : n.length ≤ h) (_hs : T.testBit n.length = true) :
    pathToIndex T (encPath h n) = (preIdx T 0 n : Int) :=
  core_eq (Valid.of_height hT1 hT31 hh hn) false

example : pathToIndex 0x72 (encPath 6 [true, false, true, true]) = 79 := by
  rw [C03_strict 0x72 6 _ (by decide +kernel) (by decide +kernel) (by decide +kernel) (by decide +kernel) (by decide +kernel)]; decide +kernel

/-- No `-tags debug` contract fires on a valid input. -/
theorem C03_contracts (T h : Nat) (n : List Bool) (hT1 : 1 ≤ T) (hT31 : T < 2^31)
    (hh : height T = (h : Int)) (hn : n.length ≤ h) :
    contractsLoose T (encPath h n) = true ∧
    (T.testBit n.length = true → contractsStrict T (encPath h n) = true) :=
  have v : Valid T h n := Valid.of_height hT1 hT31 hh hn
  ⟨contractsLoose_ok v, contractsStrict_ok v⟩

example : contractsLoose 0x72 (encPath 6 [true, false, true]) = true :=
  (C03_contracts 0x72 6 _ (by decide +kernel) (by decide +kernel) (by decide +kernel) (by decide +kernel)).1
example : contractsStrict 0x72 (encPath 6 [true, false, true, true]) = true :=
  (C03_contracts 0x72 6 _ (by decide +kernel) (by decide +kernel) (by decide +kernel) (by decide +kernel)).2 (by decide +kernel)

/-- The debug build of PathToIndexLoose does not panic and returns the release value. -/
theorem C03_loose_debug (T h : Nat) (n : List Bool) (hT1 : 1 ≤ T) (hT31 : T < 2^31)
    (hh : height T = (h : Int)) (hn : n.length ≤ h) :
    pathToIndexLooseDebug T (encPath h n) = some (pathToIndexLoose T (encPath h n)) ∧
    pathToIndexLooseDebug T (encPath h n) = some ((preIdx T 0 n : Int), (T.testBit n.length).toNat) := by
  have hc := (C03_contracts T h n hT1 hT31 hh hn).1
  simp only [pathToIndexLooseDebug, hc, if_true, C03_loose T h n hT1 hT31 hh hn, and_self]

-- height 30 (the largest), deepest right-most leaf: full tree and root+leaves tree
example : pathToIndexLooseDebug 0x7fffffff (encPath 30 (List.replicate 30 true)) = some (2147483646, 1) := by
  rw [(C03_loose_debug 0x7fffffff 30 _ (by decide +kernel) (by decide +kernel) (by decide +kernel) (by decide +kernel)).2]
  decide +kernel
example : pathToIndexLooseDebug 0x40000001 (encPath 30 (List.replicate 30 true)) = some (1073741824, 1) := by
  rw [(C03_loose_debug 0x40000001 30 _ (by decide +kernel) (by decide +kernel) (by decide +kernel) (by decide +kernel)).2]
  decide +kernel

/-- The debug build of PathToIndex does not panic and returns the release value. -/
theorem C03_strict_debug (T h : Nat) (n : List Bool) (hT1 : 1 ≤ T) (hT31 : T < 2^31)
    (hh : height T = (h : Int)) (hn : n.length ≤ h) (hs : T.testBit n.length = true) :
    pathToIndexDebug T (encPath h n) = some (pathToIndex T (encPath h n)) ∧
    pathToIndexDebug T (encPath h n) = some (preIdx T 0 n : Int) := by
  have hc := (C03_contracts T h n hT1 hT31 hh hn).2 hs
  simp only [pathToIndexDebug, hc, if_true, C03_strict T h n hT1 hT31 hh hn hs, and_self]

example : pathToIndexDebug 0xfd49 (encPath 15 [true, true, false]) = some 48631 := by
  rw [(C03_strict_debug 0xfd49 15 _ (by decide +kernel) (by decide +kernel) (by decide +kernel) (by decide +kernel) (by decide +kernel)).2]
  decide +kernel

end Low
