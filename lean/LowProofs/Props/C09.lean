import LowProofs.Lemmas.C09
/-
  C09 -- bitstr: encoded bit strings order and truncate-compare like the bits they hold (bitstr/bitstr.go).
  Byte strings are `List Nat` with `BytesOK` (every element < 256).  Specification (`LowModel`):
  `bsPayload s f t` = the bits `[8*(f/8), t)` of `bitsBE s` (most significant bit of each byte first);
  `lexCmp` = lexicographic comparison of bit lists with values -1/0/1, `false < true`, a proper prefix first.
  Domain of the property: `f ≤ t ≤ 8 * len(s)`.
  (The model uses unbounded naturals; it represents the int32 code of `New`/`Len` as long as `toBit + 7` and
  `8 * len(enc)` fit an int32, i.e. for strings below 256 MiB -- cf. DESIGN 3.1.)
  Only the property theorems and their non-vacuity examples live here.
-/
namespace Low
open C09L

/-- the bit string `s[8*floor(f/8), t)` has `t - 8*floor(f/8)` bits -/
theorem C09_payload_length (s : List Nat) (f t : Nat) (ht : t ≤ 8 * s.length) :
    (bsPayload s f t).length = t - 8 * (f / 8) := by
  simp only [bsPayload, List.length_take, List.length_drop, length_bitsBE]; omega

/-- New(s,from,to) does not panic and returns a byte string that encodes the bit string
    `s[8*floor(from/8), to)`: Len returns its length in bits, `to - 8*floor(from/8)`, and the first Len bits
    of the encoding are exactly that bit string. (That the encoding *orders* like the bit string is `C09_cmp`.) -/
theorem C09_new (s : List Nat) (hs : BytesOK s) (f t : Nat) (hft : f ≤ t) (ht : t ≤ 8 * s.length) :
    ∃ enc, bsNew s f t = some enc ∧ BytesOK enc ∧
      bsLen enc = some ((t : Int) - 8 * ((f / 8 : Nat) : Int)) ∧
      (bitsBE enc).take (t - 8 * (f / 8)) = bsPayload s f t := by
  obtain ⟨enc, h1, h2⟩ := new_isEnc s hs f t hft ht
  refine ⟨enc, h1, isEnc_ok h2, ?_, ?_⟩
  · rw [isEnc_len h2, C09_payload_length s f t ht]
    congr 1; omega
  · have := isEnc_take h2
    rwa [C09_payload_length s f t ht] at this

example : bsNew [0x61, 0x62, 0x63] 5 12 = some [0x61, 0x60, 0xf0] ∧ bsLen [0x61, 0x60, 0xf0] = some 12
    ∧ bsNew [0x61, 0x62, 0x63] 16 16 = some [0xff] ∧ bsNew [0x61, 0x62, 0x63] 11 11 = some [0x60, 0xe0] := by
  decide +kernel

/-- Cmp of two encodings returns the sign of the lexicographic comparison of the two bit strings,
    a proper prefix sorting first (and does not panic). -/
theorem C09_cmp (s : List Nat) (hs : BytesOK s) (f t : Nat) (hft : f ≤ t) (ht : t ≤ 8 * s.length)
    (s' : List Nat) (hs' : BytesOK s') (f' t' : Nat) (hft' : f' ≤ t') (ht' : t' ≤ 8 * s'.length)
    (enc enc' : List Nat) (he : bsNew s f t = some enc) (he' : bsNew s' f' t' = some enc') :
    bsCmp enc enc' = some (lexCmp (bsPayload s f t) (bsPayload s' f' t')) := by
  obtain ⟨e, h1, h2⟩ := new_isEnc s hs f t hft ht
  obtain ⟨e', h1', h2'⟩ := new_isEnc s' hs' f' t' hft' ht'
  rw [he] at h1; rw [he'] at h1'
  cases h1; cases h1'
  exact isEnc_cmp h2 h2'

example : bsCmp [0x61, 0x60, 0xf0] [0x61, 0x62, 0xff] = some (-1)
    ∧ bsCmp [0x61, 0x60, 0xf0] [0x61, 0xff] = some 1 ∧ bsCmp [0xff] [0x00, 0x80] = some (-1) := by decide +kernel

/-- the theorem instantiated on the example of the Go doc comment (`New("abc", 5, 12)`) against `New("a", 0, 8)` -/
example : bsCmp [0x61, 0x60, 0xf0] [0x61, 0xff] =
    some (lexCmp (bsPayload [0x61, 0x62, 0x63] 5 12) (bsPayload [0x61] 0 8)) :=
  C09_cmp [0x61, 0x62, 0x63] (by simp [BytesOK]) 5 12 (by decide +kernel) (by decide +kernel)
    [0x61] (by simp [BytesOK]) 0 8 (by decide +kernel) (by decide +kernel) _ _ (by decide +kernel) (by decide +kernel)

/-- `lexCmp` is a total order on bit strings with values in {-1,0,1}: it is 0 exactly on equal strings,
    swapping the arguments negates it, and "less than" is transitive. With `C09_cmp` these transfer to `Cmp`
    (next three theorems). -/
theorem C09_order (a b c : List Bool) :
    (lexCmp a b = -1 ∨ lexCmp a b = 0 ∨ lexCmp a b = 1) ∧
    (lexCmp a b = 0 ↔ a = b) ∧
    lexCmp b a = - lexCmp a b ∧
    (lexCmp a b = -1 → lexCmp b c = -1 → lexCmp a c = -1) :=
  ⟨lexCmp_range a b, lexCmp_eq_zero a b, lexCmp_swap a b, lexCmp_trans_lt a b c⟩

example : lexCmp [true, false] [true, false, false] = -1 ∧ lexCmp [true] [false, true] = 1
    ∧ lexCmp [false, true] [false, true] = 0 := by decide +kernel

/-- Cmp = 0 exactly for equal bit strings. -/
theorem C09_cmp_eq_zero (s : List Nat) (hs : BytesOK s) (f t : Nat) (hft : f ≤ t) (ht : t ≤ 8 * s.length)
    (s' : List Nat) (hs' : BytesOK s') (f' t' : Nat) (hft' : f' ≤ t') (ht' : t' ≤ 8 * s'.length)
    (enc enc' : List Nat) (he : bsNew s f t = some enc) (he' : bsNew s' f' t' = some enc') :
    bsCmp enc enc' = some 0 ↔ bsPayload s f t = bsPayload s' f' t' := by
  rw [C09_cmp s hs f t hft ht s' hs' f' t' hft' ht' enc enc' he he', Option.some.injEq, lexCmp_eq_zero]

-- equal bit strings from different sources (bits [8,12) of "ab" and bits [0,4) of "b"): Cmp = 0
example : bsNew [0x61, 0x62] 9 12 = some [0x60, 0xf0] ∧ bsNew [0x62] 0 4 = some [0x60, 0xf0]
    ∧ bsCmp [0x60, 0xf0] [0x60, 0xf0] = some 0 := by decide +kernel

/-- Swapping the arguments of Cmp negates the result. -/
theorem C09_cmp_antisymm (s : List Nat) (hs : BytesOK s) (f t : Nat) (hft : f ≤ t) (ht : t ≤ 8 * s.length)
    (s' : List Nat) (hs' : BytesOK s') (f' t' : Nat) (hft' : f' ≤ t') (ht' : t' ≤ 8 * s'.length)
    (enc enc' : List Nat) (he : bsNew s f t = some enc) (he' : bsNew s' f' t' = some enc') :
    ∃ r, bsCmp enc enc' = some r ∧ bsCmp enc' enc = some (-r) := by
  refine ⟨_, C09_cmp s hs f t hft ht s' hs' f' t' hft' ht' enc enc' he he', ?_⟩
  rw [C09_cmp s' hs' f' t' hft' ht' s hs f t hft ht enc' enc he' he, lexCmp_swap]

example : bsCmp [0x61, 0x60, 0xf0] [0x61, 0xff] = some 1 ∧ bsCmp [0x61, 0xff] [0x61, 0x60, 0xf0] = some (-1) := by
  decide +kernel

/-- "Cmp = -1" is transitive. -/
theorem C09_cmp_trans (s1 : List Nat) (hs1 : BytesOK s1) (f1 t1 : Nat) (hft1 : f1 ≤ t1) (ht1 : t1 ≤ 8 * s1.length)
    (s2 : List Nat) (hs2 : BytesOK s2) (f2 t2 : Nat) (hft2 : f2 ≤ t2) (ht2 : t2 ≤ 8 * s2.length)
    (s3 : List Nat) (hs3 : BytesOK s3) (f3 t3 : Nat) (hft3 : f3 ≤ t3) (ht3 : t3 ≤ 8 * s3.length)
    (e1 e2 e3 : List Nat) (h1 : bsNew s1 f1 t1 = some e1) (h2 : bsNew s2 f2 t2 = some e2)
    (h3 : bsNew s3 f3 t3 = some e3) :
    bsCmp e1 e2 = some (-1) → bsCmp e2 e3 = some (-1) → bsCmp e1 e3 = some (-1) := by
  rw [C09_cmp s1 hs1 f1 t1 hft1 ht1 s2 hs2 f2 t2 hft2 ht2 e1 e2 h1 h2,
    C09_cmp s2 hs2 f2 t2 hft2 ht2 s3 hs3 f3 t3 hft3 ht3 e2 e3 h2 h3,
    C09_cmp s1 hs1 f1 t1 hft1 ht1 s3 hs3 f3 t3 hft3 ht3 e1 e3 h1 h3]
  simp only [Option.some.injEq]
  exact lexCmp_trans_lt _ _ _

example : bsCmp [0xff] [0x60, 0xe0] = some (-1) ∧ bsCmp [0x60, 0xe0] [0x60, 0xf0] = some (-1)
    ∧ bsCmp [0xff] [0x60, 0xf0] = some (-1) := by decide +kernel

/-- CmpUpto(a, enc) returns the sign of comparing, in the same order, the first Len(enc) bits of the plain
    bytes `a` (all of `a` when it is shorter: `List.take`) with the encoded bit string; it does not panic,
    for plain strings `a` of any length. `t - 8*(f/8)` is Len(enc) by `C09_new`. -/
theorem C09_cmpUpto (a : List Nat) (ha : BytesOK a)
    (s : List Nat) (hs : BytesOK s) (f t : Nat) (hft : f ≤ t) (ht : t ≤ 8 * s.length)
    (enc : List Nat) (he : bsNew s f t = some enc) :
    bsCmpUpto a enc = some (lexCmp ((bitsBE a).take (t - 8 * (f / 8))) (bsPayload s f t)) := by
  obtain ⟨e, h1, h2⟩ := new_isEnc s hs f t hft ht
  rw [he] at h1; cases h1
  rw [isEnc_cmpUpto a ha h2, C09_payload_length s f t ht]

example : bsCmpUpto [0x61, 0x6f, 0x00] [0x61, 0x60, 0xf0] = some 0
    ∧ bsCmpUpto [0x61] [0x61, 0x60, 0xf0] = some (-1)
    ∧ bsCmpUpto [0x61, 0x70] [0x61, 0x60, 0xf0] = some 1
    ∧ bsCmpUpto [1, 2, 3, 4, 5, 6, 7, 8, 9, 0xff] [1, 2, 3, 4, 5, 6, 7, 8, 9, 0x80, 0x80] = some 0
    ∧ bsCmpUpto [0x12, 0x34] [0xff] = some 0 := by decide +kernel

example : bsCmpUpto [0x61, 0x6f, 0x00] [0x61, 0x60, 0xf0] =
    some (lexCmp ((bitsBE [0x61, 0x6f, 0x00]).take (12 - 8 * (5 / 8))) (bsPayload [0x61, 0x62, 0x63] 5 12)) :=
  C09_cmpUpto [0x61, 0x6f, 0x00] (by simp [BytesOK]) [0x61, 0x62, 0x63] (by simp [BytesOK]) 5 12
    (by decide +kernel) (by decide +kernel) _ (by decide +kernel)

/-- StrCmpUpto and CmpUpto always agree. In the model `bsStrCmpUpto` is by definition the same function of the
    bytes, so this is `rfl`; that the Go code's `unsafe` string-header -> slice-header view hands CmpUpto
    exactly the bytes of the string is the tie `Tie9/bitstr_StrCmpUpto.lean` (the translator accepts only that idiom). -/
theorem C09_strCmpUpto (a enc : List Nat) : bsStrCmpUpto a enc = bsCmpUpto a enc := rfl

example : bsStrCmpUpto [0x61, 0x70] [0x61, 0x60, 0xf0] = some 1 := by decide +kernel

end Low
