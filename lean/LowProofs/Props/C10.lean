import LowProofs.Lemmas.C10Order
/-
  C10 -- Path words are self-consistent and their numeric order is pre-order.
  Nodes are branch lists `n : List Bool` (`false` = left, root = `[]`); `encPath h n` (LowModel/Spec.lean) is the
  specification of the path word; `bitsVal n <<< (h - n.length)` is "the prefix left-aligned in h bits".
  Every l-bit prefix is `bitsVal n` of exactly one `n` of length `l`, so quantifying over `n` covers
  "all heights h ≤ 32, all lengths l ≤ h, all l-bit prefixes".
  Only the property theorems and their non-vacuity examples live here.
-/
namespace Low
open Low.C10L

/-- NewPath of the left-aligned prefix is the specified path word. -/
theorem C10_newPath {h : Nat} {n : List Bool} (hh : h ≤ 32) (hl : n.length ≤ h) :
    newPath (bitsVal n <<< (h - n.length)) n.length h = encPath h n := by
  have hlo : lo h n.length < 2 ^ 64 :=
    Nat.lt_of_lt_of_le (lo_lt hl) (Nat.pow_le_pow_right (by omega) (by omega))
  have hhi : hi h n * 2 ^ 32 < 2 ^ 64 := by
    have h1 := hi_lt hl
    have h2 : 2 ^ h * 2 ^ 32 ≤ 2 ^ 64 := by
      rw [← Nat.pow_add]; exact Nat.pow_le_pow_right (by omega) (by omega)
    omega
  have e64 : M64 = 2 ^ 64 := by decide
  have s1 : h - n.length < 64 := by omega
  simp only [newPath, shl64, mask, encPath, s1, if_true, show (32 : Nat) < 64 by omega, e64]
  rw [Nat.shiftLeft_eq, Nat.shiftLeft_eq, Nat.shiftLeft_eq]
  show (hi h n * 2 ^ 32) % 2 ^ 64 ||| lo h n.length % 2 ^ 64 = hi h n * 2 ^ 32 ||| lo h n.length
  rw [Nat.mod_eq_of_lt hhi, Nat.mod_eq_of_lt hlo]

example : newPath (bitsVal [true, false, true] <<< (5 - 3)) 3 5 = 0x140000001c
    ∧ encPath 5 [true, false, true] = 0x140000001c := by decide +kernel

/-- PathLen of a path word is the length of the node. -/
theorem C10_len {h : Nat} {n : List Bool} (hh : h ≤ 32) (hl : n.length ≤ h) :
    pathLen (encPath h n) = n.length := by
  have e32 : M32 = 2 ^ 32 := by decide
  rw [pathLen, e32, encPath_mod hh hl, popc_lo hh hl]

example : pathLen (encPath 5 [true, false, true]) = 3 := by decide +kernel

/-- PathHeight of a non-root path word is the tree height. -/
theorem C10_height {h : Nat} {n : List Bool} (hh : h ≤ 32) (hl : n.length ≤ h) (hn : n ≠ []) :
    pathHeight (encPath h n) = h := by
  have e32 : M32 = 2 ^ 32 := by decide
  have hp : 0 < n.length := List.length_pos_iff.mpr hn
  rw [pathHeight, e32, encPath_mod hh hl, lz, bitLen_lo hh hl hp]; omega

example : pathHeight (encPath 5 [true, false, true]) = 5 := by decide +kernel
/-- the root is excluded for a reason: its word is 0 whatever the height -/
example : pathHeight (encPath 5 []) = 0 := by decide +kernel

/-- PathBits / PathMask are the upper / lower 32-bit halves of any word ... -/
theorem C10_halves_word (p : Nat) : pathBits p = p >>> 32 ∧ pathMask p = p % 2 ^ 32 := by
  refine ⟨rfl, ?_⟩
  rw [pathMask, show (0xffffffff : Nat) = 2 ^ 32 - 1 by decide, Nat.and_two_pow_sub_one_eq_mod]

/-- ... and for a path word these halves are the left-aligned prefix and the left-aligned run of `|n|` ones. -/
theorem C10_halves {h : Nat} {n : List Bool} (hh : h ≤ 32) (hl : n.length ≤ h) :
    pathBits (encPath h n) = bitsVal n <<< (h - n.length) ∧
    pathMask (encPath h n) = (2 ^ n.length - 1) <<< (h - n.length) := by
  rw [(C10_halves_word _).1, (C10_halves_word _).2, encPath_shr hh hl, encPath_mod hh hl,
    Nat.shiftLeft_eq, Nat.shiftLeft_eq]
  exact ⟨rfl, rfl⟩

example : pathBits (encPath 5 [true, false, true]) = 0b10100 ∧ pathMask (encPath 5 [true, false, true]) = 0b11100 := by
  decide +kernel

/-- PathStr renders exactly the branch bits of the node (the empty string for the root). -/
theorem C10_str {h : Nat} {n : List Bool} (hh : h ≤ 32) (hl : n.length ≤ h) :
    pathStr (encPath h n) = String.ofList (n.map (fun b => if b then '1' else '0')) := by
  cases n with
  | nil => simp [pathStr, C10_len hh hl]
  | cons x a =>
    have hlen := C10_len hh hl
    have hhei := C10_height hh hl (by simp)
    have hne : (x :: a).length ≠ 0 := by simp
    have s1 : 32 + h - (x :: a).length < 64 := by
      omega
    have e : 32 + h - (x :: a).length = 32 + (h - (x :: a).length) := by omega
    have hv : encPath h (x :: a) >>> (32 + h - (x :: a).length) = bitsVal (x :: a) := by
      rw [e, Nat.shiftRight_add, encPath_shr hh hl, hi, Nat.shiftRight_eq_div_pow,
        Nat.mul_div_cancel _ (Nat.two_pow_pos _)]
    simp only [pathStr, hlen, hhei, hne, if_false, shr64, s1, if_true, hv, fmtBin_eq]
    rw [show (x :: a).length = a.length + 1 from rfl, pad_bitsVal a.length (x :: a) rfl]
    rfl

example : pathStr (encPath 5 [true, false, true]) = "101" ∧ pathStr (encPath 5 []) = "" := by
  constructor
  · rw [C10_str (by decide +kernel) (by decide +kernel)]; rfl
  · rw [C10_str (by decide +kernel) (by decide +kernel)]; rfl

/-- Among path words of one height, unsigned numeric order is pre-order of the nodes
    (`lexCmp`: a proper prefix, i.e. an ancestor, first; then left before right). -/
theorem C10_order {h : Nat} {a b : List Bool} (hh : h ≤ 32) (ha : a.length ≤ h) (hb : b.length ≤ h) :
    (encPath h a < encPath h b ↔ lexCmp a b = -1) :=
  encPath_lt_iff a b h hh ha hb

example : encPath 3 [false, true] < encPath 3 [true] ∧ lexCmp [false, true] [true] = -1 := by decide +kernel

/-- Corollary: distinct nodes have distinct path words. -/
theorem C10_inj {h : Nat} {a b : List Bool} (hh : h ≤ 32) (ha : a.length ≤ h) (hb : b.length ≤ h)
    (e : encPath h a = encPath h b) : a = b := by
  have h1 := (C10_order hh ha hb).mpr
  have h2 := (C10_order hh hb ha).mpr
  rcases lexCmp_range a b with t | t | t
  · have := h1 t; omega
  · exact (lexCmp_eq_zero a b).mp t
  · have := h2 (by rw [lexCmp_swap a b, t]); omega

/-- Corollary: a node sorts before all its descendants. -/
theorem C10_ancestor_first {h : Nat} {a d : List Bool} (hh : h ≤ 32) (hl : (a ++ d).length ≤ h) (hd : d ≠ []) :
    encPath h a < encPath h (a ++ d) :=
  (C10_order hh (by simp at hl; omega) hl).mpr (lexCmp_prefix a d hd)

/-- Corollary: the whole left subtree of a node sorts before its whole right subtree. -/
theorem C10_left_before_right {h : Nat} {a x y : List Bool} (hh : h ≤ 32)
    (hx : (a ++ false :: x).length ≤ h) (hy : (a ++ true :: y).length ≤ h) :
    encPath h (a ++ false :: x) < encPath h (a ++ true :: y) :=
  (C10_order hh hx hy).mpr (lexCmp_branch a x y)

example : encPath 4 [true] < encPath 4 ([true] ++ [false, true]) :=
  C10_ancestor_first (by decide +kernel) (by decide +kernel) (by decide +kernel)
example : encPath 4 ([true] ++ false :: [true, true]) < encPath 4 ([true] ++ true :: []) :=
  C10_left_before_right (by decide +kernel) (by decide +kernel) (by decide +kernel)

end Low
