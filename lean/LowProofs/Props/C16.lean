import LowProofs.Lemmas.C16Count
import LowProofs.Lemmas.C16Fd
/-
  C16 -- sigbits: first-difference bits and prefix counts match the keys' bit strings.
  Only the property theorems and their non-vacuity examples live here; helpers are in Lemmas/C16*.lean.
  Keys are `List Nat` with `BytesOK` (every element `< 256`).
-/
namespace Low
open Low.C16L

/-- `sFirstDiffBit a b` is the length of the longest common prefix of the two big-endian bit strings:
    the index of the first differing bit, or `8 * min len` when one key is a byte prefix of the other. -/
theorem C16_sFirstDiffBit (a b : List Nat) (ha : BytesOK a) (hb : BytesOK b) :
    sFirstDiffBit a b = fdSpec a b :=
  sFirstDiffBit_eq ha hb

/-- the reading of `fdSpec` used in the English statement: when `a` is a byte prefix of `b` (or the
    reverse) the value is `8 * min len`; otherwise it is a bit position inside the shorter key at which the
    keys differ, all earlier bits being equal. -/
theorem C16_fdSpec_prefix (a t : List Nat) : fdSpec a (a ++ t) = 8 * a.length ∧ fdSpec (a ++ t) a = 8 * a.length := by
  have h : fdSpec a (a ++ t) = 8 * a.length := by
    have := lcp_append_left (bitsBE a) [] (bitsBE t)
    simp only [List.append_nil, lcp_nil_left] at this
    simp only [fdSpec, bitsBE_append, this, length_bitsBE]; omega
  refine ⟨h, ?_⟩
  simp only [fdSpec] at h ⊢
  rw [lcp_comm]; exact h

/-- reading of `fdSpec`, continued: the keys agree on the first `fdSpec a b` bits, and when that position lies
    inside both keys the bits there differ (so it is the index of the first differing bit). -/
theorem C16_fdSpec_first_diff (a b : List Nat) :
    (bitsBE a).take (fdSpec a b) = (bitsBE b).take (fdSpec a b) ∧
      (fdSpec a b < 8 * a.length → fdSpec a b < 8 * b.length →
        (bitsBE a)[fdSpec a b]? ≠ (bitsBE b)[fdSpec a b]?) := by
  refine ⟨lcp_take _ _, fun h1 h2 => ?_⟩
  exact lcp_getElem?_ne _ _ (by rw [length_bitsBE]; exact h1) (by rw [length_bitsBE]; exact h2)

/-- reading of `fdSpec`, continued: when neither key is a byte prefix of the other, the first differing bit
    lies inside the shorter key. -/
theorem C16_fdSpec_not_prefix (a b : List Nat) (ha : BytesOK a) (hb : BytesOK b)
    (h1 : ¬ a <+: b) (h2 : ¬ b <+: a) : fdSpec a b < 8 * min a.length b.length := by
  apply Nat.lt_of_not_le
  intro h
  have ht := take_eq_of_le_lcp_bits (min a.length b.length) a b ha hb h
  by_cases c : a.length ≤ b.length
  · rw [Nat.min_eq_left c, List.take_length] at ht
    exact h1 (ht ▸ List.take_prefix _ _)
  · rw [Nat.min_eq_right (by omega), List.take_length] at ht
    exact h2 (ht ▸ List.take_prefix _ _)

example : sFirstDiffBit [97, 98] [97, 98, 0, 0, 0, 0, 0, 0, 0, 1] = 16 := by decide +kernel
example : fdSpec [97, 98] [97, 98, 0, 0, 0, 0, 0, 0, 0, 1] = 16 := by decide +kernel
example : fdSpec [1, 2, 3, 4, 5, 6, 7, 8, 0x10] [1, 2, 3, 4, 5, 6, 7, 8, 0x18, 3] = 68 := by decide +kernel

/-- FirstDiffBits: for a non-empty key list, one entry per adjacent pair, the first differing bit. -/
theorem C16_firstDiffBits (keys : List (List Nat)) (hne : keys ≠ []) (hok : ∀ k ∈ keys, BytesOK k) :
    firstDiffBits keys = some (List.zipWith fdSpec keys keys.tail) :=
  firstDiffBits_eq hne hok

example : firstDiffBits [[97], [97, 0], [97, 1], [98]] = some [8, 15, 6] := by decide +kernel
example : List.zipWith fdSpec [[97], [97, 0], [97, 1], [98]] [[97, 0], [97, 1], [98]] = [8, 15, 6] := by decide +kernel

/-- CountPrefixes(s, e, m) on `New(keys)`, for strictly ascending keys, at least two keys in `[s, e)` and
    `m ≥ 1`: does not panic; `m0` is the smallest first-difference value among the adjacent pairs of
    `keys[s:e]`; there are `m` counters and the `i`-th is the number of distinct `(m0+i)`-bit prefixes of
    `keys[s:e]` (`truncBits n k` is the whole key when it has fewer than `n` bits).

    `hdom` is the int32 domain of the package (bit positions are `int32`): every key is shorter than 2^28
    bytes. The model computes first differences in unbounded naturals but starts the minimum at
    `0x7fffffff` as the code does; `hdom` is what makes `m0` the true minimum. (Not needed for
    `C16_sFirstDiffBit` / `C16_firstDiffBits`.) -/
theorem C16_count (keys : List (List Nat)) (s e : Nat) (m : Int)
    (hasc : strictAsc keys = true) (hok : ∀ k ∈ keys, BytesOK k)
    (hdom : ∀ k ∈ keys, 8 * k.length ≤ 0x7fffffff)
    (hse : s + 2 ≤ e) (he : e ≤ keys.length) (hm : 1 ≤ m) :
    ∃ m0 cs, sbCountPrefixes keys s e m = some (m0, cs) ∧
      m0 ∈ List.zipWith fdSpec ((keys.drop s).take (e - s)) ((keys.drop s).take (e - s)).tail ∧
      (∀ d ∈ List.zipWith fdSpec ((keys.drop s).take (e - s)) ((keys.drop s).take (e - s)).tail, m0 ≤ d) ∧
      cs.length = m.toNat ∧
      ∀ i, i < m.toNat →
        cs.getD i 0 = distinctCount (((keys.drop s).take (e - s)).map (truncBits (m0 + i))) := by
  have hne : keys ≠ [] := by
    intro h; rw [h] at he; simp at he; omega
  have hfd := firstDiffBits_eq hne hok
  have hlen : (List.zipWith fdSpec keys keys.tail).length + 1 = keys.length := by
    cases keys with
    | nil => exact absurd rfl hne
    | cons k ks => simp
  have hcond : ¬ (e = 0 ∨ s > e - 1 ∨ e - 1 > (List.zipWith fdSpec keys keys.tail).length) := by omega
  have hes : e - 1 - s + 1 = e - s := by omega
  rw [sbCountPrefixes, hfd]
  simp only [hcond, if_false]
  rw [sig_slice, hes, countPrefixes_spec _ _ hm]
  generalize hsub : (keys.drop s).take (e - s) = sub
  have hsublen : sub.length = e - s := by rw [← hsub]; simp; omega
  have hsl : sub.Sublist keys := by
    rw [← hsub]; exact (List.take_sublist _ _).trans (List.drop_sublist _ _)
  have hoksub : ∀ k ∈ sub, BytesOK k := fun k hk => hok k (hsl.subset hk)
  have hascsub : strictAsc sub = true :=
    strictAsc_of_pairwise sub ((pairwise_of_strictAsc keys hasc).sublist hsl)
  have hsubne : sub ≠ [] := by intro h; rw [h] at hsublen; simp at hsublen; omega
  generalize hfds : List.zipWith fdSpec sub sub.tail = fds
  have hfdslen : fds.length = e - s - 1 := by rw [← hfds]; simp [hsublen]
  have hbound : ∀ d ∈ fds, d ≤ 0x7fffffff := by
    rw [← hfds]
    apply forall_mem_zipWith
    intro a ha b
    have h1 := lcp_le_left (bitsBE a) (bitsBE b)
    rw [length_bitsBE] at h1
    have h2 := hdom a (hsl.subset ha)
    simp only [fdSpec]; omega
  obtain ⟨h1, h2, h3⟩ := foldl_min_spec fds 0x7fffffff
  generalize List.foldl (fun mn d => if mn > d then d else mn) 0x7fffffff fds = mn at *
  have hmem : mn ∈ fds := by
    rcases h3 with h3 | h3
    · obtain ⟨d0, hd0⟩ := List.exists_mem_of_ne_nil fds (by intro h; rw [h] at hfdslen; simp at hfdslen; omega)
      have := h2 d0 hd0
      have := hbound d0 hd0
      exact (show d0 = mn by omega) ▸ hd0
    · exact h3
  refine ⟨mn, _, rfl, hmem, h2, by simp, ?_⟩
  intro i hi
  rw [distinct_trunc (mn + i) sub hsubne hoksub hascsub, hfds]
  have hf : fds.filter (fun d => decide (d - mn < i)) = fds.filter (fun d => decide (d < mn + i)) := by
    apply List.filter_congr
    intro d hd
    have := h2 d hd
    simp only [decide_eq_decide]; omega
  simp [List.getD, List.getElem?_map, List.getElem?_range hi, hf]

example : strictAsc [[97], [97, 0], [97, 1], [98]] = true := by decide +kernel
example : sbCountPrefixes [[97], [97, 0], [97, 1], [98]] 1 4 12 = some (6, [1, 2, 2, 2, 2, 2, 2, 2, 2, 2, 3, 3]) := by
  decide +kernel
example : (List.range 12).map (fun i => distinctCount
    ((([[97], [97, 0], [97, 1], [98]] : List (List Nat)).drop 1).take 3 |>.map (truncBits (6 + i)))) =
    [1, 2, 2, 2, 2, 2, 2, 2, 2, 2, 3, 3] := by decide +kernel

end Low
