import LowProofs.Lemmas.C14
/-
  C14 -- Join/Getw pack fixed-width words losslessly; Slice copies a bit range.
  Only the property theorems and their non-vacuity examples live here; helpers are in Lemmas/C14.lean.
  (The model uses unbounded naturals; it represents the int32 code for `BmDom ws`, see DESIGN 3.1.
   `bmSlice` models slice.go as repaired: `l := ((to - from) + 63) >> 6`.
   Getw computes `i*w` in int32, Slice its positions in int32: the theorems speak for the Go code when
   `len(values)*w < 2^31` resp. `BmDom ws`; the unbounded model needs neither as a hypothesis.
   No `WordsOK` is assumed of the inputs: values / words with bits above 2^64 cannot occur in Go, and the
   statements hold for arbitrary naturals anyway.)
-/
namespace Low
open Low.C14L Low.C12L

/-- Slice(words, from, to) for `0 ≤ from ≤ to ≤ 64*len(words)`: does not panic, returns exactly
    `ceil((to-from)/64)` words (each a valid uint64) whose bit `j` is bit `from+j` of the input for
    `j < to-from` and 0 for every other `j`. (The input is unchanged: the model is a pure function.) -/
theorem C14_slice (ws : List Nat) (frm to : Nat) (hft : frm ≤ to) (hto : to ≤ 64 * ws.length) :
    ∃ r, bmSlice ws frm to = some r ∧ r.length = (to - frm + 63) / 64 ∧ WordsOK r ∧
      ∀ j, bitAt r j = (decide (j < to - frm) && bitAt ws (frm + j)) := by
  obtain ⟨r, h1, h2, h3, h4⟩ := sliceLoop_spec (ws := ws) (frm := frm) (to - frm) frm (zeros ((to - frm + 63) / 64))
    (Nat.le_refl _) (by omega) (by rw [length_zeros]; omega)
  refine ⟨r, h1, by rw [h2, length_zeros], h3 (wordsOK_zeros _), fun j => ?_⟩
  rw [h4, bitAt_zeros, Bool.false_or]
  congr 1
  exact decide_eq_decide.2 (by omega)

/-- Join(values, w) for a legal width: does not panic, returns exactly `ceil(len*w/64)` words (each a valid
    uint64) such that Getw(result, i, w) (which does not panic either) is the low `w` bits of `values[i]` for
    every index, and no bit at or above `len*w` is set -- with the Getw clause this accounts for every bit.
    (Values may have bits above `w` set: `vs` is arbitrary.) -/
theorem C14_join (vs : List Nat) (w : Nat) (hw : w ∈ [1, 2, 4, 8, 16, 32, 64]) :
    ∃ r, bmJoin vs w = some r ∧ r.length = (vs.length * w + 63) / 64 ∧ WordsOK r ∧
      (∀ i (hi : i < vs.length), getw r i w = some (vs[i] % 2^w)) ∧
      (∀ j, vs.length * w ≤ j → bitAt r j = false) := by
  obtain ⟨hpos, hns⟩ := width_ok hw
  have hcomm : w * vs.length = vs.length * w := Nat.mul_comm _ _
  obtain ⟨r, h1, h2, h3, h4, h5⟩ := joinLoop_spec (vs := vs) hpos hns vs.length 0
    (zeros ((vs.length * w + 63) / 64)) (Nat.zero_add _) (by rw [length_zeros]; omega) (wordsOK_zeros _)
    (by intro a t ha; omega) (by intro j _; exact bitAt_zeros _ _)
  rw [length_zeros] at h2
  refine ⟨r, ?_, h2, h3, ?_, h5⟩
  · simpa [bmJoin, hcomm] using h1
  · intro i hi
    have hle : (i + 1) * w ≤ vs.length * w := Nat.mul_le_mul_right w hi
    have hmul : (i + 1) * w = i * w + w := Nat.succ_mul i w
    apply getw_spec (hns i) (by omega) hpos
    intro t ht
    rw [h4 i t hi ht]
    simp [List.getD, hi]

-- unaligned, multi-word range: bits 60..129 of a 3-word bitmap; two result words
example : bmSlice [2^60 + 2^63, 1, 2] 60 130 = some [1 + 2^3 + 2^4, 2^5] := by decide +kernel
example : ∃ r, bmSlice [2^60 + 2^63, 1, 2] 60 130 = some r ∧ r.length = (130 - 60 + 63) / 64 ∧ WordsOK r ∧
      ∀ j, bitAt r j = (decide (j < 130 - 60) && bitAt [2^60 + 2^63, 1, 2] (60 + j)) :=
  C14_slice _ 60 130 (by decide +kernel) (by decide +kernel)
-- empty range gives the empty bitmap
example : bmSlice [5] 3 3 = some [] := by decide +kernel

-- width 16, five values (two result words), values with bits above the width set
example : bmJoin [0x1ffff, 2, 0xabcd, 0x7fff0004, 5] 16 = some [0x0004abcd0002ffff, 5] := by decide +kernel
example : getw [0x0004abcd0002ffff, 5] 3 16 = some (0x7fff0004 % 2^16) := by decide +kernel
example : ∃ r, bmJoin [0x1ffff, 2, 0xabcd, 0x7fff0004, 5] 16 = some r ∧ r.length = (5 * 16 + 63) / 64 ∧ WordsOK r ∧
      (∀ i (hi : i < 5), getw r i 16 = some ([0x1ffff, 2, 0xabcd, 0x7fff0004, 5][i] % 2^16)) ∧
      (∀ j, 5 * 16 ≤ j → bitAt r j = false) :=
  C14_join [0x1ffff, 2, 0xabcd, 0x7fff0004, 5] 16 (by decide +kernel)
-- width 64: one word per value
example : bmJoin [7, 2^64 + 9] 64 = some [7, 9] := by decide +kernel

end Low
