import LowModel.Conc
/-
  C19 -- purity and safety for concurrent readers, layer 1 (see DESIGN 7.19): the generic theorem.
  For programs whose writes all go to memory they allocated themselves (`WritesOwned`) and which read only
  shared memory or their own (`ReadsVisible`), EVERY schedule
    * leaves every shared address unchanged,
    * gives each thread exactly the local state (hence the results) of running alone for as many steps, and
    * contains no two conflicting accesses (different threads, same address, at least one write).
  That the Go functions have this shape is NOT proved here: it is the regenerated effect table
  (Generated/Effects.lean, with the theorems C19_effects_ok / C19_calls_ok of Props/C19Gen.lean over it) plus the
  race-detector runs.
  The file holds the whole proof: two facts about one thread step, the invariant `SoloInv` with `inv_step` / `inv_run`,
  then the two property theorems.
-/
namespace Low
open Low.Conc

theorem stepT_mem_other {σ} (P : Prog σ) (own : Own) (hW : WritesOwned P own) (t : Tid) (s : σ) (m : Mem) (a : Addr)
    (h : own a ≠ some t) : (stepT P t s m).2 a = m a := by
  unfold stepT
  split
  · rfl
  · rfl
  · rename_i a' v k hn
    have hne : a ≠ a' := fun e => h (e ▸ hW t s a' v k hn)
    simp [hne]
theorem solo_mem_other {σ} (P : Prog σ) (own : Own) (hW : WritesOwned P own) (t : Tid) (s0 : σ) (m0 : Mem) :
    ∀ k a, own a ≠ some t → (solo P t k s0 m0).2 a = m0 a
  | 0, _, _ => rfl
  | k+1, a, h => by
    rw [solo, stepT_mem_other P own hW t _ _ a h, solo_mem_other P own hW t s0 m0 k a h]

/-- progress-indexed invariant: the system state is the superposition of the solo runs -/
def SoloInv {σ} (P : Prog σ) (own : Own) (L0 : Tid → σ) (M0 : Mem) (S : Sys σ) (k : Tid → Nat) : Prop :=
  (∀ t, S.loc t = (solo P t (k t) (L0 t) M0).1) ∧
  (∀ a, own a = none → S.mem a = M0 a) ∧
  (∀ a t, own a = some t → S.mem a = (solo P t (k t) (L0 t) M0).2 a)

theorem inv_step {σ} (P : Prog σ) (own : Own) (hW : WritesOwned P own) (hR : ReadsVisible P own)
    (L0 : Tid → σ) (M0 : Mem) (S : Sys σ) (k : Tid → Nat) (t : Tid) (h : SoloInv P own L0 M0 S k) :
    SoloInv P own L0 M0 (stepS P t S) (fun u => if u = t then k t + 1 else k u) := by
  obtain ⟨hl, hs, ho⟩ := h
  -- thread t's solo memory agrees with the system memory wherever t may look
  have hvis : ∀ a, own a = none ∨ own a = some t → S.mem a = (solo P t (k t) (L0 t) M0).2 a := by
    intro a h
    rcases h with h | h
    · rw [hs a h, solo_mem_other P own hW t (L0 t) M0 (k t) a (by simp [h])]
    · exact ho a t h
  refine ⟨?_, ?_, ?_⟩
  · intro u
    by_cases hu : u = t
    · subst hu
      simp only [stepS, ↓reduceIte, solo, hl u, stepT]
      split
      · rfl
      · rename_i a kk hn
        rw [hvis a (hR u _ a kk hn)]
      · rfl
    · simp [stepS, hu, hl u]
  · intro a ha
    exact (stepT_mem_other P own hW t _ _ a (by simp [ha])).trans (hs a ha)
  · intro a u hau
    by_cases hu : u = t
    · subst hu
      simp only [stepS, ↓reduceIte, solo, hl u]
      unfold stepT; split <;> simp [ho a u hau]
    · simp only [hu, ↓reduceIte]
      exact (stepT_mem_other P own hW t _ _ a (by rw [hau]; exact fun e => hu (Option.some.inj e))).trans (ho a u hau)

theorem inv_run {σ} (P : Prog σ) (own : Own) (hW : WritesOwned P own) (hR : ReadsVisible P own)
    (L0 : Tid → σ) (M0 : Mem) : ∀ (sched : List Tid) (S : Sys σ) (k : Tid → Nat), SoloInv P own L0 M0 S k →
    SoloInv P own L0 M0 (run P sched S) (fun u => k u + sched.count u)
  | [], S, k, h => by simpa [run] using h
  | t :: r, S, k, h => by
    have := inv_run P own hW hR L0 M0 r _ _ (inv_step P own hW hR L0 M0 S k t h)
    have e : (fun u => (if u = t then k t + 1 else k u) + List.count u r) = (fun u => k u + List.count u (t :: r)) := by
      funext u
      by_cases hu : u = t
      · subst hu; simp [List.count_cons_self]; omega
      · have : (t == u) = false := by simp [Ne.symm hu]
        simp [hu, List.count_cons, this]
    rw [e] at this
    exact this

/-- C19 (schedule independence): for every schedule, shared memory is unchanged and every thread ends in the
    local state it reaches by running ALONE for as many steps as the schedule gave it -- so every result
    equals the sequential one, whatever the interleaving. -/
theorem C19_schedule_independent {σ} (P : Prog σ) (own : Own) (hW : WritesOwned P own) (hR : ReadsVisible P own)
    (L0 : Tid → σ) (M0 : Mem) (sched : List Tid) :
    let S := run P sched ⟨M0, L0⟩
    (∀ a, own a = none → S.mem a = M0 a) ∧
    (∀ t, S.loc t = (solo P t (sched.count t) (L0 t) M0).1) := by
  have h0 : SoloInv P own L0 M0 ⟨M0, L0⟩ (fun _ => 0) := ⟨fun _ => rfl, fun _ _ => rfl, fun _ _ _ => rfl⟩
  have := inv_run P own hW hR L0 M0 sched _ _ h0
  simp only [Nat.zero_add] at this
  exact ⟨this.2.1, this.1⟩

/-- C19 (no conflicting access): two different threads never access the same address with at least one
    of the accesses being a write -- in any states, hence at any point of any execution. -/
theorem C19_no_conflict {σ} (P : Prog σ) (own : Own) (hW : WritesOwned P own) (hR : ReadsVisible P own)
    (t1 t2 : Tid) (s1 s2 : σ) (a : Addr) (w2 : Bool) (hne : t1 ≠ t2)
    (h1 : access P t1 s1 = some (a, true)) (h2 : access P t2 s2 = some (a, w2)) : False := by
  have o1 : own a = some t1 := by
    unfold access at h1
    split at h1
    · cases h1
    · cases h1
    · rename_i a' v k hn
      cases h1; exact hW t1 s1 a v k hn
  unfold access at h2
  split at h2
  · cases h2
  · rename_i a' k hn
    cases h2
    rcases hR t2 s2 a k hn with h | h
    · rw [o1] at h; cases h
    · rw [o1] at h; exact hne (Option.some.inj h)
  · rename_i a' v k hn
    cases h2
    have := hW t2 s2 a v k hn
    rw [o1] at this; exact hne (Option.some.inj this)

/-! non-vacuity: two threads, each summing the shared cells 0 and 1 into its own cell 10+t;
    the hypotheses hold and an interleaved schedule gives both the sequential result 7 -/
namespace C19Example
def own : Own := fun a => if a = 10 then some 0 else if a = 11 then some 1 else none
/-- local state: (program counter, accumulator) -/
def P : Prog (Nat × Nat) where
  next t s := match s.1 with
    | 0 => some (.read 0, fun v => (1, v))
    | 1 => some (.read 1, fun v => (2, s.2 + v))
    | 2 => if t ≤ 1 then some (.write (10 + t) s.2, fun _ => (3, s.2)) else none
    | _ => none
theorem hW : WritesOwned P own := by
  intro t s a v k h
  simp only [P] at h
  split at h
  · cases h
  · cases h
  · split at h
    · rename_i ht
      obtain ⟨⟨rfl, _⟩, _⟩ := h
      match t, ht with
      | 0, _ => simp [own]
      | 1, _ => simp [own]
    · cases h
  · cases h
theorem hR : ReadsVisible P own := by
  intro t s a k h
  simp only [P] at h
  split at h
  · cases h; left; simp [own]
  · cases h; left; simp [own]
  · split at h <;> cases h
  · cases h
def M0 : Mem := fun a => if a = 0 then 3 else if a = 1 then 4 else 0
example : ((run P [0, 1, 1, 0, 0, 1] ⟨M0, fun _ => (0, 0)⟩).loc 0).2 = 7 ∧
          ((run P [0, 1, 1, 0, 0, 1] ⟨M0, fun _ => (0, 0)⟩).loc 1).2 = 7 ∧
          (run P [0, 1, 1, 0, 0, 1] ⟨M0, fun _ => (0, 0)⟩).mem 11 = 7 := by decide +kernel
end C19Example

end Low
