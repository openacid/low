import LowProofs.Lemmas.C05Short
/-
  C05 -- IndexToPath inverts PathToIndex on full trees of every height.

  Domain of the property: heights `h ≤ 30`, indexes `idx < 2^(h+1) - 1` (= size of the full tree).
  Specification (LowModel/Spec.lean): nodes are branch lists, `preIdx (2^(h+1)-1) 0 n` is the pre-order
  index of node `n` in the full tree, `nodeAt h idx` the node at pre-order position `idx`,
  `encPath h n` the path word of `n`.

  * `C05_nodeAt`, `C05_nodeAt'` : `nodeAt h` and `preIdx (full h) 0` are mutually inverse bijections between
    `[0, 2^(h+1)-1)` and the nodes of depth ≤ h (pure specification facts, true for every `h`).
  * `C05_inverse`  : `IndexToPath(h, idx)` does not panic and returns exactly the path word of `nodeAt h idx`,
    a well-formed path word of height `h` by construction (`encPath`), whose pre-order index is `idx`.
  * `C05_inverse'` : the "equivalently" clause: `IndexToPath(h, preIdx n) = encPath h n` for every node.
  Together with `C03_strict` (`pathToIndex (full h) (encPath h n) = preIdx (full h) 0 n`) these are both
  directions of the English statement.

  Proof structure (LowProofs/Lemmas/C05*.lean): C05Spec (spec facts), C05Word (two-halves view of a path
  word, path word of a concatenation, the explicit first `f` branches of `nodeAt`), C05Loop (phase B: the
  descent loop with fuel 64, phase C: the table rows of heights 0 to 3 by `decide`), C05Short (phase A: the
  common-prefix shortcut for h > 4, including the "may overflow but ok" int32 subtraction, and the assembly).
  The quantifier over `idx` is handled by proof throughout; `decide` is used only for the 26 entries of those
  table rows and for closed numeric constants.
-/
namespace Low
open Low.C05L

/-- `nodeAt` inverts `preIdx` on the full tree and yields a node of the tree.
    (Holds for every `h`; the property's `h ≤ 30` is not needed for this specification fact.) -/
theorem C05_nodeAt {h idx : Nat} (hi : idx < 2 ^ (h + 1) - 1) :
    (nodeAt h idx).length ≤ h ∧ preIdx (2 ^ (h + 1) - 1) 0 (nodeAt h idx) = idx :=
  nodeAt_spec h idx hi

/-- the other direction: every node of depth ≤ h is `nodeAt` of its pre-order index (every `h`) -/
theorem C05_nodeAt' {h : Nat} {n : List Bool} (hn : n.length ≤ h) :
    nodeAt h (preIdx (2 ^ (h + 1) - 1) 0 n) = n :=
  nodeAt_preIdx h n hn

/-- the pre-order index of a node of the full tree is an index of the full tree -/
theorem C05_preIdx_lt {h : Nat} {n : List Bool} (hn : n.length ≤ h) :
    preIdx (2 ^ (h + 1) - 1) 0 n < 2 ^ (h + 1) - 1 :=
  preIdx_full_lt h n hn

/-- `IndexToPath(h, idx)` returns (without panic) the path word of the node at pre-order position `idx` -/
theorem C05_inverse {h idx : Nat} (hh : h ≤ 30) (hi : idx < 2 ^ (h + 1) - 1) :
    indexToPath h (idx : Int) = some (encPath h (nodeAt h idx)) :=
  inverse hh hi

/-- `IndexToPath(h, index of n) = path word of n` for every node `n` of the full tree -/
theorem C05_inverse' {h : Nat} {n : List Bool} (hh : h ≤ 30) (hn : n.length ≤ h) :
    indexToPath h ((preIdx (2 ^ (h + 1) - 1) 0 n : Nat) : Int) = some (encPath h n) := by
  rw [C05_inverse hh (C05_preIdx_lt hn), C05_nodeAt' hn]

/-- the existential form: the result is the path word of a node of the tree whose
    pre-order index is `idx` -/
theorem C05_inverse_exists {h idx : Nat} (hh : h ≤ 30) (hi : idx < 2 ^ (h + 1) - 1) :
    ∃ n : List Bool, n.length ≤ h ∧ indexToPath h (idx : Int) = some (encPath h n) ∧
      preIdx (2 ^ (h + 1) - 1) 0 n = idx :=
  ⟨nodeAt h idx, (C05_nodeAt hi).1, C05_inverse hh hi, (C05_nodeAt hi).2⟩

/-! non-vacuity: concrete instances (height 6: shortcut not taken for idx 3, taken for idx 100;
    height 30, idx 1500000000: shortcut copies 22 branches, loop does 4, table the last 4) -/

example : (nodeAt 6 100).length ≤ 6 ∧ preIdx (2 ^ (6 + 1) - 1) 0 (nodeAt 6 100) = 100 :=
  C05_nodeAt (by decide +kernel)
example : nodeAt 6 100 = [true, true, false, false, false, false] := by decide +kernel
example : nodeAt 6 (preIdx (2 ^ (6 + 1) - 1) 0 [true, false, true]) = [true, false, true] :=
  C05_nodeAt' (by decide +kernel)
example : preIdx (2 ^ (6 + 1) - 1) 0 [true, false, true] = 81 := by decide +kernel
example : indexToPath 6 ((100 : Nat) : Int) = some (encPath 6 (nodeAt 6 100)) :=
  C05_inverse (by decide +kernel) (by decide +kernel)
example : indexToPath 6 100 = some 0x300000003f := by decide +kernel
example : encPath 6 (nodeAt 6 100) = 0x300000003f := by decide +kernel
example : indexToPath 30 ((1500000000 : Nat) : Int) = some (encPath 30 (nodeAt 30 1500000000)) :=
  C05_inverse (by decide +kernel) (by decide +kernel)
example : indexToPath 30 1500000000 = some 3221225443008970751 := by decide +kernel
example : (pre 30 1500000000).2.2 = 245 ∧ (pre 30 7).1 = 0 := by decide +kernel
example : indexToPath 6 ((preIdx (2 ^ (6 + 1) - 1) 0 [true, false, true] : Nat) : Int)
    = some (encPath 6 [true, false, true]) :=
  C05_inverse' (by decide +kernel) (by decide +kernel)
example : ∃ n : List Bool, n.length ≤ 5 ∧ indexToPath 5 ((62 : Nat) : Int) = some (encPath 5 n) ∧
    preIdx (2 ^ (5 + 1) - 1) 0 n = 62 :=
  C05_inverse_exists (by decide +kernel) (by decide +kernel)

end Low
