import LowProofs.E2E2.C15
import LowProofs.Tie7.bitmap_NewTailBitmap
/-
  C15 end to end INCLUDING THE CONSTRUCTOR: `E2E_C15_history` (E2E2/C15.lean) runs any `Set` / `Compact` history through
  the regenerated methods from the literal `newTailBitmap o`; here the history starts from what the REGENERATED
  constructor `NewTailBitmap` returns (`Generated/Ssa7/bitmap_NewTailBitmap.lean`: the tuple `(Offset, Words, reclaimed)`
  of the fields of the struct the Go constructor allocates): "starting from NewTailBitmap(o) …" as a statement about
  generated code only.
-/
namespace Low

/-- constructor (generated) followed by a history (generated methods); `thr0` is the value of `reclaimThreshold` when the
    constructor runs (it sizes the preallocation), `thr` its value during the history -/
def genTbNewRun (fuel : Nat) (thr0 thr o : Int) (ops : List TbOp) : Option TailBitmap :=
  (Gen.Ssa7.bitmap_NewTailBitmap o thr0).bind (fun r => genTbRun fuel thr ⟨r.1, r.2.1, r.2.2⟩ ops)

theorem genTbNewRun_eq (fuel : Nat) (thr0 thr o : Int) (ops : List TbOp) (h0 : 0 ≤ thr0) :
    genTbNewRun fuel thr0 thr o ops = genTbRun fuel thr (newTailBitmap o) ops := by
  rw [genTbNewRun, Tie_bitmap_NewTailBitmap o thr0 h0]; rfl

/-- C15, main statement, from the generated constructor: for every initial offset `o` (multiple of 64, on the input
    domain `TbBounds`), every non-negative `reclaimThreshold` at construction time and ANY history of `Set` / `Compact`
    calls: neither the constructor nor any call panics, and the final receiver answers `Get1` / `Get` (generated) as the
    abstract set `{j < o} ∪ {indices set}` says; `Offset` is a multiple of 64, at least `o`, everything below it is a
    member; the first word is not all-ones.  Same conclusions as `E2E_C15_history`. -/
theorem E2E_C15_new_history (thr0 thr o U : Int) (fuel : Nat) (h0 : 0 ≤ thr0) (hb : TbBounds o U fuel) (ops : List TbOp)
    (hops : ∀ i, TbOp.set i ∈ ops → i < U) :
    ∃ tb, genTbNewRun fuel thr0 thr o ops = some tb ∧
      (∀ j, -2^63 ≤ j → j < 2^63 →
        (j < tbEnd tb → genGet1 tb j = some (if mem o ops j then 1 else 0) ∧
          genGet tb j = some (if mem o ops j then 2 ^ (j % 64).toNat else 0)) ∧
        (tbEnd tb ≤ j → genGet1 tb j = none ∧ genGet tb j = none)) ∧
      (∀ i, TbOp.set i ∈ ops → i < tbEnd tb) ∧
      (64 : Int) ∣ tb.offset ∧ o ≤ tb.offset ∧ (∀ j, j < tb.offset → mem o ops j) ∧
      tb.words.head? ≠ some allOnes64 ∧ WordsOK tb.words ∧ tbEnd tb ≤ U := by
  rw [genTbNewRun_eq fuel thr0 thr o ops h0]
  exact E2E_C15_history thr o U fuel hb ops hops

/-- right after the constructor: `Offset = reclaimed = o` and no stored words -/
theorem E2E_C15_new_empty (thr0 o : Int) (h0 : 0 ≤ thr0) :
    Gen.Ssa7.bitmap_NewTailBitmap o thr0 = some (o, [], o) := by
  rw [Tie_bitmap_NewTailBitmap o thr0 h0]; rfl

/-- OUTSIDE the property's domain: a negative `reclaimThreshold` (only the `verif` build hook can set one) makes the
    constructor panic. -/
theorem E2E_C15_new_neg (thr0 thr o : Int) (fuel : Nat) (ops : List TbOp) (h : thr0 < 0) :
    genTbNewRun fuel thr0 thr o ops = none := by
  rw [genTbNewRun, Tie_bitmap_NewTailBitmap_neg o thr0 h]; rfl

example : (genTbNewRun 9 65536 128 128 C15_demoOps).map (fun tb => (tb.offset, tb.words.length, tb.reclaimed))
    = (genTbRun 9 128 (newTailBitmap 128) C15_demoOps).map (fun tb => (tb.offset, tb.words.length, tb.reclaimed)) :=
  congrArg _ (genTbNewRun_eq 9 65536 128 128 C15_demoOps (by decide))
example : (genTbNewRun 9 65536 128 128 C15_demoOps).bind (fun tb => genGet1 tb 200) = some 1 := by
  rw [genTbNewRun_eq 9 65536 128 128 C15_demoOps (by decide), genTbRun_demo]
  decide +kernel

end Low
