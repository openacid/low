import LowProofs.E2E.C10
import LowProofs.Tie7.bmtree_PathStr
/-
  C10, the `PathStr` clause, end to end: "PathStr renders exactly the l prefix bits ('' for the root)" stated about the
  definition REGENERATED from `bmtree.PathStr` (`Generated/Ssa7/bmtree_PathStr.lean`; the call of `fmt.Sprintf` is the
  vocabulary function `GoSem7.sprintfBinPad`) and, in the second theorem, about the word the regenerated `NewPath` returns.
  (The other clauses of C10 are in `E2E/C10.lean`.)
-/
namespace Low

/-- the bytes of the ASCII rendering of a node: '1' = 49, '0' = 48 -/
def bitChars (n : List Bool) : List Nat := n.map (fun b => if b then 49 else 48)

/-- The code of `PathStr` on the path word of the node `n` in a tree of height `h ≤ 32` returns, without panic, exactly the
    branch bits of the node as ASCII digits (the empty string for the root). -/
theorem E2E_C10_str {h : Nat} {n : List Bool} (hh : h ≤ 32) (hl : n.length ≤ h) :
    Gen.Ssa7.bmtree_PathStr (encPath h n) = some (bitChars n) := by
  rw [Tie_bmtree_PathStr, C10_str hh hl, String.toList_ofList, List.map_map, bitChars]
  congr 1
  apply List.map_congr_left
  intro b _
  cases b <;> rfl

/-- purely on generated code: `PathStr(NewPath(prefix left-aligned, l, h))` is the `l` prefix bits -/
theorem E2E_C10_str_newPath {h : Nat} {n : List Bool} (hh : h ≤ 32) (hl : n.length ≤ h) :
    (Gen.Ssa.bmtree_NewPath (bitsVal n <<< (h - n.length)) (n.length : Int) (h : Int)).bind Gen.Ssa7.bmtree_PathStr
      = some (bitChars n) := by
  rw [E2E_C10_newPath hh hl, Option.bind_some, E2E_C10_str hh hl]

example : Gen.Ssa7.bmtree_PathStr (encPath 5 [true, false, true]) = some [49, 48, 49] := by decide +kernel
example : bitChars [true, false, true] = "101".toList.map Char.toNat := by decide +kernel

end Low
