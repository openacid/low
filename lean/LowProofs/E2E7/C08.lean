import LowProofs.E2E2.C08
import LowProofs.Tie7.bitword_newBW
import LowProofs.Tie7.bitword_init
import LowProofs.Tie7.bitword_bitWord_FromStrs
import LowProofs.Tie7.bitword_bitWord_ToStrs
/-
  C08 end to end INCLUDING THE TABLE `bitword.BitWord` AND THE CONSTRUCTOR `newBW`: the theorems of E2E/C08.lean and
  E2E2/C08.lean are stated about the regenerated methods applied to the receiver fields `(n, 8/n, bwWordMask n)`; here
  the receiver is what the REGENERATED package initialiser (`Generated/Ssa7/bitword_init.lean`, calling the regenerated
  `newBW`) stores under key `n` in the map `BitWord` — the value a caller obtains with `bitword.BitWord[n]`.  Also
  the element-wise clause of C08 for `FromStrs` / `ToStrs` on generated code.
-/
namespace Low
open Low.GoSem7

/-- `bitword.BitWord[n]` as the generated initialiser builds it: the fields of the `bitWord` stored under key `n` -/
def genBitWord (n : Int) : Option (Int × Int × Nat) := Gen.Ssa7.bitword_init.bind (fun m => mapLookup m n)

/-- the receiver the package provides for each of its four widths carries the fields the ties assume -/
theorem E2E_C08_BitWord (n : Nat) (hn : n ∈ [1,2,4,8]) :
    genBitWord (n : Int) = some ((n : Int), ((8 / n : Nat) : Int), bwWordMask n) :=
  Tie_bitword_BitWord_lookup n (E2EL.width_cases hn)

/-- the same receiver from a direct call of the generated constructor -/
theorem E2E_C08_newBW (n : Nat) (hn : n ∈ [1,2,4,8]) : Gen.Ssa7.bitword_newBW (n : Int) = genBitWord (n : Int) := by
  rw [E2E_C08_BitWord n hn, Tie_bitword_newBW n (E2EL.width_cases hn)]

/-- `C08_roundtrip` through the table: with `w := BitWord[n]`, `w.ToStr(w.FromStr(s)) = s`, all four steps (table
    initialiser, constructor, `FromStr`, `ToStr`) regenerated code. -/
theorem E2E_C08_BitWord_roundtrip (n : Nat) (hn : n ∈ [1,2,4,8]) (s : List Nat) (hs : BytesOK s) (hlen : s.length < 2^29)
    (fuel fuel' : Nat) (hfuel : s.length + 9 ≤ fuel) (hfuel' : 8 * s.length / n + 9 ≤ fuel') :
    (genBitWord (n : Int)).bind (fun w =>
      (Gen.Ssa3.bitword_bitWord_FromStr fuel w.1 w.2.1 w.2.2 s).bind
        (Gen.Ssa3.bitword_bitWord_ToStr fuel' w.1 w.2.1 w.2.2)) = some s := by
  rw [E2E_C08_BitWord n hn, Option.bind_some]
  exact E2E_C08_roundtrip n hn s hs hlen fuel fuel' hfuel hfuel'

/-- `FromStrs` is `FromStr` element-wise (C08, last clause), on generated code: the result has one entry per string
    and entry `k` is what the generated `FromStr` returns for `strs[k]`. -/
theorem E2E_C08_fromStrs (n : Nat) (hn : n ∈ [1,2,4,8]) (strs : List (List Nat)) (fuel : Nat)
    (hlen : ∀ s ∈ strs, s.length < 2^32) (hN : strs.length < 2^62) (hfuel1 : strs.length + 1 ≤ fuel)
    (hfuel2 : ∀ s ∈ strs, s.length + 9 ≤ fuel) :
    ∃ wss, (genBitWord (n : Int)).bind (fun w => Gen.Ssa7.bitword_bitWord_FromStrs fuel w.1 w.2.1 w.2.2 strs) = some wss ∧
      wss.length = strs.length ∧
      ∀ k (hk : k < strs.length),
        Gen.Ssa3.bitword_bitWord_FromStr fuel (n : Int) ((8 / n : Nat) : Int) (bwWordMask n) strs[k] = wss[k]? := by
  refine ⟨strs.map (bwFromStr n), ?_, by simp, ?_⟩
  · rw [E2E_C08_BitWord n hn, Option.bind_some]
    exact Tie_bitword_bitWord_FromStrs n strs fuel (E2EL.width_cases hn) hlen hN hfuel1 hfuel2
  · intro k hk
    have hmem : strs[k] ∈ strs := List.getElem_mem hk
    rw [Tie_bitword_bitWord_FromStr n strs[k] fuel (E2EL.width_cases hn) (hlen _ hmem) (hfuel2 _ hmem)]
    simp [hk]

/-- `ToStrs` is `ToStr` element-wise, on generated code. -/
theorem E2E_C08_toStrs (n : Nat) (hn : n ∈ [1,2,4,8]) (bss : List (List Nat)) (fuel : Nat)
    (hlen : ∀ s ∈ bss, s.length < 2^32) (hN : bss.length < 2^62) (hfuel1 : bss.length + 1 ≤ fuel)
    (hfuel2 : ∀ s ∈ bss, s.length + 9 ≤ fuel) :
    ∃ ss, (genBitWord (n : Int)).bind (fun w => Gen.Ssa7.bitword_bitWord_ToStrs fuel w.1 w.2.1 w.2.2 bss) = some ss ∧
      ss.length = bss.length ∧
      ∀ k (hk : k < bss.length),
        Gen.Ssa3.bitword_bitWord_ToStr fuel (n : Int) ((8 / n : Nat) : Int) (bwWordMask n) bss[k] = ss[k]? := by
  refine ⟨bss.map (bwToStr n), ?_, by simp, ?_⟩
  · rw [E2E_C08_BitWord n hn, Option.bind_some]
    exact Tie_bitword_bitWord_ToStrs n bss fuel (E2EL.width_cases hn) hlen hN hfuel1 hfuel2
  · intro k hk
    have hmem : bss[k] ∈ bss := List.getElem_mem hk
    rw [Tie_bitword_bitWord_ToStr n bss[k] fuel (E2EL.width_cases hn) (hlen _ hmem) (hfuel2 _ hmem)]
    simp [hk]

/-- `ToStrs(FromStrs(strs)) = strs` on generated code (strings of bytes, each shorter than `2^29`). -/
theorem E2E_C08_strs_roundtrip (n : Nat) (hn : n ∈ [1,2,4,8]) (strs : List (List Nat)) (fuel fuel' : Nat)
    (hs : ∀ s ∈ strs, BytesOK s) (hlen : ∀ s ∈ strs, s.length < 2^29) (hN : strs.length < 2^62)
    (hfuel1 : strs.length + 1 ≤ fuel) (hfuel2 : ∀ s ∈ strs, s.length + 9 ≤ fuel)
    (hfuel1' : strs.length + 1 ≤ fuel') (hfuel2' : ∀ s ∈ strs, 8 * s.length / n + 9 ≤ fuel') :
    (Gen.Ssa7.bitword_bitWord_FromStrs fuel (n : Int) ((8 / n : Nat) : Int) (bwWordMask n) strs).bind
      (Gen.Ssa7.bitword_bitWord_ToStrs fuel' (n : Int) ((8 / n : Nat) : Int) (bwWordMask n)) = some strs := by
  have hlen32 : ∀ s ∈ strs, s.length < 2^32 := fun s h => by have := hlen s h; omega
  rw [Tie_bitword_bitWord_FromStrs n strs fuel (E2EL.width_cases hn) hlen32 hN hfuel1 hfuel2, Option.bind_some]
  have hl : ∀ s ∈ strs, (bwFromStr n s).length = 8 * s.length / n := fun s h => (C08_fromStr n hn s (hs s h)).1
  have hle : ∀ s : List Nat, 8 * s.length / n ≤ 8 * s.length := fun s => Nat.div_le_self _ _
  have hlenW : ∀ b ∈ strs.map (bwFromStr n), b.length < 2^32 := by
    intro b hb
    obtain ⟨s, hsm, rfl⟩ := List.mem_map.mp hb
    have := hlen s hsm
    have := hle s
    rw [hl s hsm]
    omega
  have hfuelW : ∀ b ∈ strs.map (bwFromStr n), b.length + 9 ≤ fuel' := by
    intro b hb
    obtain ⟨s, hsm, rfl⟩ := List.mem_map.mp hb
    rw [hl s hsm]
    exact hfuel2' s hsm
  rw [Tie_bitword_bitWord_ToStrs n (strs.map (bwFromStr n)) fuel' (E2EL.width_cases hn) hlenW
    (by simpa using hN) (by simpa using hfuel1') hfuelW]
  congr 1
  rw [List.map_map]
  conv => rhs; rw [← List.map_id strs]
  apply List.map_congr_left
  intro s hsm
  exact C08_roundtrip n hn s (hs s hsm)

example : (genBitWord 2).bind (fun w => Gen.Ssa3.bitword_bitWord_FromStr 11 w.1 w.2.1 w.2.2 [0x1b, 0xe4])
    = some [0, 1, 2, 3, 3, 2, 1, 0] := by decide +kernel
example : genBitWord 3 = none := by decide +kernel

end Low
