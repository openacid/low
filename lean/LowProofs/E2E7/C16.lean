import LowProofs.E2E2.C16
import LowProofs.Tie7.sigbits_New
/-
  C16 (`CountPrefixes`) end to end INCLUDING THE CONSTRUCTOR `sigbits.New`: `E2E_C16_count` (E2E2/C16.lean) feeds the
  result of the regenerated `FirstDiffBits` to the regenerated method `(*SigBits).CountPrefixes` by hand; here the
  receiver is the struct the REGENERATED constructor returns (`Generated/Ssa7/sigbits_New.lean`: the tuple
  `(keys, sigbits)`), i.e. the statement is about `sigbits.New(keys).CountPrefixes(s, e, m)` as a user calls it.
-/
namespace Low

/-- `New(keys).CountPrefixes(s, e, m)`, constructor and method regenerated -/
def genNewCountPrefixes (fuel fuel' : Nat) (keys : List (List Nat)) (s e m : Int) : Option (Int × List Int) :=
  (Gen.Ssa7.sigbits_New fuel keys).bind (fun sb => Gen.Ssa3.sigbits_SigBits_CountPrefixes fuel' sb.1 sb.2 s e m)

theorem sigbits_New_unfold (fuel : Nat) (keys : List (List Nat)) :
    Gen.Ssa7.sigbits_New fuel keys = (Gen.Ssa3.sigbits_FirstDiffBits fuel keys).map (fun sig => (keys, sig)) := by
  rw [Gen.Ssa7.sigbits_New]; cases Gen.Ssa3.sigbits_FirstDiffBits fuel keys <;> rfl

/-- `C16_count` from the generated constructor: same hypotheses (inputs only) and conclusions as `E2E_C16_count`. -/
theorem E2E_C16_new_count (keys : List (List Nat)) (s e : Nat) (m : Int) (fuel fuel' : Nat)
    (hasc : strictAsc keys = true) (hok : ∀ k ∈ keys, BytesOK k) (hlen : ∀ k ∈ keys, k.length < 2^28)
    (hn : keys.length < 2^31) (hse : s + 2 ≤ e) (he : e ≤ keys.length) (hm : 1 ≤ m) (hm' : m < 2^31)
    (hfuel1 : keys.length ≤ fuel) (hfuel2 : ∀ k ∈ keys, k.length / 8 + 2 ≤ fuel)
    (hfuel' : e + m.toNat ≤ fuel') :
    ∃ (m0 : Nat) (cs : List Nat),
      genNewCountPrefixes fuel fuel' keys (s : Int) (e : Int) m = some ((m0 : Int), cs.map Int.ofNat) ∧
      m0 ∈ List.zipWith fdSpec ((keys.drop s).take (e - s)) ((keys.drop s).take (e - s)).tail ∧
      (∀ d ∈ List.zipWith fdSpec ((keys.drop s).take (e - s)) ((keys.drop s).take (e - s)).tail, m0 ≤ d) ∧
      cs.length = m.toNat ∧
      ∀ i, i < m.toNat →
        cs.getD i 0 = distinctCount (((keys.drop s).take (e - s)).map (truncBits (m0 + i))) := by
  obtain ⟨sig, m0, cs, h1, h2, h3, h4, h5, h6⟩ :=
    E2E_C16_count keys s e m fuel fuel' hasc hok hlen hn hse he hm hm' hfuel1 hfuel2 hfuel'
  refine ⟨m0, cs, ?_, h3, h4, h5, h6⟩
  rw [genNewCountPrefixes, sigbits_New_unfold, h1]
  exact h2

/-- the constructor on the empty key list panics (`make([]int32, -1)` in `FirstDiffBits`); C16 is about non-empty lists. -/
theorem E2E_C16_new_nil (fuel : Nat) : Gen.Ssa7.sigbits_New fuel [] = none := by
  rw [sigbits_New_unfold, E2E_C16_firstDiffBits_nil]; rfl

example : genNewCountPrefixes 3 6 [[0x61, 0x62], [0x61, 0x63], [0x62]] 0 3 3 = some (6, [1, 2, 2]) := by decide +kernel

end Low
