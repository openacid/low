import LowProofs.Tie7.bitmap_initMasks
import LowProofs.Tie7.bitmap_initSelectLookup
import LowProofs.Tie7.bmtree_init
/-
  The lookup tables, end to end.  The definitions regenerated from the READERS (`Rank128`, `Select32`, `PathToIndex`,
  `IndexToPath`, `Join`, `TailBitmap.Set`, …) read the package-level tables through the vocabulary functions
  `GoSem.tblMask`, `tblRMask`, `tblMaskUpto`, `tblRMaskUpto`, `tblBit`, (`tblRBit`), `GoSem2.tblSelect8`,
  `GoSem2.tblIdxToPath`, whose contents are written down in `LowModel/GoSem*.lean` (DESIGN.md 4.1, 6).  This file states, in
  one theorem about regenerated code only, that each of these functions IS the bounds-checked read of the table that the
  regenerated INITIALISER of the package builds — for every index, in range or out of range.  With the checks the
  translator makes when it regenerates the initialisers (nothing else writes the tables; the initialisers run exactly
  once, during package initialisation; see tools/ssa2lean7/init7.go) the table contents are proved, not trusted: what is
  trusted is that package initialisation has finished before a reader runs (Go guarantees it for every function called
  from outside package initialisation).

  Every E2E theorem of C01, C02, C03, C05, C09, C10, C11, C14, C15 is, by rewriting with the equations below, a theorem
  about code that reads the regenerated tables.
-/
namespace Low
open Low.GoSem

/-- the eight tables the vocabulary reads are the tables the regenerated initialisers build -/
theorem E2E_tables (fuel : Nat) (hfuel : 257 ≤ fuel) :
    (∀ j, tblMask j      = (Gen.Ssa7.bitmap_initMasks fuel).bind (fun T => index T.2.1 j)) ∧
    (∀ j, tblRMask j     = (Gen.Ssa7.bitmap_initMasks fuel).bind (fun T => index T.2.2.2.2.1 j)) ∧
    (∀ j, tblMaskUpto j  = (Gen.Ssa7.bitmap_initMasks fuel).bind (fun T => index T.2.2.1 j)) ∧
    (∀ j, tblRMaskUpto j = (Gen.Ssa7.bitmap_initMasks fuel).bind (fun T => index T.2.2.2.2.2 j)) ∧
    (∀ j, tblBit j       = (Gen.Ssa7.bitmap_initMasks fuel).bind (fun T => index T.1 j)) ∧
    (∀ j, tblRBit j      = (Gen.Ssa7.bitmap_initMasks fuel).bind (fun T => index T.2.2.2.1 j)) ∧
    (∀ j, GoSem2.tblSelect8 j = (Gen.Ssa7.bitmap_initSelectLookup fuel).bind (fun T => index T j)) ∧
    (∀ i j, GoSem2.tblIdxToPath i j
        = Gen.Ssa7.bmtree_init.bind (fun T => (index T i).bind (fun row => index row j))) :=
  have h66 : 66 ≤ fuel := by omega
  ⟨fun j => (Tie_bitmap_Mask_read fuel h66 j).symm, fun j => (Tie_bitmap_RMask_read fuel h66 j).symm,
   fun j => (Tie_bitmap_MaskUpto_read fuel h66 j).symm, fun j => (Tie_bitmap_RMaskUpto_read fuel h66 j).symm,
   fun j => (Tie_bitmap_Bit_read fuel h66 j).symm, fun j => (Tie_bitmap_RBit_read fuel h66 j).symm,
   fun j => (Tie_bitmap_select8Lookup_read fuel hfuel j).symm, fun i j => (Tie_bmtree_idxToPath_read i j).symm⟩

/-- the sizes of the tables the initialisers build are the declared array lengths -/
theorem E2E_tables_len (fuel : Nat) (hfuel : 257 ≤ fuel) :
    (Gen.Ssa7.bitmap_initMasks fuel).map (fun T => (T.1.length, T.2.1.length, T.2.2.1.length, T.2.2.2.1.length,
        T.2.2.2.2.1.length, T.2.2.2.2.2.length)) = some (64, 65, 64, 64, 65, 64) ∧
    (Gen.Ssa7.bitmap_initSelectLookup fuel).map List.length = some 2048 ∧
    Gen.Ssa7.bmtree_init.map (fun T => T.map List.length) = some [1, 1, 3, 0, 7, 0, 0, 0, 15] := by
  refine ⟨?_, ?_, ?_⟩
  · rw [Tie_bitmap_initMasks fuel (by omega)]; simp [maskTables]
  · rw [Tie_bitmap_initSelectLookup fuel hfuel, Option.map_some]
    simp only [select8Table, List.length_flatMap, C02L.sel8Row_length, List.map_const', List.length_range,
      List.sum_replicate_nat]
  · rw [Tie_bmtree_init]; decide

end Low
