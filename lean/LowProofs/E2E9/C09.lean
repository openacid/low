import LowProofs.Tie9.bitstr_StrCmpUpto
import LowProofs.E2E2.C09
/-
  C09 end to end, the last clause: "CmpUpto(a,b) and StrCmpUpto(a,b) return the sign of comparing … and the two
  functions always agree", stated about the definitions REGENERATED from the go/ssa form of `bitstr.StrCmpUpto`
  (`Generated/Ssa9/bitstr_StrCmpUpto.lean`, tools/ssa2lean9), `bitstr.CmpUpto` (`Generated/Ssa2`) and `bitstr.New`
  (`Generated/Ssa3`).  No hand-written model function of the Go code occurs in the conclusions (`lexCmp`, `bitsBE`,
  `bsPayload` are the specification of C09).
-/
namespace Low

/-- "the two functions always agree" on generated code: for EVERY string `a`, EVERY `b` (an encoding or not) and EVERY
    `fuel` the regenerated `StrCmpUpto` returns what the regenerated `CmpUpto` returns on the string's bytes — value,
    panic (`none`) or running out of fuel alike.  No hypothesis. -/
theorem E2E_C09_strCmpUpto_agree (a b : List Nat) (fuel : Nat) :
    Gen.Ssa9.bitstr_StrCmpUpto fuel a b = Gen.Ssa2.bitstr_CmpUpto fuel a b :=
  Tie_bitstr_StrCmpUpto_gen a b fuel

/-- `C09_strCmpUpto` / `C09_cmpUpto` on generated code.  For a string `a` of ANY length, the code of `New(s, f, t)`
    (regenerated) does not panic, and the code of `StrCmpUpto` (regenerated) on `a` and the encoding `New` returned,
    for EVERY `fuel ≥ 9`, terminates, does not panic, returns the sign of comparing the first `Len(enc)` bits of `a`
    (all of `a` when shorter) with the encoded bit string — and that is also what the code of `CmpUpto` returns.
    Hypotheses (those of `E2E_C09_cmpUpto_full`): `BytesOK a`, `BytesOK s`, `f ≤ t`, `t ≤ 8 * s.length`,
    `t + 7 < 2^31`, `s.length + 1 < 2^63`, `9 ≤ fuel`. -/
theorem E2E_C09_strCmpUpto (a : List Nat) (ha : BytesOK a)
    (s : List Nat) (hs : BytesOK s) (f t : Nat) (hft : f ≤ t) (ht : t ≤ 8 * s.length)
    (hdom : t + 7 < 2^31) (hlen : s.length + 1 < 2^63) (fuel : Nat) (hfuel : 9 ≤ fuel) :
    ∃ enc, Gen.Ssa3.bitstr_New s (f : Int) (t : Int) = some enc ∧
      Gen.Ssa9.bitstr_StrCmpUpto fuel a enc
        = some (lexCmp ((bitsBE a).take (t - 8 * (f / 8))) (bsPayload s f t)) ∧
      Gen.Ssa9.bitstr_StrCmpUpto fuel a enc = Gen.Ssa2.bitstr_CmpUpto fuel a enc := by
  obtain ⟨enc, he, hc⟩ := E2E_C09_cmpUpto_full a ha s hs f t hft ht hdom hlen fuel hfuel
  exact ⟨enc, he, by rw [E2E_C09_strCmpUpto_agree, hc], E2E_C09_strCmpUpto_agree a enc fuel⟩

/-! non-vacuity: `New("abc", 5, 12) = 61 60 f0` by the generated code, then the generated `StrCmpUpto` -/
example : (Gen.Ssa3.bitstr_New [0x61, 0x62, 0x63] 5 12).bind (Gen.Ssa9.bitstr_StrCmpUpto 9 [0x61, 0x6f, 0x00])
    = some 0 := by decide +kernel
example : (Gen.Ssa3.bitstr_New [0x61, 0x62, 0x63] 5 12).bind (Gen.Ssa9.bitstr_StrCmpUpto 9 [0x61])
    = some (-1) := by decide +kernel
example : (Gen.Ssa3.bitstr_New [0x61, 0x62, 0x63] 5 12).bind (Gen.Ssa9.bitstr_StrCmpUpto 9 [0x62, 0x00])
    = some 1 := by decide +kernel

end Low
