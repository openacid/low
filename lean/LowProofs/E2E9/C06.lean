import LowProofs.Tie9.pbcmpl_header_Marshal
import LowProofs.Tie9.pbcmpl_header_Unmarshal
import LowProofs.Lemmas.C06
/-
  C06 / C07, the header layout end to end: the two facts `Tie5.X` assumes of `encoding/binary` on the 32-byte header
  (its fields `protoMarshalHeader`, `protoUnmarshalHeader`) stated about the definitions REGENERATED from the go/ssa form of
  `(*header).Marshal` / `(*header).Unmarshal` (`Generated/Ssa9`, tools/ssa2lean9 + `GoSem9`).  No hand-written model function
  of the Go code occurs in the conclusions.
-/
namespace Low
open Low.GoSem5 Low.C06L

/-- the layout: the regenerated `(*header).Marshal` returns, without error, 32 bytes: the 16 version bytes, then
    `HeaderSize` and `BodySize` least significant byte first (byte `16+j` is `(HeaderSize >>> 8j) % 256`, byte `24+j`
    likewise for `BodySize`). -/
theorem E2E_C06_header_layout (ver : List Nat) (hv : ver.length = 16) (hs bs : Nat) :
    ∃ r, Gen.Ssa9.pbcmpl_header_Marshal ver hs bs = some (r, Err.nil) ∧ r.length = 32 ∧ r.take 16 = ver ∧
      (∀ j, j < 8 → r[16 + j]? = some ((hs >>> (8 * j)) % 256)) ∧
      (∀ j, j < 8 → r[24 + j]? = some ((bs >>> (8 * j)) % 256)) := by
  have e := Tie_pbcmpl_header_Marshal (ver, hs, bs) hv
  refine ⟨_, e, ?_, ?_, ?_, ?_⟩
  · simp [Tie5.hdrBytes, hv, le64_length]
  · simp [Tie5.hdrBytes, hv]
  · intro j hj
    simp only [Tie5.hdrBytes]
    rw [List.append_assoc, List.getElem?_append_right (by omega)]
    rw [List.getElem?_append_left (by simp [le64_length]; omega)]
    simp [le64, hv, hj]
  · intro j hj
    simp only [Tie5.hdrBytes]
    rw [List.getElem?_append_right (by simp [le64_length, hv])]
    simp [le64, hv, hj]

/-- round trip on generated code: what the regenerated `(*header).Marshal` produces, the regenerated
    `(*header).Unmarshal` decodes — into ANY receiver — back to the same header, without error.
    Hypotheses: the representation invariant of a header (16 version bytes; the two sizes are `uint64` values). -/
theorem E2E_C06_header_roundtrip (ver : List Nat) (hv : ver.length = 16) (hs bs : Nat) (hhs : hs < 2^64) (hbs : bs < 2^64)
    (h0 : Header) :
    (Gen.Ssa9.pbcmpl_header_Marshal ver hs bs).bind
        (fun r => Gen.Ssa9.pbcmpl_header_Unmarshal h0.1 h0.2.1 h0.2.2 r.1)
      = some (Err.nil, (ver, hs, bs)) := by
  rw [Tie_pbcmpl_header_Marshal (ver, hs, bs) hv, Option.bind_some,
    Tie_pbcmpl_header_Unmarshal h0 _ (by simp [Tie5.hdrBytes, hv, le64_length])]
  simp only [Tie5.hdrOf, Tie5.hdrBytes]
  have e1 : (ver ++ le64 hs ++ le64 bs).take 16 = ver := by simp [hv]
  have e2 : ((ver ++ le64 hs ++ le64 bs).drop 16).take 8 = le64 hs := by
    rw [List.append_assoc, List.drop_append_of_le_length (by omega), List.drop_of_length_le (by omega), List.nil_append,
      List.take_append_of_le_length (by simp [le64_length]), List.take_of_length_le (by simp [le64_length])]
  have e3 : ((ver ++ le64 hs ++ le64 bs).drop 24).take 8 = le64 bs := by
    have h24 : (ver ++ le64 hs).length = 24 := by simp [hv, le64_length]
    rw [List.drop_left' h24]
    exact List.take_of_length_le (by simp [le64_length])
  rw [e1, e2, e3, unle_le64 hs hhs, unle_le64 bs hbs]

/-- a truncated header (fewer than 32 bytes) is rejected by the regenerated `(*header).Unmarshal` and the receiver
    keeps its contents -/
theorem E2E_C07_header_short (h0 : Header) (b : List Nat) (hb : b.length < 32) :
    ∃ e, e ≠ Err.nil ∧ Gen.Ssa9.pbcmpl_header_Unmarshal h0.1 h0.2.1 h0.2.2 b = some (e, h0) := by
  refine ⟨_, ?_, Tie_pbcmpl_header_Unmarshal_short h0 b hb⟩
  by_cases h : b.length = 0 <;> simp [h]

example : (Gen.Ssa9.pbcmpl_header_Marshal ([49, 46, 48] ++ List.replicate 13 0) 32 70000).bind
    (fun r => Gen.Ssa9.pbcmpl_header_Unmarshal [] 0 0 r.1)
    = some (Err.nil, ([49, 46, 48] ++ List.replicate 13 0, 32, 70000)) := by decide +kernel

end Low
