import Generated.Ssa5.pbcmpl_headerInfo_GetHeaderSize
import LowModel.Pbcmpl
/-
  Tie for `(*headerInfo).GetHeaderSize`: `int64(hi.HeaderSize)`, the uint64 field reinterpreted as int64 (`wrap64`), as in
  the model's `pbReadHeader`.  No hypothesis.  The pointers are assumed non-nil.
-/
namespace Low

theorem Tie_pbcmpl_headerInfo_GetHeaderSize (v : List Nat) (hs bs : Nat) :
    Gen.Ssa5.pbcmpl_headerInfo_GetHeaderSize (v, hs, bs) = wrap64 (hs : Int) := rfl

example : Gen.Ssa5.pbcmpl_headerInfo_GetHeaderSize ([], 2^64 - 1, 5) = -1 := by decide +kernel

end Low
