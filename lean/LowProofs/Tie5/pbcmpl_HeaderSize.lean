import LowProofs.Tie5.Oracles
import Generated.Ssa5.pbcmpl_HeaderSize
/-
  Tie for `pbcmpl.HeaderSize(msg)`: the package variable `fixedSize` (an argument of the generated definition), i.e. 32 —
  the length of every header the model's `pbHeader` builds.
-/
namespace Low
open GoSem5

theorem Tie_pbcmpl_HeaderSize (msg : Obj) (fixedSize : Int) : Gen.Ssa5.pbcmpl_HeaderSize msg fixedSize = fixedSize := rfl

example : Gen.Ssa5.pbcmpl_HeaderSize theMsg 32 = 32 := rfl

end Low
