import Generated.Ssa5.pbcmpl_headerInfo_GetBodySize
import LowModel.Pbcmpl
/-
  Tie for `(*headerInfo).GetBodySize`: `int64(hi.BodySize)`, the uint64 field reinterpreted as int64 (`wrap64`): a field
  ≥ 2^63 comes out negative (the case `Unmarshal` rejects with ErrInvalidBodySize).  No hypothesis.
-/
namespace Low

theorem Tie_pbcmpl_headerInfo_GetBodySize (v : List Nat) (hs bs : Nat) :
    Gen.Ssa5.pbcmpl_headerInfo_GetBodySize (v, hs, bs) = wrap64 (bs : Int) := rfl

example : Gen.Ssa5.pbcmpl_headerInfo_GetBodySize ([], 32, 2^63) = -2^63 := by decide +kernel
example : Gen.Ssa5.pbcmpl_headerInfo_GetBodySize ([], 32, 7) = 7 := by decide +kernel

end Low
