import LowProofs.Tie5.pbcmpl_ReadHeader
import LowProofs.Tie5.pbcmpl_headerInfo_GetVersion
import LowProofs.Tie5.pbcmpl_headerInfo_GetHeaderSize
import LowProofs.Tie5.pbcmpl_headerInfo_GetBodySize
import Generated.Ssa5.pbcmpl_Unmarshal
/-
  Tie for `pbcmpl.Unmarshal(r, msg)`.  With the model oracles `Tie5.X` and `fixedSize = 32` the definition regenerated
  from go/ssa (it calls the regenerated `ReadHeader`, the three getters through the `Header` interface, `verStr`) equals
  `some (embedU w)`: the Go results and the final world written out from the MODEL function `pbUnmarshal w.rd`:
    count = the model's `n`; version = the model's `ver`; the reader is left where the model leaves it;
    an error of class `e` in the model is the value `WithStack(errOf e)` (a fresh wrapper);
    on success the message has received exactly the model's `body` and the error is `WithStack` of what
    `proto.Unmarshal` answered (nil stays nil).
  In particular it never panics (the nil-`Header` dereference after a failed `ReadHeader` is unreachable).
  Hypotheses:
  * `17 ≤ fuel` (the loop of `verStr` over the 16 version bytes);
  * `hlen : w.rd.avail.length < 2^63` — the reader delivers fewer than 2^63 bytes before it ends.  OUTSIDE it the Go code
    computes `n += nbody` in int64 and would wrap, the model's count is an unbounded natural; such a stream cannot exist
    (it would have to be read into a `bytes.Buffer` in memory).  The domain of C06/C07 (`|body| < 2^63`, streams that are
    prefixes of frames) is inside it except for bodies of 2^63-32 … 2^63-1 bytes, which are not realisable either.
-/
namespace Low
open Low.C06L Low.Tie5 GoSem5

namespace Tie5
/-- Go results and final world of `Unmarshal`, written with the model's `pbUnmarshal` -/
def embedU (w : World) : (Int × List Nat × Err) × World :=
  let m := pbUnmarshal w.rd
  match m.err with
  | some e => (((m.n : Nat), m.ver, .wrapped (errOf e) w.stacks), { w with rd := m.rest, stacks := w.stacks + 1 })
  | none =>
    (((m.n : Nat), m.ver, (wrapE { w with rd := m.rest, got := m.body } w.uErr).1),
     (wrapE { w with rd := m.rest, got := m.body } w.uErr).2)
end Tie5

private theorem errOf_eq_eof (e : PbErr) : (errOf e = Err.var "io.EOF") ↔ e = .eof := by
  cases e <;> simp [errOf]

/-- `Option.bind_some` as a lemma that is NOT closed by `rfl`: `simp` applies the library lemma without a proof step, and the
    kernel then has to evaluate the whole remaining computation when it checks the result (deep recursion) -/
private theorem bind_some' {α β : Type} (a : α) (f : α → Option β) : Option.bind (some a) f = f a := by
  cases h : f a <;> simp [h]

private theorem toI64_32 : GoSem.toI64 (32 : Int) = 32 := by decide

private theorem addI64_small (a b : Nat) (h : a + b < 2^63) : GoSem.addI64 (a : Int) (b : Int) = ((a + b : Nat) : Int) :=
  wrap64_ofNat (n := (a + b)) h

namespace Tie5
/-- `Unmarshal` after a successful `ReadHeader` that left the world `w1`, in terms of the three getters' answers -/
def tailU (w1 : World) (ver : List Nat) (hsz bsz : Int) : (Int × List Nat × Err) × World :=
  if hsz ≠ 32 then ((32, ver, .wrapped (errOf .invalidHeaderSize) w1.stacks), { w1 with stacks := w1.stacks + 1 })
  else if bsz < 0 then ((32, ver, .wrapped (errOf .invalidBodySize) w1.stacks), { w1 with stacks := w1.stacks + 1 })
  else match readFull w1.rd bsz.toNat with
    | (b, some e, r'') => ((((32 + b.length : Nat) : Int), ver, .wrapped (errOf e) w1.stacks), { w1 with rd := r'', stacks := w1.stacks + 1 })
    | (b, none, r'') =>
      ((((32 + b.length : Nat) : Int), ver, (wrapE { w1 with rd := r'', got := some b } w1.uErr).1),
       (wrapE { w1 with rd := r'', got := some b } w1.uErr).2)
end Tie5

private theorem U_of_header (w w1 : World) (r msg : Obj) (fuel : Nat) (v : List Nat) (hs bs : Nat)
    (hRH : Gen.Ssa5.pbcmpl_ReadHeader X r 32 w = some ((32, some (v, hs, bs), Err.nil), w1))
    (hsz bsz : Int) (hhs : Gen.Ssa5.pbcmpl_headerInfo_GetHeaderSize (v, hs, bs) = hsz)
    (hbs : Gen.Ssa5.pbcmpl_headerInfo_GetBodySize (v, hs, bs) = bsz)
    (hv : v.length ≤ 16) (hfuel : 17 ≤ fuel) (hlen : w1.rd.avail.length + 32 < 2^63) :
    Gen.Ssa5.pbcmpl_Unmarshal fuel X r msg 32 w = some (tailU w1 (verStr v) hsz bsz) := by
  unfold Gen.Ssa5.pbcmpl_Unmarshal
  rw [hRH]
  have hgv := Tie_pbcmpl_headerInfo_GetVersion v hs bs fuel (by omega) (by omega)
  simp only [bind_some', hgv, toI64_32, hhs, hbs]
  unfold tailU
  have hnil : decide (Err.nil ≠ Err.nil) = false := by decide
  by_cases h1 : hsz ≠ 32
  · simp [h1, X, wrapE, errOf]
  · have h1' : hsz = 32 := by omega
    subst h1'
    by_cases h2 : bsz < 0
    · simp [h2, X, wrapE, errOf]
    · obtain ⟨k, rfl⟩ := Int.eq_ofNat_of_zero_le (show 0 ≤ bsz by omega)
      simp only [h2, ne_eq, not_true_eq_false, decide_false, Bool.false_eq_true, if_false, X, Int.toNat_natCast]
      by_cases h3 : k ≤ w1.rd.avail.length
      · have hrf : readFull w1.rd k =
            (w1.rd.avail.take k, none, ⟨w1.rd.avail.drop k, w1.rd.endErr⟩) := by
          rcases readFull_cases w1.rd k with ⟨h, _⟩ | ⟨e, h, hlt⟩
          · exact h
          · omega
        have hadd : GoSem.addI64 32 ((k : Nat) : Int) = ((32 + k : Nat) : Int) :=
          addI64_small 32 _ (by omega)
        simp [h3, hrf, hadd, List.length_take, Nat.min_eq_left h3]
      · have hlt : w1.rd.avail.length < k := by omega
        have hrf : readFull w1.rd k = _ := readFull_short w1.rd.avail w1.rd.endErr k hlt
        have hadd : GoSem.addI64 32 ((w1.rd.avail.length : Nat) : Int) = ((32 + w1.rd.avail.length : Nat) : Int) :=
          addI64_small 32 _ (by omega)
        have hne := errOf_ne_nil w1.rd.endErr
        by_cases he : w1.rd.endErr = .eof
        · by_cases h0 : w1.rd.avail.length = 0
          · have hk0 : k ≠ 0 := by omega
            have ha0 : w1.rd.avail = [] := List.eq_nil_of_length_eq_zero h0
            have hadd0 : GoSem.addI64 32 0 = 32 := by simpa using addI64_small 32 0 (by omega)
            simp [hrf, he, ha0, hk0, errOf, wrapE, hadd0]
          · simp [h3, hrf, hadd, he, h0, errOf, wrapE]
        · have he' : ¬ (errOf w1.rd.endErr = Err.var "io.EOF") := fun h => he ((errOf_eq_eof _).1 h)
          simp [h3, hrf, hadd, he, he', hne, wrapE]

/-- the complete-header case for an ABSTRACT decoded header `hi` (so that neither the elaborator nor the kernel ever
    unfolds the field decoders `wrap64 (unle …)`) -/
private theorem main_core (w : World) (r msg : Obj) (fuel : Nat) (v : List Nat) (A B : Nat) (hi : PbHeaderInfo) (r1 : PbReader)
    (hRH : Gen.Ssa5.pbcmpl_ReadHeader X r 32 w = some ((32, some (v, A, B), Err.nil), { w with rd := r1 }))
    (hver : hi.ver = verStr v) (hhs : hi.headerSize = wrap64 (A : Int)) (hbs : hi.bodySize = wrap64 (B : Int))
    (hh : pbReadHeader w.rd = (32, some hi, none, r1))
    (hv : v.length ≤ 16) (hfuel : 17 ≤ fuel) (hlen : r1.avail.length + 32 < 2^63) :
    Gen.Ssa5.pbcmpl_Unmarshal fuel X r msg 32 w = some (embedU w) := by
  have hhs' : Gen.Ssa5.pbcmpl_headerInfo_GetHeaderSize (v, A, B) = hi.headerSize := by
    rw [hhs]; exact Tie_pbcmpl_headerInfo_GetHeaderSize _ _ _
  have hbs' : Gen.Ssa5.pbcmpl_headerInfo_GetBodySize (v, A, B) = hi.bodySize := by
    rw [hbs]; exact Tie_pbcmpl_headerInfo_GetBodySize _ _ _
  rw [U_of_header w _ r msg fuel v A B hRH hi.headerSize hi.bodySize hhs' hbs' hv hfuel hlen]
  have hm := pbUnmarshal_of_header _ _ _ _ hh
  unfold embedU
  rw [hm, ← hver]
  unfold tailU
  generalize hi.headerSize = hsz
  generalize hi.bodySize = bsz
  by_cases h1 : hsz ≠ 32
  · simp [h1]
  · by_cases h2 : bsz < 0
    · simp [h1, h2]
    · simp only [h1, h2, if_false]
      rcases hq : readFull r1 bsz.toNat with ⟨b, e, r''⟩
      cases e <;> simp

theorem Tie_pbcmpl_Unmarshal (w : World) (r msg : Obj) (fuel : Nat) (hfuel : 17 ≤ fuel)
    (hlen : w.rd.avail.length < 2^63) :
    Gen.Ssa5.pbcmpl_Unmarshal fuel X r msg 32 w = some (embedU w) := by
  rcases readFull_cases w.rd 32 with ⟨h, hle⟩ | ⟨err, h, hlt⟩
  · -- a complete header
    have hl : (List.take 32 w.rd.avail).length = 32 := by simp [List.length_take]; omega
    have hrest : (List.drop 32 w.rd.avail).length + 32 = w.rd.avail.length := by simp [List.length_drop]; omega
    have hsplit : w.rd = ⟨List.take 32 w.rd.avail ++ List.drop 32 w.rd.avail, w.rd.endErr⟩ := by
      rw [List.take_append_drop]
    have hRH := Tie_pbcmpl_ReadHeader_raw w r
    have hE : embedRH w = ((32, some (hdrOf (List.take 32 w.rd.avail)), Err.nil),
        { w with rd := ⟨List.drop 32 w.rd.avail, w.rd.endErr⟩ }) := by
      unfold embedRH; rw [h]
    rw [hE] at hRH
    have hh := pbReadHeader_hdr (List.take 32 w.rd.avail) (List.drop 32 w.rd.avail) w.rd.endErr hl
    rw [← hsplit] at hh
    have hv : (List.take 16 (List.take 32 w.rd.avail)).length ≤ 16 := by simp [List.length_take]; omega
    generalize List.take 32 w.rd.avail = hdr at *
    have h1 : (hdrInfo hdr).ver = verStr (List.take 16 hdr) := by unfold hdrInfo; simp only []
    have h2 : (hdrInfo hdr).headerSize = wrap64 ((unle (List.take 8 (List.drop 16 hdr)) : Nat) : Int) := by
      unfold hdrInfo; simp only []
    have h3 : (hdrInfo hdr).bodySize = wrap64 ((unle (List.take 8 (List.drop 24 hdr)) : Nat) : Int) := by
      unfold hdrInfo; simp only []
    generalize hdrInfo hdr = hi at *
    exact main_core w r msg fuel _ _ _ hi ⟨List.drop 32 w.rd.avail, w.rd.endErr⟩ hRH h1 h2 h3
      hh hv hfuel (by simp only []; omega)
  · -- a short header
    unfold Gen.Ssa5.pbcmpl_Unmarshal
    rw [Tie_pbcmpl_ReadHeader_raw]
    simp only [bind_some']
    unfold embedRH embedU pbUnmarshal pbReadHeader
    rw [h]
    simp

/-! non-vacuity: a whole frame and something after it; a truncated body; a corrupt header size; body size 2^63 -/
example : Gen.Ssa5.pbcmpl_Unmarshal 17 X theReader theMsg 32
      (ofReader ⟨List.replicate 16 65 ++ le64 32 ++ le64 2 ++ [7, 8, 9], .eof⟩) =
    some ((34, List.replicate 16 65, Err.nil), { ofReader ⟨[9], .eof⟩ with got := some [7, 8] }) := by decide +kernel
example : (Gen.Ssa5.pbcmpl_Unmarshal 17 X theReader theMsg 32
      (ofReader ⟨[49, 46, 48] ++ List.replicate 13 0 ++ le64 32 ++ le64 5 ++ [7, 8], .eof⟩)).map (fun x => x.1) =
    some (34, [49, 46, 48], .wrapped (.var "io.ErrUnexpectedEOF") 0) := by decide +kernel
example : (Gen.Ssa5.pbcmpl_Unmarshal 17 X theReader theMsg 32
      (ofReader ⟨List.replicate 16 0 ++ le64 (2^32 + 32) ++ le64 0, .eof⟩)).map (fun x => x.1) =
    some (32, [], .wrapped (.var "pbcmpl.ErrInvalidHeaderSize") 0) := by decide +kernel
example : (Gen.Ssa5.pbcmpl_Unmarshal 17 X theReader theMsg 32
      (ofReader ⟨List.replicate 16 0 ++ le64 32 ++ le64 (2^63) ++ [1], .eof⟩)).map (fun x => x.1) =
    some (32, [], .wrapped (.var "pbcmpl.ErrInvalidBodySize") 0) := by decide +kernel

end Low
