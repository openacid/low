import LowProofs.Lemmas.C06
import LowProofs.Tie5.Oracles
import Generated.Ssa5.pbcmpl_newHeader
/-
  Tie for `pbcmpl.newHeader(ver, bodysize)`: the definition regenerated from go/ssa returns the struct
  `header{Version: ver padded with NULs to 16 bytes, HeaderSize: fixedSize, BodySize: bodysize}` and panics for
  `len(ver) > 16` — i.e. marshalled with the header encoding of the oracles (`Tie5.hdrBytes`) it IS the model's `pbHeader`.
  `fixedSize` (the package variable, `binary.Size(&header{})`, assigned once at package initialisation) is an argument of
  the generated definition; the ties instantiate it with 32 — TRUSTED: `binary.Size` of `struct{[16]byte; uint64; uint64}`.
  No hypothesis on `ver` or `bodysize`.
-/
namespace Low
open Low.Tie5

/-- the struct `newHeader` builds: `copy(h.Version[:], ver)` into the zeroed 16-byte array, the two sizes -/
theorem Tie_pbcmpl_newHeader_struct (ver : List Nat) (bs : Nat) :
    Gen.Ssa5.pbcmpl_newHeader ver bs 32 =
      if ver.length > 16 then none else some (ver ++ List.replicate (16 - ver.length) 0, 32, bs) := by
  unfold Gen.Ssa5.pbcmpl_newHeader
  by_cases h : ver.length > 16
  · have : decide (GoSem.len ver > (16 : Int)) = true := by simp [GoSem.len]; omega
    simp [this, h]
  · have : decide (GoSem.len ver > (16 : Int)) = false := by simp [GoSem.len]; omega
    have h2 : GoSem.toU64 (32 : Int) = 32 := by decide
    simp only [this, h, Bool.false_eq_true, if_false, h2]
    simp only [GoSem3.copyInto, GoSem3.newArray, List.length_replicate, List.drop_replicate]
    rw [List.take_of_length_le (by omega)]

/-- `newHeader` marshalled = the model's `pbHeader` (both panic exactly for `len(ver) > 16`) -/
theorem Tie_pbcmpl_newHeader (ver : List Nat) (bs : Nat) :
    (Gen.Ssa5.pbcmpl_newHeader ver bs 32).map hdrBytes = pbHeader ver bs := by
  rw [Tie_pbcmpl_newHeader_struct]
  unfold pbHeader hdrBytes
  split <;> simp

example : Gen.Ssa5.pbcmpl_newHeader [49, 46, 48] 7 32 = some ([49, 46, 48, 0, 0, 0, 0, 0, 0, 0, 0, 0, 0, 0, 0, 0], 32, 7) := by decide +kernel
example : Gen.Ssa5.pbcmpl_newHeader (List.replicate 16 65) 0 32 = some (List.replicate 16 65, 32, 0) := by decide +kernel
example : Gen.Ssa5.pbcmpl_newHeader (List.replicate 17 65) 0 32 = none := by decide +kernel

end Low
