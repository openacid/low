import LowProofs.Tie5.pbcmpl_newHeader
import Generated.Ssa5.pbcmpl_marshal
/-
  Tie for the unexported `pbcmpl.marshal(msg, ver)`: with the model oracles (`proto.Marshal(msg)` answers `(body, mErr)`,
  `proto.Marshal(h)` is the 32-byte little-endian encoding of the header) the regenerated definition returns
  `(nil, nil, mErr)` when `proto.Marshal(msg)` failed, panics when `len(ver) > 16`, and otherwise returns the model's
  `pbHeader ver |body|` and `body`, with error nil; the world is unchanged.
  Hypothesis: `|body| < 2^64` (`uint64(len(data))`; a Go slice is far shorter).
-/
namespace Low
open Low.Tie5 GoSem5

theorem Tie_pbcmpl_marshal (w : World) (msg : Obj) (ver : List Nat) (hb : w.body.length < 2^64) :
    Gen.Ssa5.pbcmpl_marshal X msg ver 32 w =
      if w.mErr ≠ .nil then some (([], [], w.mErr), w)
      else (pbHeader ver w.body.length).map fun h => ((h, w.body, Err.nil), w) := by
  unfold Gen.Ssa5.pbcmpl_marshal
  have hu : GoSem.toU64 (GoSem.len w.body) = w.body.length := by
    unfold GoSem.toU64 GoSem.len u64 M64
    omega
  simp only [X, hu, Tie_pbcmpl_newHeader_struct]
  by_cases hm : w.mErr = .nil
  · by_cases hv : ver.length > 16
    · simp [hm, hv, pbHeader]
    · simp [hm, hv, pbHeader, hdrBytes]
  · simp [hm]

example : (Gen.Ssa5.pbcmpl_marshal X theMsg [49] 32 (ofWriter none [7, 8, 9] [])).map (fun x => x.1) =
    some ([49, 0, 0, 0, 0, 0, 0, 0, 0, 0, 0, 0, 0, 0, 0, 0, 32, 0, 0, 0, 0, 0, 0, 0, 3, 0, 0, 0, 0, 0, 0, 0], [7, 8, 9], .nil) := by
  decide +kernel

end Low
