import LowProofs.Lemmas.C06
import LowProofs.Tie5.Oracles
import Generated.Ssa5.pbcmpl_ReadHeader
/-
  Tie for `pbcmpl.ReadHeader(r)`: with the model oracles (`Tie5.X`: `io.ReadFull` = the model's `readFull`, `proto.Unmarshal`
  into the fresh header = little-endian decoding, `errors.WithStack` = a new wrapper around a non-nil error) and
  `fixedSize = 32`, the definition regenerated from go/ssa
    * never panics,
    * returns the count of bytes read, the reader advanced exactly as the model's `readFull` says,
    * on a short read: a nil `Header` and the (wrapped) error of `readFull`;
    * otherwise the header decoded from the 32 bytes, whose three getters report the model's `PbHeaderInfo`.
  `Tie_pbcmpl_ReadHeader_raw` is the exact equation (result and final world); `Tie_pbcmpl_ReadHeader` is its projection onto
  the model function `pbReadHeader`.  No hypothesis on the reader or the world.
-/
namespace Low
open Low.C06L Low.Tie5 GoSem5

namespace Tie5
/-- result and final world of `ReadHeader`, written with the model's `readFull` -/
def embedRH (w : World) : (Int × Option GoSem5.Header × Err) × World :=
  match readFull w.rd 32 with
  | (b, some e, r') => ((((b.length : Nat) : Int), none, .wrapped (errOf e) w.stacks), { w with rd := r', stacks := w.stacks + 1 })
  | (b, none, r') => ((32, some (hdrOf b), .nil), { w with rd := r' })

/-- the view of a `ReadHeader` result at the level of the model: count, what the getters report, error class, reader -/
def viewRH (res : (Int × Option GoSem5.Header × Err) × World) : Nat × Option PbHeaderInfo × Option PbErr × PbReader :=
  (res.1.1.toNat, res.1.2.1.map infoOf, classOf res.1.2.2, res.2.rd)
end Tie5

private theorem makeSlice32 : GoSem3.makeSlice (0 : Nat) (32 : Int) = some (List.replicate 32 0) := by decide

theorem Tie_pbcmpl_ReadHeader_raw (w : World) (r : Obj) :
    Gen.Ssa5.pbcmpl_ReadHeader X r 32 w = some (embedRH w) := by
  unfold Gen.Ssa5.pbcmpl_ReadHeader embedRH
  simp only [makeSlice32, Option.bind_some, X, List.length_replicate]
  rcases readFull_cases w.rd 32 with ⟨h, hle⟩ | ⟨err, h, hlt⟩
  · rw [h]
    have hl : (List.take 32 w.rd.avail).length = 32 := by simp [List.length_take]; omega
    have h32 : GoSem.toI64 (32 : Int) = 32 := by decide
    simp [hl, h32, hdrOf]
  · rw [h]
    have hne := errOf_ne_nil err
    have hw : GoSem.toI64 ((w.rd.avail.length : Nat) : Int) = ((w.rd.avail.length : Nat) : Int) :=
      wrap64_ofNat (by omega)
    simp [hne, hw, wrapE]

/-- generated `ReadHeader` = the model's `pbReadHeader` (count, header info as the getters report it, error class, reader) -/
theorem Tie_pbcmpl_ReadHeader (w : World) (r : Obj) :
    (Gen.Ssa5.pbcmpl_ReadHeader X r 32 w).map viewRH = some (pbReadHeader w.rd) := by
  rw [Tie_pbcmpl_ReadHeader_raw]
  unfold embedRH pbReadHeader viewRH
  rcases hq : readFull w.rd 32 with ⟨b, err, r'⟩
  cases err with
  | some e => simp [classOf_wrapped, classOf_errOf]
  | none =>
    rcases readFull_cases w.rd 32 with ⟨h, hle⟩ | ⟨err, h, hlt⟩
    · rw [hq] at h
      have hb : b = List.take 32 w.rd.avail := by simpa using congrArg Prod.fst h
      have hl : b.length = 32 := by rw [hb]; simp [List.length_take]; omega
      simp [infoOf, hdrOf, classOf_nil, hl]
    · rw [hq] at h; simp at h

/-! non-vacuity: a full header followed by two bytes; a 3-byte stream; an empty stream with an injected error -/
example : (Gen.Ssa5.pbcmpl_ReadHeader X theReader 32 (ofReader ⟨List.replicate 16 65 ++ le64 32 ++ le64 2 ++ [7, 8], .eof⟩)).map viewRH =
    some (32, some ⟨List.replicate 16 65, 32, 2⟩, none, ⟨[7, 8], .eof⟩) := by decide +kernel
example : (Gen.Ssa5.pbcmpl_ReadHeader X theReader 32 (ofReader ⟨[1, 2, 3], .eof⟩)).map viewRH =
    some (3, none, some .unexpectedEOF, ⟨[], .eof⟩) := by decide +kernel
example : (Gen.Ssa5.pbcmpl_ReadHeader X theReader 32 (ofReader ⟨[], .injected⟩)).map (fun res => res.1.2.2) =
    some (.wrapped (.other 0) 0) := by decide +kernel

end Low
