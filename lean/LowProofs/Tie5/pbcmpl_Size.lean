import LowProofs.Lemmas.C06
import LowProofs.Tie5.Oracles
import Generated.Ssa5.pbcmpl_Size
/-
  Tie for `pbcmpl.Size(msg)` = `HeaderSize(msg) + proto.Size(msg)`: with the model oracle `proto.Size(msg) = |body|`
  (TRUSTED protobuf contract `Size(m) = len(Marshal(m))`) it is `32 + |body|`, the length of the model's frame
  (`C06L.frame_length`); the world is unchanged.  Hypothesis: `32 + |body| < 2^63` (the sum is an `int`).
-/
namespace Low
open Low.C06L Low.Tie5 GoSem5

theorem Tie_pbcmpl_Size (w : World) (msg : Obj) (hb : 32 + w.body.length < 2^63) :
    Gen.Ssa5.pbcmpl_Size X msg 32 w = (((32 + w.body.length : Nat) : Int), w) := by
  unfold Gen.Ssa5.pbcmpl_Size Gen.Ssa5.pbcmpl_HeaderSize
  have : GoSem.addI64 32 ((w.body.length : Nat) : Int) = ((32 + w.body.length : Nat) : Int) :=
    wrap64_ofNat (n := (32 + w.body.length)) hb
  simp only [X, this]

/-- … which is the length of the frame `Marshal` writes -/
theorem Tie_pbcmpl_Size_frame (w : World) (msg : Obj) (ver frame : List Nat) (hf : pbFrame ver w.body = some frame)
    (hb : 32 + w.body.length < 2^63) :
    (Gen.Ssa5.pbcmpl_Size X msg 32 w).1 = ((frame.length : Nat) : Int) := by
  obtain ⟨hv, rfl⟩ := pbFrame_some hf
  rw [Tie_pbcmpl_Size w msg hb, frame_length ver w.body hv]

example : (Gen.Ssa5.pbcmpl_Size X theMsg 32 (ofWriter none [7, 8, 9] [])).1 = 35 := by decide +kernel

end Low
