import LowProofs.Tie5.pbcmpl_marshal
import Generated.Ssa5.pbcmpl_Marshal
/-
  Tie for `pbcmpl.Marshal(w, msg)`.  With the model oracles (`Tie5.X`) — `msg` is a `VersionedMessage` exactly when the
  world says so and `GetVersion()` answers its version, else the version is `DefaultVer = "1.0.0"`; `proto.Marshal(msg)`
  answers `body`; the writer answers its first two `Write` calls with `a1`, `a2` (ANY two answers: short, failing, failing
  after taking everything) — the definition regenerated from go/ssa equals the model's `pbMarshalScript a1 a2 ver body`:
  same count, an error exactly when the model says `failed` (the writer's own error value, unwrapped), the writer has
  taken exactly the model's bytes, and the body is not written after a failed header write (one call instead of two).
  Both sides panic exactly for `len(ver) > 16`.
  Hypotheses: `proto.Marshal(msg)` succeeds (`Tie_pbcmpl_Marshal_encErr` covers the other case: `(0, err)`, nothing written);
  `32 + |body| < 2^63` (the count `n + n2` is computed in `int`: a Go slice is far shorter).
  `Tie_pbcmpl_Marshal_cap` is the same against the capacity writer of the model's `pbMarshal`.
-/
namespace Low
open Low.C06L Low.Tie5 GoSem5

namespace Tie5
/-- the version `Marshal` uses: `GetVersion()` of a `VersionedMessage`, else `DefaultVer` "1.0.0" -/
def verOf (w : World) : List Nat := w.ver.getD [49, 46, 48, 46, 48]

/-- did the header write fail (then the body is not written) -/
def hdrFailed (a1 : WAns) : Bool := a1.fail || decide (min a1.accept 32 < 32)

/-- Go results and final world of `Marshal`, from the model's `pbMarshalScript` -/
def embedM (w : World) (a1 a2 : WAns) (rest : List WAns) : Option ((Int × Err) × World) :=
  (pbMarshalScript a1 a2 (verOf w) w.body).map fun m =>
    ((((m.1 : Nat) : Int), if m.2.1 then wErr else Err.nil),
     { w with wans := if hdrFailed a1 then a2 :: rest else rest, wrote := w.wrote ++ m.2.2,
              wcalls := w.wcalls + if hdrFailed a1 then 1 else 2 })
end Tie5

private theorem toI64_nat (n : Nat) (h : n < 2^63) : GoSem.toI64 ((n : Nat) : Int) = ((n : Nat) : Int) :=
  wrap64_ofNat (n := n) h

private theorem addI64_nat (a b : Nat) (h : a + b < 2^63) : GoSem.addI64 (a : Int) (b : Int) = ((a + b : Nat) : Int) :=
  wrap64_ofNat (n := (a + b)) h

/-- the part of `Marshal` after the version is known (block 2 of the SSA form), for any version -/
private theorem Marshal_core (w : World) (wr msg : Obj) (ver : List Nat) (a1 a2 : WAns) (rest : List WAns)
    (hw : w.wans = a1 :: a2 :: rest) (hm : w.mErr = .nil) (hb : 32 + w.body.length < 2^63) :
    (Option.bind (Gen.Ssa5.pbcmpl_marshal X msg ver 32 w) fun t5x =>
      if decide (t5x.1.2.2 ≠ Err.nil) = true then some (((0 : Int), t5x.1.2.2), t5x.2) else
      let t10x := X.write t5x.2 wr t5x.1.1
      if decide (t10x.1.2 ≠ Err.nil) = true then some ((GoSem.toI64 t10x.1.1, t10x.1.2), t10x.2) else
      let t15x := X.write t10x.2 wr t5x.1.2.1
      if decide (t15x.1.2 ≠ Err.nil) = true then some ((GoSem.toI64 (GoSem.addI64 t10x.1.1 t15x.1.1), t15x.1.2), t15x.2)
      else some ((GoSem.toI64 (GoSem.addI64 t10x.1.1 t15x.1.1), Err.nil), t15x.2)) =
    (pbMarshalScript a1 a2 ver w.body).map fun m =>
      ((((m.1 : Nat) : Int), if m.2.1 then wErr else Err.nil),
       { w with wans := if hdrFailed a1 then a2 :: rest else rest, wrote := w.wrote ++ m.2.2,
                wcalls := w.wcalls + if hdrFailed a1 then 1 else 2 }) := by
  rw [Tie_pbcmpl_marshal w msg ver (by omega)]
  simp only [hm, ne_eq, not_true_eq_false, if_false]
  unfold pbMarshalScript
  by_cases hv : ver.length ≤ 16
  · have hh := pbHeader_eq ver w.body.length hv
    have hl := pbHeader_length hh
    generalize pad16 ver ++ le64 32 ++ le64 w.body.length = hdr at hh hl
    simp only [hh, Option.map_some, Option.bind_some, X, writeAns, hw, hl]
    by_cases h1 : (a1.fail || decide (min a1.accept 32 < 32)) = true
    · have hn : min a1.accept 32 < 2^63 := by omega
      simp [h1, wErr, hdrFailed, toI64_nat _ hn, hm]
    · have h1' : min a1.accept 32 = 32 := by
        simp only [Bool.or_eq_true, decide_eq_true_eq, not_or, Nat.not_lt] at h1; omega
      have h1f : a1.fail = false := by
        simp only [Bool.or_eq_true, not_or] at h1; simpa using h1.1
      have hn : 32 + min a2.accept w.body.length < 2^63 := by omega
      have hadd : GoSem.toI64 (GoSem.addI64 32 ((min a2.accept w.body.length : Nat) : Int)) =
          ((32 + min a2.accept w.body.length : Nat) : Int) :=
        (congrArg GoSem.toI64 (addI64_nat 32 _ hn)).trans (toI64_nat _ hn)
      have htake : List.take 32 hdr = hdr := List.take_of_length_le (by omega)
      by_cases h2 : (a2.fail || decide (min a2.accept w.body.length < w.body.length)) = true
      · simp [h1', h1f, h2, hadd, wErr, hdrFailed, htake, hm]
      · simp [h1', h1f, h2, hadd, wErr, hdrFailed, htake, hm]
  · have hh : pbHeader ver w.body.length = none := by unfold pbHeader; simp; omega
    simp [hh]

theorem Tie_pbcmpl_Marshal (w : World) (wr msg : Obj) (a1 a2 : WAns) (rest : List WAns)
    (hw : w.wans = a1 :: a2 :: rest) (hm : w.mErr = .nil) (hb : 32 + w.body.length < 2^63) :
    Gen.Ssa5.pbcmpl_Marshal X wr msg 32 w = embedM w a1 a2 rest := by
  unfold Gen.Ssa5.pbcmpl_Marshal embedM verOf
  cases hver : w.ver with
  | none =>
    have := Marshal_core w wr msg [49, 46, 48, 46, 48] a1 a2 rest hw hm hb
    have hiv : X.isVersioned w msg = w.ver.isSome := rfl
    simp only [hiv, hver, Option.isSome_none, Bool.false_eq_true, if_false, Option.getD_none]
    simp only [hver] at this
    exact this
  | some v =>
    have := Marshal_core w wr msg v a1 a2 rest hw hm hb
    have hiv : X.isVersioned w msg = w.ver.isSome := rfl
    have hgv : X.getVersion w msg = (w.ver.getD [], w) := rfl
    simp only [hiv, hgv, hver, Option.isSome_some, if_true, Option.getD_some]
    simp only [hver] at this
    exact this

/-- `proto.Marshal(msg)` fails: `Marshal` returns `(0, that error)` and does not touch the writer. -/
theorem Tie_pbcmpl_Marshal_encErr (w : World) (wr msg : Obj) (hm : w.mErr ≠ .nil) (hb : w.body.length < 2^64) :
    Gen.Ssa5.pbcmpl_Marshal X wr msg 32 w = some ((0, w.mErr), w) := by
  unfold Gen.Ssa5.pbcmpl_Marshal
  have hiv : X.isVersioned w msg = w.ver.isSome := rfl
  have hgv : X.getVersion w msg = (w.ver.getD [], w) := rfl
  simp only [hiv, hgv, Tie_pbcmpl_marshal w msg _ hb, hm, ne_eq, not_false_eq_true, if_true, Option.bind_some, decide_true]
  split <;> rfl

/-- `Marshal` against a writer with `cap` bytes of room (the model's `pbMarshal`, both failure modes) -/
theorem Tie_pbcmpl_Marshal_cap (w : World) (wr msg : Obj) (m : Bool) (cap : Nat) (rest : List WAns)
    (hw : w.wans = capAns m cap 32 :: capAns m (cap - 32) w.body.length :: rest) (hm : w.mErr = .nil)
    (hb : 32 + w.body.length < 2^63) :
    (Gen.Ssa5.pbcmpl_Marshal X wr msg 32 w).map (fun res => (res.1.1, decide (res.1.2 ≠ Err.nil), res.2.wrote)) =
      (pbMarshal m cap (verOf w) w.body).map (fun r => (((r.1 : Nat) : Int), r.2.1, w.wrote ++ r.2.2)) := by
  rw [Tie_pbcmpl_Marshal w wr msg _ _ rest hw hm hb, pbMarshal_eq_script]
  unfold embedM
  cases pbMarshalScript (capAns m cap 32) (capAns m (cap - 32) w.body.length) (verOf w) w.body with
  | none => rfl
  | some r => rcases r with ⟨n, f, bs⟩ <;> simp [wErr]

/-! non-vacuity: a versioned message into a writer that takes everything; "1.0.0" by default; a header write that is
    taken in full AND fails; a short body write; a 17-byte version panics -/
example : Gen.Ssa5.pbcmpl_Marshal X theWriter theMsg 32 (ofWriter (some [50]) [7, 8, 9] [⟨32, false⟩, ⟨3, false⟩]) =
    some ((35, .nil), { ofWriter (some [50]) [7, 8, 9] [] with
      wrote := [50, 0, 0, 0, 0, 0, 0, 0, 0, 0, 0, 0, 0, 0, 0, 0, 32, 0, 0, 0, 0, 0, 0, 0, 3, 0, 0, 0, 0, 0, 0, 0, 7, 8, 9], wcalls := 2 }) := by
  decide +kernel
example : (Gen.Ssa5.pbcmpl_Marshal X theWriter theMsg 32 (ofWriter none [7] [⟨99, false⟩, ⟨99, false⟩])).map (fun x => (x.1, x.2.wrote.take 6)) =
    some ((33, .nil), [49, 46, 48, 46, 48, 0]) := by decide +kernel
example : (Gen.Ssa5.pbcmpl_Marshal X theWriter theMsg 32 (ofWriter none [7, 8, 9] [⟨32, true⟩, ⟨3, false⟩])).map (fun x => (x.1, x.2.wcalls, x.2.wrote.length)) =
    some ((32, wErr), 1, 32) := by decide +kernel
example : (Gen.Ssa5.pbcmpl_Marshal X theWriter theMsg 32 (ofWriter none [7, 8, 9] [⟨32, false⟩, ⟨2, false⟩])).map (fun x => (x.1, x.2.wcalls, x.2.wrote.length)) =
    some ((34, wErr), 2, 34) := by decide +kernel
example : Gen.Ssa5.pbcmpl_Marshal X theWriter theMsg 32 (ofWriter (some (List.replicate 17 65)) [] [⟨32, false⟩, ⟨0, false⟩]) = none := by
  decide +kernel

end Low
