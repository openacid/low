import LowModel.Pbcmpl
import LowModel.GoSem5
/-
  Generation 5 ties: the INSTANTIATION of the oracle record `GoSem5.Ext` with the semantics the hand-written model
  `LowModel/Pbcmpl.lean` gives to the world outside package pbcmpl.  Everything that is ASSUMED about the external
  functions is written here, field by field (the `io.ReadFull` / `io.CopyN` / `io.Writer` contracts, `encoding/binary` on
  the 32-byte header and `Size(m) = len(Marshal(m))` are DESIGN.md section 6 item 4; `proto.Marshal/Unmarshal` dispatching
  to the header's own methods and `errors.WithStack` are stated only here); the generated definitions contain none of it, and the vocabulary `GoSem5` neither.
  Two fields are not left as assumptions: `protoMarshalHeader` and `protoUnmarshalHeader` (the `encoding/binary` layout)
  are proved equal to the regenerated `(*header).Marshal` / `Unmarshal` in `LowProofs/Tie9/pbcmpl_header_*.lean`.

  The world `World` holds: the stream behind the reader handle (`PbReader`: bytes it will deliver, then its end error);
  the script of the writer (one `WAns` per `Write` call still to come), the bytes it has taken so far and the number
  of `Write` calls made (`wcalls`); what
  `proto.Marshal(msg)` answers (`body`, `mErr`); whether `msg` is a `VersionedMessage` and its version; the bytes
  `proto.Unmarshal(·, msg)` received and the error it answers (`uErr`); the number of stack-trace wrappers made so far (each `WithStack` of a non-nil
  error yields a NEW error value).  The handles themselves are ignored: one reader, one writer, one message.
-/
namespace Low.Tie5
open GoSem5

/-- the error VALUE that stands for a model error class -/
def errOf : PbErr → Err
  | .eof => .var "io.EOF"
  | .unexpectedEOF => .var "io.ErrUnexpectedEOF"
  | .invalidHeaderSize => .var "pbcmpl.ErrInvalidHeaderSize"
  | .invalidBodySize => .var "pbcmpl.ErrInvalidBodySize"
  | .injected => .other 0
  | .proto => .other 1

/-- `errors.Cause`: strip the stack-trace wrappers -/
def cause : Err → Err
  | .wrapped e _ => cause e
  | e => e

/-- the error value of the scripted writer -/
def wErr : Err := .other 2

structure World where
  rd : PbReader
  wans : List WAns
  wrote : List Nat
  wcalls : Nat
  body : List Nat
  mErr : Err
  ver : Option (List Nat)
  got : Option (List Nat)
  uErr : Err
  stacks : Nat
deriving Repr, DecidableEq

/-- the 32 header bytes `binary.Write(b, LittleEndian, h)` produces (what `proto.Marshal(h)` returns through the header's
    own `Marshal` method): the 16 version bytes, then HeaderSize and BodySize as little-endian uint64 -/
def hdrBytes (h : GoSem5.Header) : List Nat := h.1 ++ le64 h.2.1 ++ le64 h.2.2

/-- the header `binary.Read(bytes.NewReader(b), LittleEndian, h)` decodes from 32 bytes (what `proto.Unmarshal(b, h)`
    does through the header's own `Unmarshal` method) -/
def hdrOf (b : List Nat) : GoSem5.Header := (b.take 16, unle ((b.drop 16).take 8), unle ((b.drop 24).take 8))

/-- `errors.WithStack`: nil stays nil; otherwise a NEW non-nil error value whose cause is the argument's -/
def wrapE (w : World) (e : Err) : Err × World :=
  if e = .nil then (.nil, w) else (.wrapped e w.stacks, { w with stacks := w.stacks + 1 })

/-- one `Write(p)` against the script: the writer takes `min accept |p|` bytes and reports an error when told to or when
    it took fewer (io.Writer contract); an exhausted script accepts everything -/
def writeAns (w : World) (p : List Nat) : (Int × Err) × World :=
  match w.wans with
  | [] => (((p.length : Nat), .nil), { w with wrote := w.wrote ++ p, wcalls := w.wcalls + 1 })
  | a :: rest =>
    (((min a.accept p.length : Nat), if a.fail || decide (min a.accept p.length < p.length) then wErr else .nil),
     { w with wans := rest, wrote := w.wrote ++ p.take (min a.accept p.length), wcalls := w.wcalls + 1 })

/-- THE MODEL ORACLES. -/
def X : Ext World where
  /- `proto.Marshal(msg)`: the encoding `body` of the caller's message (or the error the world prescribes) -/
  protoMarshal w _ := ((w.body, w.mErr), w)
  /- `proto.Marshal(h)` = `h.Marshal()` = `binary.Write` of the fixed-size struct: 32 bytes, never an error -/
  protoMarshalHeader w h := ((hdrBytes h, .nil), w)
  /- `proto.Unmarshal(b, msg)`: the message receives `b` -/
  protoUnmarshal w b _ := (w.uErr, { w with got := some b })
  /- `proto.Unmarshal(b, h)` = `h.Unmarshal(b)` = `binary.Read` of the fixed-size struct -/
  protoUnmarshalHeader w b _ := ((hdrOf b, .nil), w)
  /- `proto.Size(msg) = len(proto.Marshal(msg))` -/
  protoSize w _ := ((w.body.length : Nat), w)
  /- `io.ReadFull(r, buf)`: the model's `readFull` for `len buf` bytes; the bytes read overwrite the front of `buf` -/
  ioReadFull w _ buf :=
    let r := readFull w.rd buf.length
    ((r.1 ++ buf.drop r.1.length, ((r.1.length : Nat), match r.2.1 with | none => Err.nil | some e => errOf e)),
     { w with rd := r.2.2 })
  /- `io.CopyN(b, r, n)`: `n` bytes are appended to the buffer and the error is nil; if the reader ends first, all it had
     and ITS end error — `io.EOF` also when some bytes were copied (`io.CopyN` does not know `ErrUnexpectedEOF`) -/
  ioCopyNBuffer w dst _ n :=
    if n.toNat ≤ w.rd.avail.length then
      ((dst ++ w.rd.avail.take n.toNat, ((n.toNat : Nat), Err.nil)), { w with rd := { w.rd with avail := w.rd.avail.drop n.toNat } })
    else
      ((dst ++ w.rd.avail, ((w.rd.avail.length : Nat), errOf w.rd.endErr)), { w with rd := { w.rd with avail := [] } })
  write w _ p := writeAns w p
  withStack w e := wrapE w e
  isVersioned w _ := w.ver.isSome
  getVersion w _ := (w.ver.getD [], w)

/-- what the three getters of `*headerInfo` report for a header (ties `Tie_pbcmpl_headerInfo_Get*`) -/
def infoOf (h : GoSem5.Header) : PbHeaderInfo := ⟨verStr h.1, wrap64 (h.2.1 : Int), wrap64 (h.2.2 : Int)⟩

/-- the model's error class of an error value: by its cause (`none` = nil) -/
def classOf (e : Err) : Option PbErr :=
  match cause e with
  | .nil => none
  | .var "io.EOF" => some .eof
  | .var "io.ErrUnexpectedEOF" => some .unexpectedEOF
  | .var "pbcmpl.ErrInvalidHeaderSize" => some .invalidHeaderSize
  | .var "pbcmpl.ErrInvalidBodySize" => some .invalidBodySize
  | .other 0 => some .injected
  | _ => some .proto

theorem errOf_ne_nil (e : PbErr) : errOf e ≠ Err.nil := by cases e <;> simp [errOf]
theorem classOf_errOf (e : PbErr) : classOf (errOf e) = some e := by cases e <;> rfl
theorem classOf_wrapped (e : Err) (k : Nat) : classOf (.wrapped e k) = classOf e := by
  simp only [classOf, cause]
theorem classOf_nil : classOf .nil = none := rfl

/-- a world around a reader (for the Unmarshal side) -/
def ofReader (r : PbReader) : World :=
  { rd := r, wans := [], wrote := [], wcalls := 0, body := [], mErr := .nil, ver := none, got := none, uErr := .nil, stacks := 0 }

/-- a world around a message and a writer script (for the Marshal side) -/
def ofWriter (ver : Option (List Nat)) (body : List Nat) (script : List WAns) : World :=
  { rd := ⟨[], .eof⟩, wans := script, wrote := [], wcalls := 0, body := body, mErr := .nil, ver := ver, got := none, uErr := .nil, stacks := 0 }

def theReader : Obj := ⟨1⟩
def theWriter : Obj := ⟨2⟩
def theMsg : Obj := ⟨3⟩

end Low.Tie5
