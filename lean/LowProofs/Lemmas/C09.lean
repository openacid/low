import LowProofs.Lemmas.C09Lex
/- C09 helpers: the shape of a bitstr encoding (`IsEnc`) and what `New` produces -/
namespace Low.C09L
open Low.C08L

/-- `enc` encodes the bit string `B`: payload bytes whose bits are `B` followed by `k < 8` zero bits,
    then the mask byte `0xff << k` -/
def IsEnc (B : List Bool) (enc : List Nat) : Prop :=
  ∃ body k, enc = body ++ [256 - 2 ^ k] ∧ BytesOK body ∧ k < 8 ∧ bitsBE body = B ++ zeroBits k

theorem split_at {α} (l : List α) (i : Nat) (h : i < l.length) :
    ∃ pre y post, l = pre ++ y :: post ∧ pre.length = i :=
  ⟨l.take i, l[i], l.drop (i + 1), by rw [← List.drop_eq_getElem_cons h, List.take_append_drop],
    by simp; omega⟩

theorem new_isEnc (s : List Nat) (hs : BytesOK s) (f t : Nat) (hft : f ≤ t) (ht : t ≤ 8 * s.length) :
    ∃ enc, bsNew s f t = some enc ∧ IsEnc (bsPayload s f t) enc := by
  by_cases h0 : f = t ∧ f % 8 = 0
  · refine ⟨[0xff], by rw [bsNew, if_pos h0], [], 0, by simp, by simp [BytesOK], by decide, ?_⟩
    have : t - 8 * (f / 8) = 0 := by omega
    simp [bsPayload, this, bitsBE]
  · -- name the byte and bit offsets once: `f = 8F + o`, `t + k = 8T`; below, all arithmetic is linear
    obtain ⟨F, o, ho, rfl⟩ : ∃ F o, o < 8 ∧ f = 8 * F + o :=
      ⟨f / 8, f % 8, Nat.mod_lt _ (by decide), (Nat.div_add_mod f 8).symm⟩
    obtain ⟨T, k, hk, htk, eT, ek⟩ : ∃ T k, k < 8 ∧ t + k = 8 * T ∧ (t + 7) / 8 = T ∧ (8 - t % 8) % 8 = k :=
      ⟨(t + 7) / 8, (8 - t % 8) % 8, Nat.mod_lt _ (by decide), by omega, rfl, rfl⟩
    have eF : (8 * F + o) / 8 = F := by omega
    have eo : (8 * F + o) % 8 = o := by omega
    rw [eo] at h0
    simp only [bsNew, bsPayload, eF, eo, eT, ek]
    clear eF eo eT ek
    obtain ⟨l1, rfl⟩ : ∃ l1, T = F + l1 + 1 := ⟨T - F - 1, by omega⟩
    have el : F + l1 + 1 - F = l1 + 1 := by rw [Nat.add_assoc, Nat.add_sub_cancel_left]
    obtain ⟨pre, y, post, hsplit, hpre⟩ := split_at (s.drop F) l1 (by rw [List.length_drop]; omega)
    have hmem : ∀ z ∈ pre ++ y :: post, z < 256 := by
      intro z hz; rw [← hsplit] at hz; exact hs z (List.mem_of_mem_drop hz)
    have hy : y < 256 := hmem y (by simp)
    refine ⟨pre ++ [y &&& (256 - 2 ^ k), 256 - 2 ^ k], ?_, pre ++ [y &&& (256 - 2 ^ k)], k, by simp, ?_, hk, ?_⟩
    · have c1 : ¬ (F + l1 + 1 > s.length ∨ F > F + l1 + 1) := by omega
      simp only [h0, if_false, c1, el, hsplit, (mask_table k hk).1]
      simp [List.take_append, hpre, List.take_of_length_le (show pre.length ≤ l1 + 1 from hpre ▸ Nat.le_succ _)]
    · intro z hz
      rcases List.mem_append.mp hz with h | h
      · exact hmem z (by simp [h])
      · simp at h; subst h; exact Nat.lt_of_le_of_lt Nat.and_le_left hy
    · have hL : t - 8 * F = 8 * l1 + (8 - k) := by omega
      have hP : ((bitsBE s).drop (8 * F)).take (t - 8 * F) = bitsBE pre ++ (byteBits y).take (8 - k) := by
        rw [bitsBE_drop, hsplit, hL, bitsBE_append, bitsBE_cons,
          List.take_append, length_bitsBE, hpre, List.take_of_length_le (by rw [length_bitsBE, hpre]; exact Nat.le_add_right _ _),
          Nat.add_sub_cancel_left,
          List.take_append_of_le_length (by simp)]
      have h1 : bitsBE [y &&& (256 - 2 ^ k)] = (byteBits y).take (8 - k) ++ zeroBits k := by
        rw [← and_mask k hk y]; simp [bitsBE]
      rw [hP, bitsBE_append, h1, List.append_assoc]

theorem isEnc_bits_len {B : List Bool} {body : List Nat} {k : Nat} (h : bitsBE body = B ++ zeroBits k) :
    8 * body.length = B.length + k := by
  have := congrArg List.length h
  simpa [length_bitsBE] using this

theorem isEnc_ok {B : List Bool} {enc : List Nat} (h : IsEnc B enc) : BytesOK enc := by
  obtain ⟨body, k, rfl, hb, hk, -⟩ := h
  intro z hz
  rcases List.mem_append.mp hz with h | h
  · exact hb z h
  · simp at h; subst h
    have := Nat.two_pow_pos k; omega

theorem isEnc_len {B : List Bool} {enc : List Nat} (h : IsEnc B enc) : bsLen enc = some (B.length : Int) := by
  obtain ⟨body, k, rfl, hb, hk, hbits⟩ := h
  have hl := isEnc_bits_len hbits
  obtain ⟨-, hp, -⟩ := mask_table k hk
  simp only [bsLen, List.getLast?_concat, hp, List.length_append, List.length_singleton]
  congr 1; omega

theorem isEnc_take {B : List Bool} {enc : List Nat} (h : IsEnc B enc) : (bitsBE enc).take B.length = B := by
  obtain ⟨body, k, rfl, hb, hk, hbits⟩ := h
  rw [bitsBE_append, hbits, List.append_assoc, List.take_left' rfl]

theorem bitsBE_enc {B : List Bool} {body : List Nat} {k : Nat} (hk : k < 8) (h : bitsBE body = B ++ zeroBits k) :
    bitsBE (body ++ [256 - 2 ^ k]) = B ++ pad k := by
  obtain ⟨-, -, hm⟩ := mask_table k hk
  rw [bitsBE_append, h, List.append_assoc]
  simp [bitsBE, hm]

theorem isEnc_cmp {B B' : List Bool} {e e' : List Nat} (h : IsEnc B e) (h' : IsEnc B' e') :
    bsCmp e e' = some (lexCmp B B') := by
  have hok := isEnc_ok h
  have hok' := isEnc_ok h'
  obtain ⟨body, k, rfl, hb, hk, hbits⟩ := h
  obtain ⟨body', k', rfl, hb', hk', hbits'⟩ := h'
  have hl := isEnc_bits_len hbits
  have hl' := isEnc_bits_len hbits'
  by_cases heq : body.length = body'.length
  · have : (body ++ [256 - 2 ^ k]).length = (body' ++ [256 - 2 ^ k']).length := by simp [heq]
    rw [bsCmp, if_pos this, bytesCompare_eq _ _ hok hok', bitsBE_enc hk hbits, bitsBE_enc hk' hbits',
      lexCmp_pad B B' k k' (by omega) (by omega) (by omega)]
  · have hne : ¬ (body ++ [256 - 2 ^ k]).length = (body' ++ [256 - 2 ^ k']).length := by simp [heq]
    have hz : ¬ ((body ++ [256 - 2 ^ k]).length = 0 ∨ (body' ++ [256 - 2 ^ k']).length = 0) := by simp
    rw [bsCmp, if_neg hne, if_neg hz]
    simp only [List.length_append, List.length_singleton, Nat.add_sub_cancel, List.take_left' rfl]
    rw [bytesCompare_eq _ _ hb hb', hbits, hbits']
    congr 1
    by_cases hlt : body.length < body'.length
    · exact lexCmp_pad_short B B' k _ (by omega)
    · rw [lexCmp_swap, lexCmp_pad_short B' B k' _ (by omega), ← lexCmp_swap]

theorem cmpBytesShort_eq : ∀ (a b : List Nat), a.length ≤ b.length → cmpBytesShort a b = some (bytesCompare a b)
  | [], [], _ => rfl
  | [], _ :: _, _ => rfl
  | x :: a, y :: b, h => by
    have ih := cmpBytesShort_eq a b (by simpa using h)
    simp only [cmpBytesShort, bytesCompare, ih]
    split
    · rfl
    · split <;> rfl

theorem cmpBytes_eq (a b : List Nat) (h : a.length ≤ b.length) : cmpBytes a b = some (bytesCompare a b) := by
  rw [cmpBytes]; split
  · exact cmpBytesShort_eq a b h
  · rfl

theorem isEnc_cmpUpto {B : List Bool} {e : List Nat} (a : List Nat) (ha : BytesOK a) (h : IsEnc B e) :
    bsCmpUpto a e = some (lexCmp ((bitsBE a).take B.length) B) := by
  obtain ⟨body, k, rfl, hb, hk, hbits⟩ := h
  have hl := isEnc_bits_len hbits
  rcases List.eq_nil_or_concat body with rfl | ⟨bpre, y, rfl⟩
  · -- the empty bit string
    have hB : B = [] := by
      have : B.length = 0 := by simp at hl; omega
      exact List.eq_nil_of_length_eq_zero this
    subst hB
    simp [bsCmpUpto, lexCmp]
  · rw [List.concat_eq_append] at hb hbits hl ⊢
    have hlen : (bpre ++ [y] ++ [256 - 2 ^ k]).length = bpre.length + 2 := by simp
    have hy : y < 256 := hb y (by simp)
    have hbpre : BytesOK bpre := fun z hz => hb z (by simp [hz])
    simp only [List.length_append, List.length_singleton] at hl
    -- the bit string is the bits of `bpre` and the first `8-k` bits of `y`; the rest of `y` is zero
    have hsplitB : B = bitsBE bpre ++ (byteBits y).take (8 - k) ∧ zeroBits k = (byteBits y).drop (8 - k) := by
      have e1 : bitsBE (bpre ++ [y]) =
          (bitsBE bpre ++ (byteBits y).take (8 - k)) ++ (byteBits y).drop (8 - k) := by
        rw [bitsBE_append, List.append_assoc, List.take_append_drop]; simp [bitsBE]
      rw [e1] at hbits
      have := List.append_inj hbits.symm (by simp [length_bitsBE]; omega)
      exact this
    obtain ⟨hB, hz⟩ := hsplitB
    have hyb : byteBits y = (byteBits y).take (8 - k) ++ zeroBits k := by
      rw [hz, List.take_append_drop]
    simp only [bsCmpUpto, hlen]
    rw [if_neg (by simp), if_neg (by simp)]
    simp only [show bpre.length + 2 - 1 = bpre.length + 1 from rfl,
      show bpre.length + 2 - 2 = bpre.length from rfl, show bpre.length + 1 - 1 = bpre.length from rfl]
    by_cases hla : a.length < bpre.length + 1
    · -- `a` is shorter than the payload: plain comparison
      rw [if_pos hla]
      have ht : (bpre ++ [y] ++ [256 - 2 ^ k]).take (bpre.length + 1) = bpre ++ [y] :=
        List.take_left' (by simp)
      rw [ht, cmpBytes_eq _ _ (by rw [List.length_append]; exact Nat.le_of_lt hla), bytesCompare_eq _ _ ha hb, hbits,
        List.take_of_length_le (by rw [length_bitsBE]; omega),
        lexCmp_prefix_short _ _ _ (by rw [length_bitsBE]; omega)]
    · rw [if_neg hla]
      obtain ⟨apre, x, apost, rfl, hapre⟩ := split_at a bpre.length (by omega)
      have hx : x < 256 := ha x (by simp)
      have hapreOK : BytesOK apre := fun z hz => ha z (by simp [hz])
      have t1 : (apre ++ x :: apost).take bpre.length = apre := List.take_left' hapre
      have t2 : (bpre ++ [y] ++ [256 - 2 ^ k]).take bpre.length = bpre := by
        rw [List.append_assoc]; exact List.take_left' rfl
      have g1 : (apre ++ x :: apost)[bpre.length]? = some x := by
        rw [List.getElem?_append_right (Nat.le_of_eq hapre), hapre, Nat.sub_self]; rfl
      have g2 : (bpre ++ [y] ++ [256 - 2 ^ k])[bpre.length + 1]? = some (256 - 2 ^ k) := by
        rw [List.getElem?_append_right (by simp)]; simp
      have g3 : (bpre ++ [y] ++ [256 - 2 ^ k])[bpre.length]? = some y := by
        rw [List.append_assoc, List.getElem?_append_right (Nat.le_refl _), Nat.sub_self]; rfl
      rw [t1, t2, cmpBytes_eq _ _ (Nat.le_of_eq hapre), bytesCompare_eq _ _ hapreOK hbpre]
      simp only [g1, g2, g3]
      have hA : (bitsBE (apre ++ x :: apost)).take B.length = bitsBE apre ++ (byteBits x).take (8 - k) := by
        rw [bitsBE_append, bitsBE_cons, List.take_append, length_bitsBE,
          List.take_of_length_le (by rw [length_bitsBE]; omega),
          show B.length - 8 * apre.length = 8 - k by omega, List.take_append_of_le_length (by simp)]
      rw [hA, hB, lexCmp_append _ _ _ _ (by rw [length_bitsBE, length_bitsBE, hapre])]
      by_cases hr : lexCmp (bitsBE apre) (bitsBE bpre) ≠ 0
      · simp only [hr, ne_eq, not_false_eq_true, if_true]
      · simp only [hr, if_false]
        have hxm := and_mask k hk x
        have hand : x &&& (256 - 2 ^ k) < 256 := Nat.lt_of_le_of_lt Nat.and_le_left hx
        have hc := lexCmp_byteBits hand hy
        rw [hxm, hyb, lexCmp_append_same _ (by simp)] at hc
        rw [hc]
        by_cases c1 : x &&& (256 - 2 ^ k) < y
        · simp [c1, Nat.lt_asymm c1]
        · simp only [c1, if_false]; split <;> rfl

end Low.C09L
