import LowProofs.Lemmas.C03Loop
import LowProofs.Lemmas.Wrap
/- C03 helpers, part 4: the three code paths of `pathToIndexCore` evaluated on `encPath h n` -/
namespace Low.C03L

/-- full tree: `Σ_{k ∈ b} (2^(k+1) - 1) + popcount b = 2 b` -/
theorem S_full (b h : Nat) : S (2^(h+1) - 1) b h + popc b (h+1) = 2 * (b % 2^(h+1)) := by
  unfold S
  rw [← sumBits_one, ← sumBits_add, ← sumBits_pow, ← sumBits_mul]
  apply sumBits_congr
  intro k hk
  have : (2^(h+1) - 1) >>> (h - k) = 2^(k+1) - 1 := by
    apply Nat.eq_of_testBit_eq; intro i
    rw [Nat.testBit_shiftRight, Nat.testBit_two_pow_sub_one, Nat.testBit_two_pow_sub_one]
    congr 1; apply propext; omega
  have := Nat.two_pow_pos k
  omega

/-- leaf-only tree: `Σ_{k ∈ b} 2^k = b` -/
theorem S_leaf (b h : Nat) : S (2^h) b h = b % 2^(h+1) := by
  rw [← sumBits_pow]
  apply sumBits_congr
  intro k hk
  rw [Nat.shiftRight_eq_div_pow, Nat.pow_div (by omega) (by omega)]
  congr 1; omega

/-- the domain of C03: `h` is the height of the level mask `T` (`lo`, `hi`: `2^h ≤ T < 2^(h+1)`), within the
    int32 range, and `n` a node of depth at most `h` -/
structure Valid (T h : Nat) (n : List Bool) : Prop where
  lo : 2^h ≤ T
  hi : T < 2^(h+1)
  h30 : h ≤ 30
  len : n.length ≤ h

theorem Valid.of_height {T h : Nat} {n : List Bool} (h1 : 1 ≤ T) (h31 : T < 2^31)
    (hh : height T = (h : Int)) (hn : n.length ≤ h) : Valid T h n :=
  have ⟨a, b, c⟩ := height_spec h1 h31 hh
  ⟨a, b, c, hn⟩

theorem Valid.lt31 {T h : Nat} {n : List Bool} (v : Valid T h n) : T < 2147483648 := by
  have : T < 2^31 := Nat.lt_of_lt_of_le v.hi (Nat.pow_le_pow_right (by omega) (by have := v.h30; omega))
  rw [two_pow_31] at this; exact this

theorem Valid.hi_lt30 {T h : Nat} {n : List Bool} (v : Valid T h n) : Low.hi h n < 1073741824 := by
  exact Nat.lt_of_lt_of_le (hi_lt v.len) (pow_le_pow v.h30)

theorem Valid.hi_lt_succ {T h : Nat} {n : List Bool} (v : Valid T h n) : Low.hi h n < 2^(h+1) :=
  Nat.lt_of_lt_of_le (hi_lt v.len) (pow_le_pow (Nat.le_succ h))

theorem Valid.pmask_lt30 {T h : Nat} {n : List Bool} (v : Valid T h n) : pmask h n < 1073741824 := by
  rw [pmask, Nat.shiftLeft_eq, ← two_pow_30]
  exact Nat.lt_of_lt_of_le (lo_lt v.len) (pow_le_pow v.h30)

theorem Valid.preIdx_lt {T h : Nat} {n : List Bool} (v : Valid T h n) : preIdx T 0 n < 2147483648 := by
  have := preIdx_le T n 0
  have := v.lt31; omega

theorem popc_xor_const {T h : Nat} {n : List Bool} (v : Valid T h n) :
    popc (encPath h n ^^^ 0xffffffff00000000) 64 + popc (hi h n) 32 = n.length + 32 := by
  have h32 : h ≤ 32 := by have := v.h30; omega
  have hc : (0xffffffff00000000 : Nat) = (2^32 - 1) <<< 32 := by decide
  have e : (64 : Nat) = 32 + 32 := rfl
  rw [e, popc_add]
  have hlow : popc (encPath h n ^^^ 0xffffffff00000000) 32 = n.length := by
    rw [← popc_lo h32 v.len, ← encPath_mod h32 v.len]
    apply popc_congr; intro k hk
    rw [hc, Nat.testBit_xor, Nat.testBit_shiftLeft, Nat.testBit_mod_two_pow]
    have hk' : ¬ 32 ≤ k := by omega
    simp [hk, hk']
  have hhigh : popc ((encPath h n ^^^ 0xffffffff00000000) >>> 32) 32 + popc (hi h n) 32 = 32 := by
    apply popc_compl; intro k hk
    rw [Nat.shiftRight_xor_distrib, encPath_shr h32 v.len, hc, Nat.shiftLeft_shiftRight,
      Nat.testBit_xor, Nat.testBit_two_pow_sub_one]
    simp [hk]
  omega

theorem full_arith (p l X c idx S : Nat) (hp : p < 1073741824) (hx : X + c = l + 32)
    (hidx : idx = l + S) (hS : S + c = 2 * p) (hlt : idx < 2147483648) :
    wrap32 (wrap32 (wrap32 ((p : Nat) : Int) * 2) + (X : Int) - 32) = (idx : Int) := by
  have w1 : wrap32 ((p : Nat) : Int) = (p : Nat) := wrap32_id (by omega) (by omega)
  have w2 : wrap32 (((p : Nat) : Int) * 2) = (p : Nat) * 2 := wrap32_id (by omega) (by omega)
  rw [w1, w2, wrap32_id (by omega) (by omega)]
  omega

theorem core_full {T h : Nat} {n : List Bool} (v : Valid T h n) (hT : T = 2^(h+1) - 1) :
    wrap32 (wrap32 (wrap32 ((hi h n : Nat) : Int) * 2) +
      (popc (encPath h n ^^^ 0xffffffff00000000) 64 : Int) - 32) = (preIdx T 0 n : Int) := by
  have hp := v.hi_lt30
  have hx := popc_xor_const v
  have hidx : preIdx T 0 n = popc T n.length + S T (hi h n) h := preIdx_eq_S T h n v.len
  have hlt := v.preIdx_lt
  have hpl : popc T n.length = n.length := by
    rw [hT, popc_mask]; have := v.len; omega
  have hS := S_full (hi h n) h
  have hpm : hi h n % 2^(h+1) = hi h n := Nat.mod_eq_of_lt v.hi_lt_succ
  have hpp : popc (hi h n) (h+1) = popc (hi h n) 32 := by
    rw [popc_lt_two_pow (hi_lt v.len) (h+1) (by omega),
      popc_lt_two_pow (hi_lt v.len) 32 (by have := v.h30; omega)]
  rw [hpm, hpp, ← hT] at hS
  rw [hpl] at hidx
  exact full_arith _ _ _ _ _ _ hp hx hidx hS hlt

theorem core_leaf {T h : Nat} {n : List Bool} (v : Valid T h n) (hT : T = 2^h) :
    wrap32 ((hi h n : Nat) : Int) = (preIdx T 0 n : Int) := by
  have hp := v.hi_lt30
  have hidx : preIdx T 0 n = popc T n.length + S T (hi h n) h := preIdx_eq_S T h n v.len
  have hpl : popc T n.length = 0 := by
    rw [← popc_zero n.length]
    apply popc_congr; intro k hk
    rw [hT, Nat.testBit_two_pow, Nat.zero_testBit]
    have := v.len; simp; omega
  have hS := S_leaf (hi h n) h
  have hpm : hi h n % 2^(h+1) = hi h n := Nat.mod_eq_of_lt v.hi_lt_succ
  rw [hpm, ← hT] at hS
  rw [wrap32_id (by omega) (by omega)]
  omega

theorem core_general {T h : Nat} {n : List Bool} (v : Valid T h n) (swap : Bool) :
    wrap32 ((add64 (if swap then shiftMulti (hi h n) T h else shiftMulti T (hi h n) h)
      (popc (T &&& mask n.length) 64) : Nat) : Int) = (preIdx T 0 n : Int) := by
  have hidx : preIdx T 0 n = popc T n.length + S T (hi h n) h := preIdx_eq_S T h n v.len
  have hlt := v.preIdx_lt
  have hp1 := v.hi_lt_succ
  have hs : h < 64 := Nat.lt_of_le_of_lt v.h30 (by decide)
  have hsm : (if swap then shiftMulti (hi h n) T h else shiftMulti T (hi h n) h)
      = S T (hi h n) h % M64 := by
    cases swap
    · rw [if_neg Bool.false_ne_true, shiftMulti_spec _ _ _ hp1 hs]
    · rw [if_pos rfl, shiftMulti_spec _ _ _ v.hi hs, S_symm h _ _ v.hi hp1]
  have hpm : popc (T &&& mask n.length) 64 = popc T n.length := by
    rw [popc_and_mask, Nat.min_eq_right (Nat.le_trans v.len (Nat.le_trans v.h30 (by decide)))]
  rw [hsm, hpm, add64, Nat.mod_add_mod, Nat.add_comm, ← hidx,
    Nat.mod_eq_of_lt (Nat.lt_trans hlt (by decide)), wrap32_ofNat hlt]

theorem core_eq {T h : Nat} {n : List Bool} (v : Valid T h n) (swap : Bool) :
    pathToIndexCore swap T (encPath h n) = (preIdx T 0 n : Int) := by
  have h32 : h ≤ 32 := by have := v.h30; omega
  simp only [pathToIndexCore, height_toNat (height_of_range v.lo v.hi v.h30), encPath_shr h32 v.len, pathLen_encPath h32 v.len,
    maskUpto, bit]
  split
  · rename_i hT; exact core_full v hT
  · split
    · rename_i hT; exact core_leaf v hT
    · exact core_general v swap

end Low.C03L
