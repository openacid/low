import LowProofs.Lemmas.Bits
/-
  C05, part 1: pure specification facts.  `nodeAt h` and `preIdx (full h) 0` are inverse bijections
  between `[0, 2^(h+1)-1)` and the nodes of depth ≤ h.  Nothing here mentions the code.
-/
namespace Low.C05L

/-- size (= level mask) of the full tree of height `h` -/
abbrev full (h : Nat) : Nat := 2 ^ (h + 1) - 1

theorem full_testBit (h d : Nat) : (full h).testBit d = decide (d ≤ h) := by
  by_cases hd : d ≤ h
  · have : d < h + 1 := by omega
    simp [hd, this]
  · have : ¬ d < h + 1 := by omega
    simp [hd, this]

theorem full_shiftRight_one (h : Nat) : full (h + 1) >>> 1 = full h := by
  simp only [full, Nat.shiftRight_eq_div_pow]
  have e : 2 ^ (h + 1 + 1) = 2 * 2 ^ (h + 1) := by rw [Nat.pow_succ]; omega
  rw [e]; omega

theorem preIdx_shift (t : Nat) : ∀ (n : List Bool) (d e : Nat),
    preIdx t (d + e) n = preIdx (t >>> d) e n
  | [], _, _ => rfl
  | b :: r, d, e => by
    have ih := preIdx_shift t r d (e + 1)
    have e1 : d + e + 1 = d + (e + 1) := by omega
    simp only [preIdx, Nat.testBit_shiftRight, e1, ih, Nat.shiftRight_add]

theorem preIdx_full_succ (h : Nat) (n : List Bool) :
    preIdx (full (h + 1)) 1 n = preIdx (full h) 0 n := by
  have := preIdx_shift (full (h + 1)) n 1 0
  rw [full_shiftRight_one] at this
  simpa using this

theorem preIdx_full_cons (h : Nat) (b : Bool) (r : List Bool) :
    preIdx (full (h + 1)) 0 (b :: r) = 1 + (if b then full h else 0) + preIdx (full h) 0 r := by
  simp only [preIdx, Nat.zero_add, preIdx_full_succ, full_shiftRight_one, full_testBit]
  simp

theorem preIdx_full_lt : ∀ (h : Nat) (n : List Bool), n.length ≤ h → preIdx (full h) 0 n < full h
  | h, [], _ => by
    have : 2 ≤ 2 ^ (h + 1) := by
      have := Nat.pow_le_pow_right (n := 2) (by omega) (show 1 ≤ h + 1 by omega)
      simpa using this
    simp only [preIdx, full]; omega
  | h + 1, b :: r, hl => by
    have ih := preIdx_full_lt h r (by simpa using hl)
    rw [preIdx_full_cons]
    have e : 2 ^ (h + 1 + 1) = 2 * 2 ^ (h + 1) := by rw [Nat.pow_succ]; omega
    simp only [full] at ih ⊢
    split <;> omega

theorem nodeAt_zero (h : Nat) : nodeAt h 0 = [] := by
  cases h <;> simp [nodeAt]

/-- one step of `nodeAt` below the root: the branch is the top bit of the index, and the index inside
    the chosen subtree is again an index of a full tree -/
theorem nodeAt_step {h idx : Nat} (h0 : 0 < idx) (hi : idx < 2 ^ (h + 1 + 1) - 1) :
    nodeAt (h + 1) idx =
        idx.testBit (h + 1) :: nodeAt h (if idx.testBit (h + 1) then idx - 2 ^ (h + 1) else idx - 1) ∧
      (if idx.testBit (h + 1) then idx - 2 ^ (h + 1) else idx - 1) < 2 ^ (h + 1) - 1 := by
  rw [nodeAt, if_neg (by omega)]
  cases hb : idx.testBit (h + 1)
  · have hlt : idx < 2 ^ (h + 1) := by
      apply Nat.lt_of_not_le; intro hge
      rw [Nat.testBit_of_two_pow_le_and_two_pow_add_one_gt hge (by omega)] at hb
      cases hb
    simp only [Bool.false_eq_true, if_false]
    exact ⟨by rw [if_pos (by omega)], by omega⟩
  · have hge := Nat.ge_two_pow_of_testBit hb
    simp only [if_true]
    exact ⟨by rw [if_neg (by omega)], by omega⟩

theorem nodeAt_spec : ∀ (h idx : Nat), idx < full h →
    (nodeAt h idx).length ≤ h ∧ preIdx (full h) 0 (nodeAt h idx) = idx
  | 0, idx, hi => by
    have : idx = 0 := by simp [full] at hi; omega
    subst this; simp [nodeAt, preIdx]
  | h + 1, idx, hi => by
    by_cases h0 : idx = 0
    · subst h0; simp [nodeAt_zero, preIdx]
    · obtain ⟨hn, hlt⟩ := nodeAt_step (Nat.pos_of_ne_zero h0) hi
      have ih := nodeAt_spec h _ hlt
      rw [hn, preIdx_full_cons, ih.2]
      refine ⟨by simp only [List.length_cons]; omega, ?_⟩
      cases hb : idx.testBit (h + 1)
      · simp; omega
      · have := Nat.ge_two_pow_of_testBit hb
        simp [full]; omega

theorem nodeAt_cons {h p : Nat} (b : Bool) (hp : p < full h) :
    nodeAt (h + 1) (1 + (if b then full h else 0) + p) = b :: nodeAt h p := by
  rw [nodeAt, if_neg (by omega)]
  simp only [full] at hp ⊢
  cases b
  · rw [if_neg Bool.false_ne_true, if_pos (by omega), show 1 + 0 + p - 1 = p by omega]
  · rw [if_pos rfl, if_neg (by omega), show 1 + (2 ^ (h + 1) - 1) + p - 2 ^ (h + 1) = p by omega]

theorem nodeAt_preIdx : ∀ (h : Nat) (n : List Bool), n.length ≤ h →
    nodeAt h (preIdx (full h) 0 n) = n
  | h, [], _ => by simp [preIdx, nodeAt_zero]
  | h + 1, b :: r, hl => by
    have hr : r.length ≤ h := by simpa using hl
    rw [preIdx_full_cons, nodeAt_cons b (preIdx_full_lt h r hr), nodeAt_preIdx h r hr]

end Low.C05L
