import LowProofs.Lemmas.C12
/-
  Helper lemmas for C12, second part: the two round trips ToArray∘Of and Of∘ToArray, word-list
  extensionality, the single-step specification of `Builder.extend`, and the bit `Builder.set` ORs in.
-/
namespace Low.C12L

theorem map_toNat_sorted {ps : List Int} (hs : ps.Pairwise (· < ·)) (h0 : ∀ p ∈ ps, 0 ≤ p) :
    (ps.map Int.toNat).Pairwise (· < ·) := by
  rw [List.pairwise_map]
  refine List.Pairwise.imp_of_mem ?_ hs
  intro a b ha hb hab
  have := h0 a ha; have := h0 b hb
  omega

theorem map_ofNat_toNat {ps : List Int} (h : ∀ p ∈ ps, 0 ≤ p) : (ps.map Int.toNat).map Int.ofNat = ps := by
  rw [List.map_map]
  conv => rhs; rw [← List.map_id ps]
  exact List.map_congr_left fun p hp => Int.toNat_of_nonneg (h p hp)

theorem toArray_of {ps : List Int} {ws : List Nat} (hs : ps.Pairwise (· < ·)) (h0 : ∀ p ∈ ps, 0 ≤ p)
    (hb : ∀ i : Nat, (bitAt ws i = true ↔ (i : Int) ∈ ps)) : toArray ws = ps.map Int.toNat := by
  rw [toArray_eq_ones]
  apply eq_of_sorted_of_mem_iff (ones_sorted ws) (map_toNat_sorted hs h0)
  intro x
  rw [mem_ones', hb, List.mem_map]
  constructor
  · intro h; exact ⟨x, h, by simp⟩
  · rintro ⟨p, hp, e⟩
    have := h0 p hp
    have : (x : Int) = p := by omega
    rw [this]; exact hp

theorem ones_ofNat_sorted (ws : List Nat) : ((ones ws).map Int.ofNat).Pairwise (· ≤ ·) := by
  rw [List.pairwise_map]
  refine List.Pairwise.imp ?_ (ones_sorted ws)
  simp only [Int.ofNat_eq_natCast]; omega

theorem ones_ofNat_nonneg (ws : List Nat) : ∀ p ∈ (ones ws).map Int.ofNat, 0 ≤ p := by
  intro p hp
  obtain ⟨x, _, e⟩ := List.mem_map.mp hp
  subst e; simp only [Int.ofNat_eq_natCast]; omega

theorem mem_ones_ofNat (ws : List Nat) (i : Nat) : (i : Int) ∈ (ones ws).map Int.ofNat ↔ bitAt ws i = true := by
  rw [List.mem_map, ← mem_ones']
  constructor
  · rintro ⟨x, hx, e⟩
    simp only [Int.ofNat_eq_natCast] at e
    have : x = i := by omega
    subst this; exact hx
  · intro h; exact ⟨i, h, rfl⟩

theorem words_ext {a b : List Nat} (ha : WordsOK a) (hb : WordsOK b) (hl : a.length = b.length)
    (h : ∀ i, bitAt a i = bitAt b i) : a = b := by
  apply List.ext_getElem hl
  intro k h1 h2
  have hwa := List.getElem?_eq_getElem h1
  have hwb := List.getElem?_eq_getElem h2
  apply Nat.eq_of_testBit_eq
  intro j
  by_cases hj : j < 64
  · rw [← bitAt_word hwa hj, ← bitAt_word hwb hj, h]
  · have hp : 2 ^ 64 ≤ 2 ^ j := Nat.pow_le_pow_right (by omega) (by omega)
    rw [Nat.testBit_lt_two_pow (Nat.lt_of_lt_of_le (ha _ (List.getElem_mem h1)) hp),
      Nat.testBit_lt_two_pow (Nat.lt_of_lt_of_le (hb _ (List.getElem_mem h2)) hp)]

/-- the last position listed by `ones` lies in the last word `Of` allocates, so that word is not 0 -/
theorem getLast_ne_zero {ws' : List Nat} {ps : List Int} (hlen : ws'.length = ofLen ps none)
    (h0 : ∀ p ∈ ps, 0 ≤ p) (hb : ∀ i : Nat, (bitAt ws' i = true ↔ (i : Int) ∈ ps)) :
    ws'.getLast? ≠ some 0 := by
  intro hz
  cases hl : ps.getLast? with
  | none =>
    simp [ofLen, lastEnd, hl] at hlen
    subst hlen; cases hz
  | some l =>
    have hlm := List.mem_of_getLast? hl
    have hl0 := h0 l hlm
    have hbit := (hb l.toNat).mpr (by rw [Int.toNat_of_nonneg hl0]; exact hlm)
    have hidx : l.toNat / 64 = ws'.length - 1 := by
      simp only [ofLen, lastEnd, hl, Option.getD_none] at hlen
      omega
    rw [List.getLast?_eq_getElem?, ← hidx] at hz
    rw [bitAt_eq hz] at hbit
    simp at hbit

theorem sum_nonneg : ∀ {l : List Int}, (∀ x ∈ l, 0 ≤ x) → 0 ≤ l.sum
  | [], _ => by simp
  | a :: r, h => by
    have := h a List.mem_cons_self
    have := sum_nonneg (l := r) (fun x hx => h x (List.mem_cons_of_mem _ hx))
    simp only [List.sum_cons]; omega

theorem growTo_length (ws : List Nat) (e : Int) :
    (growTo ws e).length = max ws.length ((e + 63) / 64).toNat := by
  simp only [growTo, zeros, List.length_append, List.length_replicate]; omega
theorem le_growTo_length (e : Int) (L : Nat) : e ≤ 64 * ((max L ((e + 63) / 64).toNat : Nat) : Int) := by omega

theorem lastEnd_le {ps : List Int} {c : Int} (hc : 0 ≤ c) (hps : ∀ p ∈ ps, p < c) : lastEnd ps ≤ c := by
  unfold lastEnd
  cases hl : ps.getLast? with
  | none => exact hc
  | some l => exact hps l (List.mem_of_getLast? hl)

theorem extend_eq (b : Builder) (ps : List Int) (size : Int) (hsz : 0 ≤ size) :
    b.extend ps size =
      (orBits (growTo b.words (b.offset + max size (lastEnd ps))) (ps.map (b.offset + ·))).map
        (fun ws' => { words := ws', offset := b.offset + size }) := by
  have e : ∀ l : Int, (if l ≥ size then b.offset + l + 1 else b.offset + size) = b.offset + max size (l + 1) :=
    fun l => by split <;> omega
  unfold Builder.extend lastEnd
  cases ps.getLast? <;> simp only [e, Int.max_eq_left hsz]
  all_goals
    split <;> simp [*]

theorem extend_spec (b : Builder) (ps : List Int) (size : Int) (hb : 0 ≤ b.offset) (hsz : 0 ≤ size)
    (hs : ps.Pairwise (· ≤ ·)) (h0 : ∀ p ∈ ps, 0 ≤ p) :
    ∃ b', b.extend ps size = some b' ∧ b'.offset = b.offset + size ∧
      b'.words.length = max b.words.length ((b.offset + max size (lastEnd ps) + 63) / 64).toNat ∧
      (WordsOK b.words → WordsOK b'.words) ∧
      ∀ i : Nat, (bitAt b'.words i = true ↔ (bitAt b.words i = true ∨ ∃ p ∈ ps, (i : Int) = b.offset + p)) := by
  have hlen := growTo_length b.words (b.offset + max size (lastEnd ps))
  have hin : ∀ q ∈ ps.map (b.offset + ·), 0 ≤ q ∧
      q < 64 * ((growTo b.words (b.offset + max size (lastEnd ps))).length : Int) := by
    intro q hq
    obtain ⟨p, hp, e⟩ := List.mem_map.mp hq
    have hp0 := h0 p hp
    have := lt_lastEnd hs hp
    omega
  obtain ⟨ws', h1, h2, h3, h4⟩ := orBits_spec _ _ hin
  refine ⟨⟨ws', b.offset + size⟩, ?_, rfl, ?_, ?_, ?_⟩
  · rw [extend_eq b ps size hsz, h1]; rfl
  · simp only [h2, hlen]
  · intro hok
    exact h3 (by unfold growTo; exact wordsOK_append_zeros hok _)
  · intro i
    rw [h4]
    unfold growTo
    simp only [bitAt_append_zeros, List.mem_map, eq_comm (a := (i : Int))]

theorem bitAt_set_or_bool {ws : List Nat} {i w : Nat} (hw : ws[i / 64]? = some w) (c : Bool) (m : Nat) :
    bitAt (ws.set (i / 64) (w ||| (c.toNat <<< (i % 64)))) m = (bitAt ws m || (c && decide (m = i))) := by
  cases c
  · simp only [Bool.toNat_false, Nat.zero_shiftLeft, Nat.or_zero, Bool.false_and, Bool.or_false]
    obtain ⟨h, rfl⟩ := List.getElem?_eq_some_iff.mp hw
    rw [List.set_getElem_self h]
  · simp only [Bool.toNat_true, Nat.one_shiftLeft, Bool.true_and]
    exact bitAt_set_or hw m

end Low.C12L
