import LowProofs.Lemmas.C17Scan
/-
  C17: an induction principle for `shardDfs` / `shardEach` that also shows that
  the fuel `keys.length + 1` suffices (every split point lies strictly inside the range).
-/
namespace Low.C17L
open Low.C16L

/-- the minimum computed for the range `[s, e)`: `len(keys[s])` and all adjacent common-prefix lengths -/
def lam (keys : List (List Nat)) (fds : List Nat) (s e : Nat) : Nat :=
  minFold fds s (e - 1 - s) (keys.getD s []).length

/-- the results of consecutive ranges `[s, t1), [t1, t2), …` concatenated -/
inductive Groups (Post : Nat → Nat → List Nat → List Nat → Prop) : Nat → List Nat → List Nat → List Nat → Prop
  | nil (s : Nat) : Groups Post s [] [] []
  | cons {s t : Nat} {es L1 B1 L2 B2 : List Nat} : Post s t L1 B1 → Groups Post t es L2 B2 →
      Groups Post s (t :: es) (L1 ++ L2) (B1 ++ B2)

section
variable (keys : List (List Nat)) (fds : List Nat) (mx : Nat)
variable (Post : Nat → Nat → List Nat → List Nat → Prop)

theorem each_of_dfs (fuel : Nat)
    (hD : ∀ s e acc, s < e → e ≤ keys.length → e ≤ s + fuel →
      ∃ Ls Bs, shardDfs keys fds (mx : Int) fuel s e acc = some (acc.1 ++ Ls, acc.2 ++ Bs) ∧ Post s e Ls Bs) :
    ∀ (es : List Nat) (s : Nat) (acc : ShardAcc), Asc fuel keys.length s es →
      ∃ Ls Bs, shardEach keys fds (mx : Int) fuel s es acc = some (acc.1 ++ Ls, acc.2 ++ Bs) ∧
        Groups Post s es Ls Bs
  | [], s, acc, _ => ⟨[], [], by simp [shardEach], .nil s⟩
  | t :: es, s, acc, h => by
    obtain ⟨h1, h2, h3, h4⟩ := h
    obtain ⟨L1, B1, e1, p1⟩ := hD s t acc h1 h2 h3
    obtain ⟨L2, B2, e2, p2⟩ := each_of_dfs fuel hD es t (acc.1 ++ L1, acc.2 ++ B1) h4
    refine ⟨L1 ++ L2, B1 ++ B2, ?_, .cons p1 p2⟩
    rw [shardEach, e1]
    simp only [e2, List.append_assoc]

/-- Induction principle for `shardDfs`. `leaf` handles a range that fits, `split` a range that is cut at
    the positions described by `SplitOK`. The conclusion includes that the recursion does not run out of fuel. -/
theorem dfs_ind (hmx : 1 ≤ mx) (hlen : fds.length + 1 = keys.length)
    (hbl : ∀ t, t + 1 < keys.length → bl fds t ≤ (keys.getD t []).length)
    (leaf : ∀ s e, s < e → e ≤ keys.length → e - s ≤ mx → Post s e [lam keys fds s e] [e])
    (split : ∀ s e es Ls Bs, s < e → e ≤ keys.length → mx < e - s →
      SplitOK fds (lam keys fds s e) e s es → Groups Post s es Ls Bs → Post s e Ls Bs) :
    ∀ (fuel s e : Nat) (acc : ShardAcc), s < e → e ≤ keys.length → e ≤ s + fuel →
      ∃ Ls Bs, shardDfs keys fds (mx : Int) fuel s e acc = some (acc.1 ++ Ls, acc.2 ++ Bs) ∧ Post s e Ls Bs
  | 0, s, e, acc, h1, _, h3 => by omega
  | fuel+1, s, e, acc, h1, h2, h3 => by
    have hk : keys[s]? = some (keys.getD s []) := by
      simp [List.getD, List.getElem?_eq_getElem (show s < keys.length by omega)]
    rw [shardDfs]
    by_cases hsz : e - s ≤ mx
    · have hi : ((e : Int) - (s : Int) ≤ (mx : Int)) := by omega
      rw [if_pos hi]
      simp only [hk]
      rw [leaf_fold fds s (e - 1 - s) _ (by omega)]
      exact ⟨[lam keys fds s e], [e], rfl, leaf s e h1 h2 hsz⟩
    · have hi : ¬ ((e : Int) - (s : Int) ≤ (mx : Int)) := by omega
      rw [if_neg hi]
      simp only [hk]
      rw [shardScan_eq]
      have he : s + (e - 1 - s) + 1 = e := by omega
      have hsp := splitOK_cuts fds (lam keys fds s e) (e - 1 - s) s s (Nat.le_refl _)
        (fun i hi hi' => by omega)
        (fun i hi hi' => minFold_le_bl fds (e - 1 - s) s _ i hi hi')
      rw [he] at hsp
      have hlen2 : 2 ≤ (cuts fds (lam keys fds s e) s (e - 1 - s) ++ [e]).length := by
        cases hc : cuts fds (lam keys fds s e) s (e - 1 - s) with
        | cons => simp
        | nil =>
          rw [hc] at hsp
          have hall : ∀ i, s ≤ i → i + 1 < e → lam keys fds s e < bl fds i := hsp.2.2
          have hs := hall s (Nat.le_refl _) (by omega)
          rcases minFold_attained fds (e - 1 - s) s (keys.getD s []).length with h | ⟨t, t1, t2, t3⟩
          · have := hbl s (by omega)
            simp only [lam] at hs; omega
          · have := hall t t1 (by omega)
            simp only [lam] at this; omega
      have hasc := asc_of_splitOK fds (lam keys fds s e) e keys.length fuel s h2 (by omega) _ s hsp
        (Or.inr ⟨rfl, hlen2⟩)
      obtain ⟨Ls, Bs, e1, p1⟩ := each_of_dfs keys fds mx Post fuel
        (fun s e acc a b c => dfs_ind hmx hlen hbl leaf split fuel s e acc a b c) _ s acc hasc
      exact ⟨Ls, Bs, e1, split s e _ Ls Bs h1 h2 (by omega) hsp p1⟩

end

end Low.C17L
