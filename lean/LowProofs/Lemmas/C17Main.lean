import LowProofs.Lemmas.C17Valid
/-
  C17: from `shardByPrefix` to the induction principle; shape/size/lcp.
-/
namespace Low.C17L
open Low.C16L

/-- the first-difference list of `keys`, by specification -/
def fdsOf (keys : List (List Nat)) : List Nat := List.zipWith fdSpec keys keys.tail

theorem fdsOf_length (keys : List (List Nat)) (hne : keys ≠ []) : (fdsOf keys).length + 1 = keys.length := by
  cases keys with
  | nil => exact absurd rfl hne
  | cons k ks => simp [fdsOf]

theorem fdsOf_getD (keys : List (List Nat)) (t : Nat) (h : t + 1 < keys.length) :
    (fdsOf keys).getD t 0 = fdSpec (keys.getD t []) (keys.getD (t + 1) []) := by
  have h1 : t < keys.length := by omega
  have h2 : t < keys.tail.length := by simp; omega
  simp [fdsOf, List.getD, List.getElem?_zipWith, List.getElem?_eq_getElem h1, List.getElem?_eq_getElem h,
    List.getElem?_eq_getElem h2]

theorem getD_mem {keys : List (List Nat)} {t : Nat} (h : t < keys.length) : keys.getD t [] ∈ keys := by
  simp [List.getD, List.getElem?_eq_getElem h]

theorem bl_fdsOf (keys : List (List Nat)) (hok : ∀ k ∈ keys, BytesOK k) (t : Nat) (h : t + 1 < keys.length) :
    bl (fdsOf keys) t = lcp (keys.getD t []) (keys.getD (t + 1) []) := by
  rw [bl, fdsOf_getD keys t h, fdSpec]
  exact lcp_bits_div8 _ _ (hok _ (getD_mem (by omega))) (hok _ (getD_mem h))

theorem shard_post (keys : List (List Nat)) (maxSize : Int) (hne : keys ≠ []) (hok : ∀ k ∈ keys, BytesOK k)
    (hm : 1 ≤ maxSize) (Post : Nat → Nat → List Nat → List Nat → Prop)
    (leaf : ∀ s e, s < e → e ≤ keys.length → e - s ≤ maxSize.toNat → Post s e [lam keys (fdsOf keys) s e] [e])
    (split : ∀ s e es Ls Bs, s < e → e ≤ keys.length → maxSize.toNat < e - s →
      SplitOK (fdsOf keys) (lam keys (fdsOf keys) s e) e s es → Groups Post s es Ls Bs → Post s e Ls Bs) :
    ∃ Ls Bs, shardByPrefix keys maxSize = some (Ls, 0 :: Bs) ∧ Post 0 keys.length Ls Bs := by
  have hfd : firstDiffBits keys = some (fdsOf keys) := firstDiffBits_eq hne hok
  have hlen := fdsOf_length keys hne
  have hmx : maxSize = ((maxSize.toNat : Nat) : Int) := by omega
  have hpos : 0 < keys.length := by
    cases keys with
    | nil => exact absurd rfl hne
    | cons => simp
  obtain ⟨Ls, Bs, h1, h2⟩ := dfs_ind keys (fdsOf keys) maxSize.toNat Post (by omega) hlen
    (fun t ht => by rw [bl_fdsOf keys hok t ht]; exact lcp_le_left _ _) leaf split
    (keys.length + 1) 0 keys.length ([], [0]) hpos (Nat.le_refl _) (by omega)
  refine ⟨Ls, Bs, ?_, h2⟩
  rw [shardByPrefix, hfd]
  simp only [hlen]
  rw [hmx, h1]
  simp

theorem shard_valid (keys : List (List Nat)) (maxSize : Int) (hne : keys ≠ []) (hok : ∀ k ∈ keys, BytesOK k)
    (hm : 1 ≤ maxSize) :
    ∃ Ls Bs, shardByPrefix keys maxSize = some (Ls, 0 :: Bs) ∧ Valid keys maxSize.toNat 0 keys.length Ls Bs := by
  apply shard_post keys maxSize hne hok hm (Valid keys maxSize.toNat)
  · intro s e h1 h2 h3
    exact .cons h1 h3 (lam_eq_lcpAll keys (fdsOf keys) (bl_fdsOf keys hok) h1 h2) (.nil e)
  · intro s e es Ls Bs _ _ _ hsp hg
    exact groups_valid hg (splitOK_last _ _ _ es s hsp)

theorem valid_of_shard (keys : List (List Nat)) (maxSize : Int) (hne : keys ≠ []) (hok : ∀ k ∈ keys, BytesOK k)
    (hm : 1 ≤ maxSize) {L B : List Nat} (h : shardByPrefix keys maxSize = some (L, B)) :
    ∃ Bs, B = 0 :: Bs ∧ Valid keys maxSize.toNat 0 keys.length L Bs := by
  obtain ⟨Ls, Bs, h', hv⟩ := shard_valid keys maxSize hne hok hm
  cases h'.symm.trans h
  exact ⟨Bs, rfl, hv⟩

end Low.C17L
