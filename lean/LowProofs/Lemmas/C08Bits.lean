import LowProofs.Lemmas.BitList
/- the low `n` bits of a word as a bit list (`wordBits`), against `bitsVal`, `byteBits`, shifts and `&&&`;
   byte strings are determined by, and compare like, their bits (`bitsBE_inj`, `bytesCompare_eq`) -/
namespace Low.C08L
open Low

/-- the low `n` bits of `w`, most significant first -/
def wordBits (n w : Nat) : List Bool := (List.range n).map fun j => w.testBit (n - 1 - j)

theorem wordBits_zero (w : Nat) : wordBits 0 w = [] := rfl

theorem wordBits_succ (n w : Nat) : wordBits (n + 1) w = w.testBit n :: wordBits n w := by
  simp only [wordBits, List.range_succ_eq_map, List.map_cons, List.map_map]
  congr 1
  apply List.map_congr_left
  intro j _
  simp only [Function.comp, Nat.succ_eq_add_one]
  congr 1; omega

@[simp] theorem length_wordBits (n w : Nat) : (wordBits n w).length = n := by simp [wordBits]

theorem byteBits_eq (b : Nat) : byteBits b = wordBits 8 b := rfl

theorem wordBits_mod (n w : Nat) : wordBits n (w % 2 ^ n) = wordBits n w := by
  simp only [wordBits]
  apply List.map_congr_left
  intro j hj
  have : j < n := by simpa using hj
  rw [Nat.testBit_mod_two_pow]
  have : n - 1 - j < n := by omega
  simp [this]

theorem wordBits_congr {n a b : Nat} (h : a % 2 ^ n = b % 2 ^ n) : wordBits n a = wordBits n b := by
  rw [← wordBits_mod n a, ← wordBits_mod n b, h]

theorem bitsVal_wordBits : ∀ (n w : Nat), bitsVal (wordBits n w) = w % 2 ^ n
  | 0, w => by simp [wordBits_zero, bitsVal, Nat.mod_one]
  | n+1, w => by
    rw [wordBits_succ, bitsVal, bitsVal_wordBits n w, length_wordBits, Nat.mod_pow_succ,
      Nat.testBit_eq_decide_div_mod_eq]
    have : w / 2 ^ n % 2 = 0 ∨ w / 2 ^ n % 2 = 1 := by omega
    rcases this with h | h <;> simp [h] <;> omega

theorem wordBits_bitsVal : ∀ (n : Nat) (l : List Bool), l.length = n → wordBits n (bitsVal l) = l
  | 0, [], _ => rfl
  | n+1, b :: r, h => by
    have hr : r.length = n := by simpa using h
    have hlt := bitsVal_lt r
    rw [hr] at hlt
    rw [wordBits_succ, bitsVal, hr]
    have e : b.toNat * 2 ^ n + bitsVal r = 2 ^ n * b.toNat + bitsVal r := by rw [Nat.mul_comm]
    congr 1
    · rw [e, Nat.testBit_two_pow_mul_add _ hlt]
      cases b <;> simp
    · have : wordBits n (b.toNat * 2 ^ n + bitsVal r) = wordBits n (bitsVal r) := by
        apply wordBits_congr
        rw [Nat.add_comm, Nat.add_mul_mod_self_right]
      rw [this, wordBits_bitsVal n r hr]

theorem wordBits_inj {n a b : Nat} (ha : a < 2 ^ n) (hb : b < 2 ^ n) (h : wordBits n a = wordBits n b) : a = b := by
  have := congrArg bitsVal h
  rwa [bitsVal_wordBits, bitsVal_wordBits, Nat.mod_eq_of_lt ha, Nat.mod_eq_of_lt hb] at this

theorem byteBits_bitsVal (l : List Bool) (h : l.length = 8) : byteBits (bitsVal l) = l :=
  wordBits_bitsVal 8 l h

theorem bitsVal_byteBits {b : Nat} (h : b < 256) : bitsVal (byteBits b) = b := by
  rw [byteBits_eq, bitsVal_wordBits]; omega

theorem wordBits_add (n w : Nat) : ∀ k, wordBits (k + n) w = wordBits k (w >>> n) ++ wordBits n w
  | 0 => by rw [Nat.zero_add, wordBits_zero, List.nil_append]
  | k+1 => by
    rw [Nat.add_right_comm, wordBits_succ, wordBits_succ, wordBits_add n w k, Nat.testBit_shiftRight,
      Nat.add_comm n k, List.cons_append]

theorem wordBits_slice {N o n : Nat} (w : Nat) (h : o + n ≤ N) :
    ((wordBits N w).drop o).take n = wordBits n (w >>> (N - o - n)) := by
  obtain ⟨r, rfl⟩ : ∃ r, N = o + (n + r) := ⟨N - o - n, by omega⟩
  rw [wordBits_add (n + r) w o, List.drop_left' (length_wordBits _ _), wordBits_add r w n,
    List.take_left' (length_wordBits _ _)]
  congr 2; omega

theorem wordBits_and (a b : Nat) : ∀ n, wordBits n (a &&& b) = List.zipWith (· && ·) (wordBits n a) (wordBits n b)
  | 0 => rfl
  | n+1 => by
    rw [wordBits_succ, wordBits_succ, wordBits_succ, List.zipWith_cons_cons, Nat.testBit_and, wordBits_and a b n]

theorem flatMap_wordBits_zeros (n : Nat) : ∀ d, (List.replicate d 0).flatMap (wordBits n) = List.replicate (d * n) false
  | 0 => by simp
  | d+1 => by
    have z : wordBits n 0 = List.replicate n false := by simp [wordBits, List.map_const']
    rw [List.replicate_succ, List.flatMap_cons, flatMap_wordBits_zeros n d, z, List.replicate_append_replicate,
      Nat.succ_mul, Nat.add_comm]

end Low.C08L

namespace Low
open C08L

theorem bitsBE_inj : ∀ (a b : List Nat), BytesOK a → BytesOK b → bitsBE a = bitsBE b → a = b
  | [], [], _, _, _ => rfl
  | [], y :: b, _, _, h => by
    have := congrArg List.length h
    simp [length_bitsBE] at this
  | x :: a, [], _, _, h => by
    have := congrArg List.length h
    simp [length_bitsBE] at this
  | x :: a, y :: b, ha, hb, h => by
    rw [bitsBE_cons, bitsBE_cons] at h
    obtain ⟨h1, h2⟩ := List.append_inj h (by simp)
    have hx : x < 2 ^ 8 := ha x (by simp)
    have hy : y < 2 ^ 8 := hb y (by simp)
    rw [wordBits_inj hx hy h1,
      bitsBE_inj a b (fun z hz => ha z (by simp [hz])) (fun z hz => hb z (by simp [hz])) h2]

theorem lexCmp_bitsVal : ∀ (u v : List Bool), u.length = v.length →
    lexCmp u v = if bitsVal u < bitsVal v then -1 else if bitsVal u > bitsVal v then 1 else 0
  | [], [], _ => by simp [lexCmp, bitsVal]
  | [], _ :: _, h => by simp at h
  | _ :: _, [], h => by simp at h
  | x :: u, y :: v, h => by
    have hl : u.length = v.length := by simpa using h
    have ih := lexCmp_bitsVal u v hl
    have hu := bitsVal_lt u
    have hv := bitsVal_lt v
    rw [hl] at hu
    simp only [bitsVal, hl]
    generalize 2 ^ v.length = P at hu hv
    cases x <;> cases y <;> simp [lexCmp, ih]
    all_goals
      repeat' split
      all_goals omega

theorem lexCmp_byteBits {x y : Nat} (hx : x < 256) (hy : y < 256) :
    lexCmp (byteBits x) (byteBits y) = if x < y then -1 else if x > y then 1 else 0 := by
  rw [lexCmp_bitsVal _ _ (by simp), bitsVal_byteBits hx, bitsVal_byteBits hy]

theorem bytesCompare_eq : ∀ (a b : List Nat), BytesOK a → BytesOK b →
    bytesCompare a b = lexCmp (bitsBE a) (bitsBE b)
  | [], [], _, _ => by simp [bytesCompare, bitsBE, lexCmp]
  | [], y :: b, _, _ => by
    simp [bytesCompare, byteBits, List.range_succ_eq_map, bitsBE, lexCmp]
  | x :: a, [], _, _ => by
    simp [bytesCompare, byteBits, List.range_succ_eq_map, bitsBE, lexCmp]
  | x :: a, y :: b, ha, hb => by
    have hx : x < 256 := ha x (by simp)
    have hy : y < 256 := hb y (by simp)
    have ih := bytesCompare_eq a b (fun z hz => ha z (by simp [hz])) (fun z hz => hb z (by simp [hz]))
    rw [bitsBE_cons, bitsBE_cons, lexCmp_append _ _ _ _ (by simp), lexCmp_byteBits hx hy, bytesCompare, ih]
    by_cases h1 : x < y
    · simp [h1]
    · by_cases h2 : x > y
      · simp [h1, h2]
      · simp [h1, h2]

end Low
