import LowProofs.Lemmas.C05Loop
/-
  C05, part 4: phase A, the common-prefix shortcut taken for heights > 4, and the assembly.
  With `D = bitlen((idx - h) xor idx)` and `f = h + 1 - D > 0`: `idx ≥ h`, the top `f` bits
  `A = idx >>> D` of `idx` are the first `f` branches of `nodeAt h idx`, and the remaining index is
  `idx % 2^D - f + popcount A`.
-/
namespace Low.C05L

/-- the state `indexToPath` hands to the loop (the text of the model up to the loop) -/
def pre (th : Nat) (index : Int) : Nat × Nat × Int :=
  let msk0 := shl64 0x0100000001 th
  if th > 4 then
    let i1 := wrap32 (index - th)
    let i2 := index
    let diffbits : Int := 32 - (lz (u32 i1 ^^^ u32 i2) 32 : Int)
    let fixed : Int := (th : Int) + 1 - diffbits
    if fixed > 0 then
      let m := sub64 (shl64 msk0 1) (shl64 0x0100000001 diffbits.toNat)
      let p2 := ((shl64 (u64 index) 32) ||| 0xffffffff) &&& m
      let mLo := m % M32
      let nmLo := (not64 m) % M32
      let index' := wrap32 (wrap32 ((u32 index &&& nmLo : Nat) : Int) - fixed
                      + (popc (u32 index &&& mLo) 32 : Int))
      (p2, msk0 >>> fixed.toNat, index')
    else (0, msk0, index)
  else (0, msk0, index)

theorem indexToPath_of_pre {th : Nat} {index : Int} {p2 msk : Nat} {i : Int}
    (h : pre th index = (p2, msk, i)) : indexToPath th index = fin (i2pLoop 64 p2 msk i) := by
  have e : indexToPath th index =
      (match pre th index with | (p2, msk, index) => fin (i2pLoop 64 p2 msk index)) := by
    rfl
  rw [e, h]

theorem diffbits_eq (x : Nat) : (32 : Int) - ((lz x 32 : Nat) : Int) = ((bitLen x 32 : Nat) : Int) := by
  have := bitLen_le x 32
  unfold lz; omega

theorem shiftRight_eq_of_xor_lt {x y D : Nat} (h : x ^^^ y < 2 ^ D) : x >>> D = y >>> D := by
  apply Nat.eq_of_testBit_eq; intro k
  have hk : (x ^^^ y).testBit (D + k) = false :=
    Nat.testBit_lt_two_pow (Nat.lt_of_lt_of_le h (pow_le_pow (by omega)))
  cases hx : x.testBit (D + k) <;> cases hy : y.testBit (D + k) <;> simp [hx, hy] at hk ⊢

theorem msk0_eq {h : Nat} (hh : h ≤ 30) : shl64 0x0100000001 h = mskR h := by
  have hp := two_pow_le_of_le_30 hh
  unfold shl64
  rw [if_pos (by omega)]
  simp only [mskR, W, Nat.shiftLeft_eq, M64]
  generalize 2 ^ h = P at *
  omega

/-- `m = (mask << 1) - (0x0100000001 << D)` has bits `[D, h]` of each half -/
theorem m_eq {h D : Nat} (hh : h ≤ 30) (hD : D ≤ h) :
    sub64 (shl64 (mskR h) 1) (shl64 0x0100000001 D) = W (2 ^ (h + 1) - 2 ^ D) (2 ^ (h + 1) - 2 ^ D) := by
  have hp := two_pow_le_of_le_30 hh
  have hq := pow_le_pow hD
  unfold shl64 sub64
  rw [if_pos (by omega), if_pos (by omega)]
  simp only [mskR, W, Nat.shiftLeft_eq, M64, Nat.pow_succ]
  generalize 2 ^ h = P at *
  generalize 2 ^ D = Q at *
  omega

theorem idx_lt31 {h idx : Nat} (hh : h ≤ 30) (hi : idx < 2 ^ (h + 1) - 1) : idx < 2147483648 := by
  have : 2 ^ (h + 1) ≤ 2 ^ 31 := pow_le_pow (by omega)
  omega

theorem diff_lt {a b : Int} {D : Nat} (hD : bitLen (u32 a ^^^ u32 b) 32 = D) : u32 a ^^^ u32 b < 2 ^ D :=
  hD ▸ lt_two_pow_bitLen _ 32 (Nat.xor_lt_two_pow (n := 32) (u32_lt _) (u32_lt _))

theorem le_xor {a b : Nat} (ha : 2 ^ 31 ≤ a) (hb : b < 2 ^ 31) : 2 ^ 31 ≤ a ^^^ b := by
  apply Decidable.by_contra; intro hlt
  have := Nat.xor_lt_two_pow (Nat.lt_of_not_le hlt) hb
  rw [Nat.xor_assoc, Nat.xor_self, Nat.xor_zero] at this
  omega

/-- subtracting `h` did not borrow from the bits at and above `D` -/
theorem le_mod_of_xor_lt {x h D : Nat} (hle : h ≤ x) (hx : (x - h) ^^^ x < 2 ^ D) : h ≤ x % 2 ^ D := by
  have hs := shiftRight_eq_of_xor_lt hx
  rw [Nat.shiftRight_eq_div_pow, Nat.shiftRight_eq_div_pow] at hs
  have h1 := Nat.div_add_mod x (2 ^ D)
  have h2 := Nat.div_add_mod (x - h) (2 ^ D)
  rw [hs] at h2
  generalize 2 ^ D * (x / 2 ^ D) = Q at *
  omega

/-- `uint32(index - th)`: the int32 subtraction wraps exactly when `idx < h` -/
theorem u32_sub {h idx : Nat} (hh : h ≤ 30) (hi : idx < 2147483648) :
    u32 (wrap32 ((idx : Int) - (h : Int))) = if h ≤ idx then idx - h else 4294967296 + idx - h := by
  rw [wrap32_id (by omega) (by omega)]
  split
  · rw [show (idx : Int) - (h : Int) = ((idx - h : Nat) : Int) by omega, u32_ofNat_lt (by omega)]
  · unfold u32
    simp only [M32]
    omega

/-- when the shortcut is taken (`D ≤ h`) no int32 wrap-around happened (`idx ≥ h`), the low `D` bits of
    `idx` are at least `h`, and the bits above them are the `h + 1 - D` copied branches -/
theorem short_facts {h idx D : Nat} (h0 : 0 < h) (hh : h ≤ 30) (hi : idx < 2 ^ (h + 1) - 1) (hD : D ≤ h)
    (hx : u32 (wrap32 ((idx : Int) - (h : Int))) ^^^ u32 (idx : Int) < 2 ^ D) :
    h ≤ idx % 2 ^ D ∧ 1 ≤ D ∧ idx >>> D < 2 ^ (h + 1 - D) := by
  have hi31 := idx_lt31 hh hi
  have hA : idx >>> D < 2 ^ (h + 1 - D) := by
    rw [Nat.shiftRight_eq_div_pow]
    apply Nat.div_lt_of_lt_mul
    rw [← Nat.pow_add, show D + (h + 1 - D) = h + 1 by omega]; omega
  have hR : h ≤ idx % 2 ^ D := by
    rw [u32_ofNat_lt (by omega), u32_sub hh hi31] at hx
    split at hx
    · exact le_mod_of_xor_lt (by assumption) hx
    · have hq : 2 ^ D ≤ 2 ^ 30 := pow_le_pow (by omega)
      have := le_xor (a := 4294967296 + idx - h) (b := idx) (by omega) (by omega)
      omega
  apply Decidable.by_contra; intro hD0
  have : D = 0 := by omega
  subst this
  omega

/-- `index & m` keeps bits `[D, h]` -/
theorem and_M {h idx D : Nat} (hD : D ≤ h) (hi : idx < 2 ^ (h + 1)) :
    idx &&& (2 ^ (h + 1) - 2 ^ D) = (idx >>> D) * 2 ^ D := by
  apply Nat.eq_of_testBit_eq; intro k
  rw [Nat.testBit_and, testBit_pow_sub_pow (by omega), Nat.testBit_mul_two_pow,
    Nat.testBit_shiftRight]
  by_cases h1 : D ≤ k
  · have e : D + (k - D) = k := by omega
    by_cases h2 : k < h + 1
    · simp [h1, h2, e]
    · simp [h1, h2, testBit_false_of_lt hi (Nat.le_of_not_lt h2)]
  · simp [h1]

/-- `index & int32(^m)` keeps bits `[0, D)` -/
theorem and_notM {h idx D : Nat} (hh : h ≤ 30) (hD : D ≤ h) (hi : idx < 2 ^ (h + 1)) :
    idx &&& (not64 (W (2 ^ (h + 1) - 2 ^ D) (2 ^ (h + 1) - 2 ^ D)) % M32) = idx % 2 ^ D := by
  have hM : 2 ^ (h + 1) - 2 ^ D < 2 ^ 32 := sub_pow_lt D (by omega)
  apply Nat.eq_of_testBit_eq; intro k
  rw [not64, M32_eq, M64_pred, Nat.testBit_and,
    Nat.testBit_mod_two_pow, Nat.testBit_xor, Nat.testBit_two_pow_sub_one, W_testBit hM,
    Nat.testBit_mod_two_pow, testBit_pow_sub_pow (show D ≤ h + 1 by omega)]
  by_cases h2 : k < h + 1
  · have h3 : k < 32 := by omega
    have h4 : k < 64 := by omega
    by_cases h1 : k < D
    · simp [h1, h2, h3, h4, Nat.not_le.mpr h1]
    · simp [h1, h2, h3, h4, Nat.le_of_not_lt h1]
  · simp [testBit_false_of_lt hi (Nat.le_of_not_lt h2)]

theorem popc_shifted {A D f : Nat} (hA : A < 2 ^ f) (hf : D + f ≤ 32) :
    popc (A * 2 ^ D) 32 = popc A f := by
  have e : popc (A * 2 ^ D) 32 = popc (A * 2 ^ D) (D + (32 - D)) := by congr 1; omega
  have h0 : popc (A * 2 ^ D) D = 0 := by
    rw [popc_congr (b := 0) (fun k hk => by
      rw [Nat.testBit_mul_two_pow]
      have : ¬ D ≤ k := by omega
      simp [this]), popc_zero]
  rw [e, popc_add, h0, Nat.shiftRight_eq_div_pow, Nat.mul_div_cancel _ (Nat.two_pow_pos D),
    popc_lt_two_pow hA (32 - D) (by omega), Nat.zero_add]

theorem short_index {R F p : Nat} (hR : R < 2147483648) (hF : F ≤ R) (hp : p ≤ F) :
    wrap32 (wrap32 ((R : Nat) : Int) - ((F : Nat) : Int) + ((p : Nat) : Int)) = ((R - F + p : Nat) : Int) := by
  rw [wrap32_id (x := ((R : Nat) : Int)) (by omega) (by omega), wrap32_id (by omega) (by omega)]
  omega

theorem pre_short {h idx D : Nat} (h5 : 4 < h) (hh : h ≤ 30) (hi : idx < 2 ^ (h + 1) - 1)
    (hDdef : bitLen (u32 (wrap32 ((idx : Int) - (h : Int))) ^^^ u32 (idx : Int)) 32 = D) (hD : D ≤ h) :
    pre h (idx : Int) =
      (W ((idx >>> D) * 2 ^ D) (2 ^ (h + 1) - 2 ^ D), mskR (D - 1),
        ((idx % 2 ^ D - (h + 1 - D) + popc (idx >>> D) (h + 1 - D) : Nat) : Int)) := by
  have hfix : ((h : Int) + 1 - ((D : Nat) : Int)) > 0 := by omega
  have hfn : ((h : Int) + 1 - ((D : Nat) : Int)).toNat = h + 1 - D := by omega
  have hcast : ((h + 1 - D : Nat) : Int) = (h : Int) + 1 - ((D : Nat) : Int) := by omega
  have hi31 := idx_lt31 hh hi
  have hi32 : idx < 4294967296 := by omega
  have hi' : idx < 2 ^ (h + 1) := by omega
  obtain ⟨hR, hD1, hA⟩ := short_facts (by omega) hh hi hD (diff_lt hDdef)
  have hM : 2 ^ (h + 1) - 2 ^ D < 2 ^ 32 := sub_pow_lt D (by omega)
  have e2 : W idx 0xffffffff &&& W (2 ^ (h + 1) - 2 ^ D) (2 ^ (h + 1) - 2 ^ D) =
      W ((idx >>> D) * 2 ^ D) (2 ^ (h + 1) - 2 ^ D) := by
    rw [W_and (by decide) hM, and_M hD hi', Nat.and_comm 0xffffffff,
      show (0xffffffff : Nat) = 2 ^ 32 - 1 by decide, Nat.and_two_pow_sub_one_of_lt_two_pow hM]
  have e3 : mskR h >>> (h + 1 - D) = mskR (D - 1) := by
    have := @mskR_shr (D - 1) (h + 1 - D)
    rwa [show D - 1 + (h + 1 - D) = h by omega] at this
  have e8 := short_index (p := popc (idx >>> D) (h + 1 - D))
    (Nat.lt_of_le_of_lt (Nat.mod_le idx (2 ^ D)) hi31) (show h + 1 - D ≤ idx % 2 ^ D by omega) (popc_le _ _)
  rw [hcast] at e8
  rw [u32_ofNat_lt hi32] at hDdef
  unfold pre
  simp only [if_pos h5, diffbits_eq, hDdef, hfix, if_true, Int.toNat_natCast, hfn, msk0_eq hh,
    m_eq hh hD, idxWord hi31, e2, e3, u32_ofNat_lt hi32, and_notM hh hD hi', W_mod hM, and_M hD hi',
    popc_shifted hA (show D + (h + 1 - D) ≤ 32 by omega), e8]

theorem pre_noshort {h idx : Nat} (hh : h ≤ 30)
    (hno : ¬ (4 < h ∧ bitLen (u32 (wrap32 ((idx : Int) - (h : Int))) ^^^ u32 (idx : Int)) 32 ≤ h)) :
    pre h (idx : Int) = (0, mskR h, (idx : Int)) := by
  unfold pre
  by_cases h5 : h > 4
  · have hfix : ¬ ((h : Int) + 1 -
        ((bitLen (u32 (wrap32 ((idx : Int) - (h : Int))) ^^^ u32 (idx : Int)) 32 : Nat) : Int) > 0) := by
      omega
    simp only [if_pos h5, diffbits_eq, hfix, if_false, msk0_eq hh]
  · simp only [if_neg h5, msk0_eq hh]

/-- the copied prefix, shifted into place, is the path word of the first `f` branches -/
theorem assemble {f D' A : Nat} {rest : List Bool} (hA : A < 2 ^ f) (hrest : rest.length ≤ D')
    (h32 : f + D' ≤ 31) :
    W (A * 2 ^ (D' + 1)) (2 ^ (f + D' + 1) - 2 ^ (D' + 1)) >>> 1 ||| encPath D' rest =
      encPath (f + D') (C08L.wordBits f A ++ rest) := by
  rw [encPath_append (C08L.length_wordBits f A) hrest (by omega), C08L.bitsVal_wordBits, Nat.mod_eq_of_lt hA]
  have e1 : A * 2 ^ (D' + 1) = 2 * (A * 2 ^ D') := by
    rw [Nat.pow_succ, ← Nat.mul_assoc, Nat.mul_comm]
  have e2 : 2 ^ (f + D' + 1) - 2 ^ (D' + 1) = 2 * (2 ^ (f + D') - 2 ^ D') := by
    rw [Nat.pow_succ, Nat.pow_succ]; omega
  rw [e1, e2, W_shr1]

theorem inverse {h idx : Nat} (hh : h ≤ 30) (hi : idx < 2 ^ (h + 1) - 1) :
    indexToPath h (idx : Int) = some (encPath h (nodeAt h idx)) := by
  by_cases hs : 4 < h ∧ bitLen (u32 (wrap32 ((idx : Int) - (h : Int))) ^^^ u32 (idx : Int)) 32 ≤ h
  · -- phase A, then B + C on the remaining subtree
    obtain ⟨h5, hD⟩ := hs
    generalize hDdef : bitLen (u32 (wrap32 ((idx : Int) - (h : Int))) ^^^ u32 (idx : Int)) 32 = D at hD
    have hpre := pre_short h5 hh hi hDdef hD
    obtain ⟨hR, hD1, hA⟩ := short_facts (by omega) hh hi hD (diff_lt hDdef)
    obtain ⟨D', rfl⟩ : ∃ D', D = D' + 1 := ⟨D - 1, by omega⟩
    obtain ⟨f, rfl⟩ : ∃ f, h = f + D' := ⟨h - D', by omega⟩
    rw [show f + D' + 1 - (D' + 1) = f by omega] at hA hpre
    have hidx : (idx >>> (D' + 1)) * 2 ^ (D' + 1) + idx % 2 ^ (D' + 1) = idx := by
      rw [Nat.shiftRight_eq_div_pow, Nat.mul_comm]; exact Nat.div_add_mod _ _
    obtain ⟨hn, hb⟩ := nodeAt_prefix f (idx >>> (D' + 1)) (idx % 2 ^ (D' + 1)) D' hA
      (Nat.mod_lt _ (Nat.two_pow_pos _)) (by omega) (by rw [hidx]; exact hi)
    rw [hidx] at hn
    rw [Nat.add_sub_cancel] at hpre
    rw [indexToPath_of_pre hpre, loop_spec 64 D' _ _ (by omega) (by omega) hb, hn,
      assemble hA (nodeAt_spec D' _ hb).1 (by omega)]
  · -- no shortcut: B + C from the root
    rw [indexToPath_of_pre (pre_noshort hh hs), loop_spec 64 h 0 idx (by omega) hh hi]
    simp

end Low.C05L
