import LowProofs.Lemmas.C16Lcp
/-
  C16/C17 (after C16Lcp): byte order (`bytesCompare`) versus bit order (`lexCmp` of `bitsBE`),
  strictly ascending key lists.
-/
namespace Low.C16L
open Low.C08L

theorem bytesCompare_cons_lt (x y : Nat) (a b : List Nat) :
    bytesCompare (x :: a) (y :: b) = -1 ↔ x < y ∨ (x = y ∧ bytesCompare a b = -1) := by
  simp only [bytesCompare]
  by_cases h1 : x < y
  · simp [h1]
  · by_cases h2 : x > y
    · have : ¬ x = y := by omega
      simp [h1, h2, this]
    · have : x = y := by omega
      simp [this]

theorem bytesCompare_nil_lt (b : List Nat) : bytesCompare [] b = -1 ↔ b ≠ [] := by
  cases b <;> simp [bytesCompare]

theorem bytesCompare_lt_nil (a : List Nat) : ¬ bytesCompare a [] = -1 := by
  cases a <;> simp [bytesCompare]

theorem bytesCompare_trans : ∀ (a b c : List Nat), bytesCompare a b = -1 → bytesCompare b c = -1 →
    bytesCompare a c = -1
  | _, [], _, h, _ => absurd h (bytesCompare_lt_nil _)
  | [], _ :: _, _ :: _, _, _ => by simp [bytesCompare]
  | x :: a, y :: b, z :: c, h1, h2 => by
    rw [bytesCompare_cons_lt] at h1 h2 ⊢
    rcases h1 with h1 | ⟨e1, h1⟩
    · rcases h2 with h2 | ⟨e2, h2⟩
      · left; omega
      · left; omega
    · rcases h2 with h2 | ⟨e2, h2⟩
      · left; omega
      · right; exact ⟨by omega, bytesCompare_trans a b c h1 h2⟩

theorem bytesCompare_irrefl : ∀ (a : List Nat), ¬ bytesCompare a a = -1
  | [] => by simp [bytesCompare]
  | x :: a => by
    rw [bytesCompare_cons_lt]
    rintro (h | ⟨_, h⟩)
    · omega
    · exact bytesCompare_irrefl a h

theorem strictAsc_cons_cons (a b : List Nat) (r : List (List Nat)) :
    strictAsc (a :: b :: r) = true ↔ bytesCompare a b = -1 ∧ strictAsc (b :: r) = true := by
  simp [strictAsc, keyLt]

theorem pairwise_of_strictAsc : ∀ (keys : List (List Nat)), strictAsc keys = true →
    keys.Pairwise (fun a b => bytesCompare a b = -1)
  | [], _ => List.Pairwise.nil
  | [a], _ => by simp
  | a :: b :: r, h => by
    obtain ⟨h1, h2⟩ := (strictAsc_cons_cons a b r).1 h
    have ih := pairwise_of_strictAsc (b :: r) h2
    refine List.Pairwise.cons ?_ ih
    intro x hx
    rcases List.mem_cons.1 hx with e | hx
    · subst e; exact h1
    · exact bytesCompare_trans a b x h1 ((List.pairwise_cons.1 ih).1 x hx)

theorem strictAsc_of_pairwise : ∀ (keys : List (List Nat)),
    keys.Pairwise (fun a b => bytesCompare a b = -1) → strictAsc keys = true
  | [], _ => rfl
  | [a], _ => rfl
  | a :: b :: r, h => by
    obtain ⟨h1, h2⟩ := List.pairwise_cons.1 h
    exact (strictAsc_cons_cons a b r).2 ⟨h1 b (by simp), strictAsc_of_pairwise (b :: r) h2⟩

theorem lexCmp_le_antisymm (x y : List Bool) (h1 : lexCmp x y ≠ 1) (h2 : lexCmp y x ≠ 1) : x = y := by
  rw [lexCmp_swap x y] at h2
  have := lexCmp_range x y
  exact (lexCmp_eq_zero x y).1 (by omega)
theorem take_eq_iff {α} [DecidableEq α] (n : Nat) (x y : List α) :
    x.take n = y.take n ↔ x = y ∨ n ≤ lcp x y := by
  constructor
  · intro h
    by_cases hx : n ≤ x.length
    · by_cases hy : n ≤ y.length
      · exact Or.inr ((le_lcp_iff n x y).2 ⟨hx, hy, h⟩)
      · left
        have := congrArg List.length h
        simp only [List.length_take] at this
        have e1 : y.take n = y := List.take_of_length_le (by omega)
        have e2 : x.take n = x := List.take_of_length_le (by omega)
        rw [e1, e2] at h; exact h
    · left
      have := congrArg List.length h
      simp only [List.length_take] at this
      have e1 : y.take n = y := List.take_of_length_le (by omega)
      have e2 : x.take n = x := List.take_of_length_le (by omega)
      rw [e1, e2] at h; exact h
  · rintro (h | h)
    · rw [h]
    · exact ((le_lcp_iff n x y).1 h).2.2

theorem truncBits_ne_iff {a b : List Nat} (ha : BytesOK a) (hb : BytesOK b) (hne : a ≠ b) (n : Nat) :
    truncBits n a ≠ truncBits n b ↔ fdSpec a b < n := by
  simp only [truncBits, fdSpec, ne_eq, take_eq_iff]
  constructor
  · intro h
    omega
  · rintro h (h' | h')
    · exact hne (bitsBE_inj a b ha hb h')
    · omega

end Low.C16L
