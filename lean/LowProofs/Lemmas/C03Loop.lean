import LowProofs.Lemmas.C03Bits
/- C03 helpers, part 3: `shiftMulti a b s = S a b s % 2^64` for `b < 2^(s+1)`, `s < 64` (`shiftMulti_spec`),
   through the loop invariant `loop_spec` -/
namespace Low.C03L

theorem S_zero (a s : Nat) : S a 0 s = 0 :=
  sumBits_zero_of_low (fun _ _ => Nat.zero_testBit _)

theorem S_skip (a c s n : Nat) (hz : ∀ k, k < n → c.testBit k = false) (hn : n ≤ s) :
    S a c s = S a (c >>> n) (s - n) := by
  unfold S
  have e : s + 1 = n + (s - n + 1) := by omega
  rw [e, sumBits_skip hz]
  apply sumBits_congr; intro k hk; congr 1; omega

theorem S_odd (a b s : Nat) (hb : b.testBit 0 = true) : S a b s = a >>> s + S a (b - 1) s := by
  have hb1 : b % 2 = 1 := by rw [Nat.testBit_zero] at hb; simpa using hb
  have h0 : (b - 1).testBit 0 = false := by rw [Nat.testBit_zero]; simp; omega
  have h1 : (b - 1) >>> 1 = b >>> 1 := by
    rw [Nat.shiftRight_eq_div_pow, Nat.shiftRight_eq_div_pow]; omega
  unfold S
  rw [sumBits_shift, sumBits_shift (a := b - 1), hb, h0, h1]
  simp

theorem loop_zero (a s rst : Nat) : ∀ fuel, shiftMultiLoop fuel a 0 s rst = rst
  | 0 => rfl
  | _+1 => by simp [shiftMultiLoop]

theorem sub64_of_le {x y : Nat} (h : y ≤ x) (hx : x < 64) : sub64 x y = x - y := by
  simp only [sub64, M64]; omega

/-- one round on an odd `b ≠ 1`: clearing bit 0 and shifting out the `n ≥ 1` zeros below the next set
    bit costs the summand `a >>> s` and lowers the level by `n` -/
theorem S_step {b s : Nat} (hbit : b.testBit 0 = true) (hne : b ≠ 1) (hb : b < 2^(s+1)) (hs : s < 64) :
    1 ≤ tz (b - 1) 64 ∧ tz (b - 1) 64 ≤ s ∧ (b >>> tz (b - 1) 64).testBit 0 = true ∧
      ∀ a, S a b s = a >>> s + S a (b >>> tz (b - 1) 64) (s - tz (b - 1) 64) := by
  have hb1 : b % 2 = 1 := by rw [Nat.testBit_zero] at hbit; simpa using hbit
  have hlt : b - 1 < 2^(s+1) := Nat.lt_of_le_of_lt (Nat.sub_le _ _) hb
  have ⟨_, hnb, hlow⟩ := tz_spec (exists_bit_lt (w := b - 1) (by omega)
    (Nat.lt_of_lt_of_le hlt (pow_le_pow (by omega : s + 1 ≤ 64))))
  generalize tz (b - 1) 64 = n at hnb hlow
  have hn1 : 1 ≤ n := by
    apply Nat.lt_of_not_le; intro h
    have : n = 0 := by omega
    subst this; rw [Nat.testBit_zero] at hnb; simp at hnb; omega
  have hns : n < s + 1 := lt_of_testBit_of_lt hnb hlt
  have hshift : (b - 1) >>> n = b >>> n := by
    have e : n = 1 + (n - 1) := by omega
    rw [e, Nat.shiftRight_add, Nat.shiftRight_add]
    congr 1
    rw [Nat.shiftRight_eq_div_pow, Nat.shiftRight_eq_div_pow]; omega
  refine ⟨hn1, by omega, ?_, fun a => ?_⟩
  · rw [← hshift, Nat.testBit_shiftRight]; simpa using hnb
  · rw [S_odd a b s hbit, S_skip a (b - 1) s n hlow (by omega), hshift]

/-- the loop invariant: `b` is zero or odd, its bits lie at or below `shift` -/
theorem loop_spec (a : Nat) : ∀ (fuel b shift rst : Nat), b < 2^fuel → (b = 0 ∨ b.testBit 0 = true) →
    b < 2^(shift+1) → shift < 64 → rst < M64 →
    shiftMultiLoop fuel a b shift rst = (rst + S a b shift) % M64
  | 0, b, shift, rst, hf, _, _, _, hr => by
    have : b = 0 := by simp at hf; omega
    subst this
    rw [S_zero, shiftMultiLoop, Nat.add_zero, Nat.mod_eq_of_lt hr]
  | fuel+1, b, shift, rst, hf, hodd, hb, hs, hr => by
    by_cases hb0 : b = 0
    · subst hb0
      rw [S_zero, loop_zero, Nat.add_zero, Nat.mod_eq_of_lt hr]
    · have hbit : b.testBit 0 = true := hodd.resolve_left hb0
      rw [shiftMultiLoop, if_neg hb0, shr64, if_pos hs]
      dsimp only
      by_cases hone : b = 1
      · subst hone
        have : shr64 1 64 = 0 := by simp [shr64]
        rw [S_odd a 1 shift hbit]
        simp only [Nat.sub_self, tz_zero, this, loop_zero, S_zero, add64, Nat.add_zero]
      · obtain ⟨hn1, hns, hodd', hS⟩ := S_step hbit hone hb hs
        rw [hS a]
        generalize tz (b - 1) 64 = n at hn1 hns hodd'
        have hf' : b >>> n < 2^fuel :=
          shiftRight_lt_two_pow (Nat.lt_of_lt_of_le hf (pow_le_pow (by omega)))
        rw [shr64, if_pos (by omega), sub64_of_le hns hs,
          loop_spec a fuel (b >>> n) (shift - n) (add64 rst (a >>> shift)) hf' (Or.inr hodd')
            (shiftRight_lt_two_pow (by rw [show n + (shift - n + 1) = shift + 1 by omega]; exact hb))
            (by omega) (Nat.mod_lt _ (by decide)),
          add64, Nat.mod_add_mod, Nat.add_assoc]

theorem shiftMulti_spec (a b s : Nat) (hb : b < 2^(s+1)) (hs : s < 64) :
    shiftMulti a b s = S a b s % M64 := by
  unfold shiftMulti
  by_cases hb0 : b = 0
  · subst hb0
    have : shr64 0 64 = 0 := by simp [shr64]
    simp only [tz_zero, this, loop_zero, S_zero]; rfl
  · have h64 : b < 2^64 := Nat.lt_of_lt_of_le hb (Nat.pow_le_pow_right (by omega) (by omega))
    have ⟨hn64, hnb, hlow⟩ := tz_spec (exists_bit_lt hb0 h64)
    generalize tz b 64 = n at hn64 hnb hlow
    have hns : n < s + 1 := lt_of_testBit_of_lt hnb hb
    have hshr : shr64 b n = b >>> n := by simp [shr64, hn64]
    simp only [hshr]
    rw [sub64_of_le (by omega) hs]
    have hodd : (b >>> n).testBit 0 = true := by rw [Nat.testBit_shiftRight]; simpa using hnb
    have hf : b >>> n < 2^65 :=
      Nat.lt_of_le_of_lt (Nat.shiftRight_le _ _) (Nat.lt_of_lt_of_le h64 (Nat.pow_le_pow_right (by omega) (by omega)))
    have hb' : b >>> n < 2^(s - n + 1) := shiftRight_lt_two_pow (by
      have : n + (s - n + 1) = s + 1 := by omega
      rw [this]; exact hb)
    rw [loop_spec a 65 (b >>> n) (s - n) 0 hf (Or.inr hodd) hb' (by omega) (by decide),
      ← S_skip a b s n hlow (by omega), Nat.zero_add]

end Low.C03L
