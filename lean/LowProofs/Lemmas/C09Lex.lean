import LowProofs.Lemmas.C08Bits
/- C09 helpers: `lexCmp` under zero padding and the mask byte -/
namespace Low.C09L
open Low.C08L

theorem lexCmp_append_same {a b : List Bool} (c : List Bool) (h : a.length = b.length) :
    lexCmp (a ++ c) (b ++ c) = lexCmp a b := by
  rw [lexCmp_append a b c c h, lexCmp_self]
  split
  · rfl
  · rename_i h'; simp at h'; exact h'.symm

abbrev zeroBits (k : Nat) : List Bool := List.replicate k false

abbrev oneBits (k : Nat) : List Bool := List.replicate k true

theorem zipWith_and_zeros : ∀ (k : Nat) (l : List Bool), l.length = k → List.zipWith (· && ·) l (zeroBits k) = zeroBits k
  | 0, [], _ => rfl
  | k+1, x :: l, h => by
    rw [zeroBits, List.replicate_succ, List.zipWith_cons_cons, Bool.and_false]
    exact congrArg _ (zipWith_and_zeros k l (Nat.succ.inj h))

theorem zipWith_and_ones_zeros (k : Nat) : ∀ (a : Nat) (l : List Bool), l.length = a + k →
    List.zipWith (· && ·) l (oneBits a ++ zeroBits k) = l.take a ++ zeroBits k
  | 0, l, h => by rw [Nat.zero_add] at h; exact zipWith_and_zeros k l h
  | a+1, [], h => by simp at h; omega
  | a+1, x :: l, h => by
    rw [oneBits, List.replicate_succ, List.cons_append, List.zipWith_cons_cons, Bool.and_true, List.take_succ_cons,
      List.cons_append]
    exact congrArg _ (zipWith_and_ones_zeros k a l (by simp at h; omega))

/-- the eight mask bytes `0xff << k` of `New`, by evaluation -/
theorem mask_table : ∀ k, k < 8 → rmask k % 256 = 256 - 2 ^ k ∧ popc (256 - 2 ^ k) 8 = 8 - k ∧
    byteBits (256 - 2 ^ k) = oneBits (8 - k) ++ zeroBits k := by decide +kernel

theorem and_mask (k : Nat) (hk : k < 8) (x : Nat) :
    byteBits (x &&& (256 - 2 ^ k)) = (byteBits x).take (8 - k) ++ zeroBits k := by
  rw [byteBits_eq, wordBits_and, ← byteBits_eq, ← byteBits_eq, (mask_table k hk).2.2,
    zipWith_and_ones_zeros k (8 - k) _ (by rw [length_byteBits]; omega)]

theorem lexCmp_zeros_lt : ∀ (k : Nat) (Y : List Bool), k < Y.length → lexCmp (zeroBits k) Y = -1
  | 0, [], h => by simp at h
  | 0, _ :: _, _ => by simp [lexCmp]
  | k+1, y :: Y, h => by
    have ih := lexCmp_zeros_lt k Y (by simpa using h)
    cases y <;> simp [List.replicate_succ, lexCmp, ih]

theorem lexCmp_pad_short : ∀ (B B' : List Bool) (k : Nat) (W : List Bool), B.length + k < B'.length →
    lexCmp (B ++ zeroBits k) (B' ++ W) = lexCmp B B'
  | [], [], _, _, h => by simp at h
  | [], y :: B', k, W, h => by
    rw [List.nil_append, lexCmp_zeros_lt k _ (by simp at h ⊢; omega)]; simp [lexCmp]
  | x :: B, y :: B', k, W, h => by
    have ih := lexCmp_pad_short B B' k W (by simp at h ⊢; omega)
    cases x <;> cases y <;> simp [lexCmp, ih]

theorem lexCmp_prefix_short (A B W : List Bool) (h : A.length < B.length) :
    lexCmp A (B ++ W) = lexCmp A B := by
  have := lexCmp_pad_short A B 0 W (by simpa using h)
  simpa using this

/-- the bits that follow the payload in an encoding: `k` zero bits, then the mask byte `1^(8-k) 0^k` -/
abbrev pad (k : Nat) : List Bool := zeroBits k ++ (oneBits (8 - k) ++ zeroBits k)

theorem lexCmp_pad_lt : ∀ (Y : List Bool) (j k k' : Nat), Y.length = j → k' < k → k ≤ 8 →
    lexCmp (zeroBits j ++ (oneBits (8 - k) ++ zeroBits k)) (Y ++ (oneBits (8 - k') ++ zeroBits k')) = -1
  | [], j, k, k', hj, hk, hk8 => by
    have hj : j = 0 := by simpa using hj.symm
    subst hj
    have e : 8 - k' = (8 - k) + (k - k') := by omega
    obtain ⟨k1, rfl⟩ : ∃ k1, k = k1 + 1 := ⟨k - 1, by omega⟩
    obtain ⟨d, hd⟩ : ∃ d, k1 + 1 - k' = d + 1 := ⟨k1 - k', by omega⟩
    simp only [List.replicate_zero, List.nil_append]
    have e2 : oneBits (8 - (k1 + 1) + (k1 + 1 - k')) = oneBits (8 - (k1 + 1)) ++ oneBits (k1 + 1 - k') :=
      List.replicate_append_replicate.symm
    rw [e, e2, List.append_assoc, lexCmp_append_left, hd]
    simp [List.replicate_succ, lexCmp]
  | y :: Y, j, k, k', hj, hk, hk8 => by
    obtain ⟨j1, rfl⟩ : ∃ j1, j = j1 + 1 := ⟨j - 1, by simp at hj; omega⟩
    have ih := lexCmp_pad_lt Y j1 k k' (by simpa using hj) hk hk8
    cases y
    · simpa [List.replicate_succ, lexCmp] using ih
    · simp [List.replicate_succ, lexCmp]

theorem lexCmp_pad : ∀ (B B' : List Bool) (k k' : Nat), B.length + k = B'.length + k' → k ≤ 8 → k' ≤ 8 →
    lexCmp (B ++ pad k) (B' ++ pad k') = lexCmp B B'
  | [], [], k, k', h, _, _ => by
    have : k = k' := by simpa using h
    subst this; simp [lexCmp_self, lexCmp]
  | [], y :: B', k, k', h, hk, hk' => by
    have h1 : (y :: B' ++ zeroBits k').length = k := by simp at h ⊢; omega
    have := lexCmp_pad_lt (y :: B' ++ zeroBits k') k k k' h1 (by simp at h; omega) hk
    simp only [pad, List.nil_append, List.append_assoc] at this ⊢
    rw [this]; simp [lexCmp]
  | x :: B, [], k, k', h, hk, hk' => by
    have h1 : (x :: B ++ zeroBits k).length = k' := by simp at h ⊢; omega
    have := lexCmp_pad_lt (x :: B ++ zeroBits k) k' k' k h1 (by simp at h; omega) hk'
    rw [lexCmp_swap]
    simp only [pad, List.nil_append, List.append_assoc] at this ⊢
    rw [this]; simp [lexCmp]
  | x :: B, y :: B', k, k', h, hk, hk' => by
    have ih := lexCmp_pad B B' k k' (by simp at h; omega) hk hk'
    cases x <;> cases y <;> simp [lexCmp, ih]

end Low.C09L
