import LowProofs.Lemmas.C12Bits
/-
  Helper lemmas for C14 (Join / Getw / Slice): OR-ing a mask into one word of a bitmap changes exactly the
  bits of the mask (`bitAt_set_or_mask`, in C12Bits), `orBit` sets exactly one more bit, and the loop invariants of
  `sliceLoop` (any start bitmap) and `joinLoop` (over an initially zero bitmap).
-/
namespace Low.C14L
open Low.C12L

theorem length_zeros (n : Nat) : (zeros n).length = n := by simp [zeros]

theorem orBit_spec {r : List Nat} {p : Nat} (hp : p < 64 * r.length) :
    ∃ r', orBit r p = some r' ∧ r'.length = r.length ∧ (WordsOK r → WordsOK r') ∧
      ∀ j, bitAt r' j = (bitAt r j || decide (j = p)) := by
  have hw : r[p / 64]? = some r[p / 64] := List.getElem?_eq_getElem (by omega)
  exact ⟨_, by simp only [orBit, hw], by simp,
    fun hok => wordsOK_set hok _ _ (or_bit_lt (getElem?_of_wordsOK hok hw) (by omega)), Low.bitAt_set_or hw⟩

/-- frame form: nothing is assumed of what `r` holds (`bmSlice` starts from zeros) -/
theorem sliceLoop_spec {ws : List Nat} {frm : Nat} :
    ∀ (m a : Nat) (r : List Nat), frm ≤ a → a + m ≤ 64 * ws.length → a + m ≤ frm + 64 * r.length →
      ∃ r', sliceLoop ws frm (List.range' a m) r = some r' ∧ r'.length = r.length ∧ (WordsOK r → WordsOK r') ∧
        ∀ j, bitAt r' j = (bitAt r j || (decide (a ≤ frm + j ∧ frm + j < a + m) && bitAt ws (frm + j)))
  | 0, a, r, _, _, _ => by
    refine ⟨r, by simp [sliceLoop], rfl, id, fun j => ?_⟩
    rw [decide_eq_false (by omega), Bool.false_and, Bool.or_false]
  | m+1, a, r, hfa, ham, hlen => by
    have hw : ws[a / 64]? = some ws[a / 64] := List.getElem?_eq_getElem (by omega)
    rw [List.range'_succ]
    simp only [sliceLoop, hw]
    rw [← bitAt_eq hw]
    -- either way the step adds bit `a - frm` exactly when bit `a` of `ws` is set
    have step : ∃ r1, (if bitAt ws a = true then
          match orBit r (a - frm) with
          | none => none
          | some r' => sliceLoop ws frm (List.range' (a + 1) m) r'
        else sliceLoop ws frm (List.range' (a + 1) m) r) = sliceLoop ws frm (List.range' (a + 1) m) r1 ∧
        r1.length = r.length ∧ (WordsOK r → WordsOK r1) ∧
        ∀ j, bitAt r1 j = (bitAt r j || (decide (frm + j = a) && bitAt ws a)) := by
      by_cases hb : bitAt ws a = true
      · obtain ⟨r1, h1, hl1, hok1, hb1⟩ := orBit_spec (r := r) (p := a - frm) (by omega)
        refine ⟨r1, by rw [if_pos hb, h1], hl1, hok1, fun j => ?_⟩
        rw [hb1, hb, Bool.and_true]
        congr 1
        exact decide_eq_decide.2 (by omega)
      · refine ⟨r, by rw [if_neg hb], rfl, id, fun j => ?_⟩
        rw [Bool.eq_false_iff.2 hb, Bool.and_false, Bool.or_false]
    obtain ⟨r1, e1, hl1, hok1, hb1⟩ := step
    obtain ⟨r', e2, hl2, hok2, hb2⟩ := sliceLoop_spec (ws := ws) (frm := frm) m (a + 1) r1 (by omega) (by omega)
      (by rw [hl1]; omega)
    refine ⟨r', e1.trans e2, hl2.trans hl1, fun h => hok2 (hok1 h), fun j => ?_⟩
    rw [hb2, hb1, Bool.or_assoc]
    by_cases hj : frm + j = a
    · subst hj
      rw [decide_eq_true rfl, decide_eq_false (by omega), decide_eq_true (by omega)]
      simp
    · rw [decide_eq_false hj, Bool.false_and, Bool.false_or,
        show decide (a + 1 ≤ frm + j ∧ frm + j < a + 1 + m) = decide (a ≤ frm + j ∧ frm + j < a + (m + 1)) from
          decide_eq_decide.2 (by omega)]

theorem shl64_lt (x s : Nat) : shl64 x s < 2^64 := by
  unfold shl64
  split
  · exact Nat.mod_lt _ (by decide)
  · exact Nat.two_pow_pos 64

theorem testBit_shl64 (x s t : Nat) (hs : s < 64) :
    (shl64 x s).testBit t = (decide (t < 64) && (decide (s ≤ t) && x.testBit (t - s))) := by
  have e : M64 = 2^64 := by decide
  unfold shl64
  rw [if_pos hs, e, Nat.testBit_mod_two_pow, Nat.testBit_shiftLeft]

/-- `hns`: the field starting at bit `K` does not straddle a word -/
theorem field_bit (e size K j : Nat) (hns : K % 64 + size ≤ 64) :
    (decide (j / 64 = K / 64) && (shl64 (e &&& mask size) (K % 64)).testBit (j % 64)) =
      (decide (K ≤ j ∧ j < K + size) && e.testBit (j - K)) := by
  rw [testBit_shl64 _ _ _ (by omega), testBit_and_mask]
  by_cases hr : K ≤ j ∧ j < K + size
  · have h1 : j / 64 = K / 64 := by omega
    have h2 : j % 64 - K % 64 = j - K := by omega
    have h3 : K % 64 ≤ j % 64 := by omega
    have h4 : j - K < size := by omega
    have h5 : j % 64 < 64 := by omega
    simp [h1, h2, h3, h4, h5, hr]
  · have hd : decide (K ≤ j ∧ j < K + size) = false := by simp only [hr, decide_false]
    rw [hd, Bool.false_and]
    by_cases h1 : j / 64 = K / 64
    · by_cases h3 : K % 64 ≤ j % 64
      · have h4 : ¬ j % 64 - K % 64 < size := by omega
        simp [h4]
      · simp [h3]
    · simp [h1]

/-- invariant before element `i`: fields `0..i-1` hold the low `size` bits of `vs[0..i-1]`, every bit from
    `i*size` on is clear; `n` counts the elements left -/
theorem joinLoop_spec {vs : List Nat} {size : Nat} (hpos : 0 < size) (hns : ∀ i, (i * size) % 64 + size ≤ 64) :
    ∀ (n i : Nat) (r : List Nat), i + n = vs.length → vs.length * size ≤ 64 * r.length → WordsOK r →
      (∀ a t, a < i → t < size → bitAt r (a * size + t) = (vs.getD a 0).testBit t) →
      (∀ j, i * size ≤ j → bitAt r j = false) →
      ∃ r', joinLoop size (vs.drop i) i r = some r' ∧ r'.length = r.length ∧ WordsOK r' ∧
        (∀ a t, a < vs.length → t < size → bitAt r' (a * size + t) = (vs.getD a 0).testBit t) ∧
        (∀ j, vs.length * size ≤ j → bitAt r' j = false)
  | 0, i, r, hn, _, hok, h1, h2 => by
    have hd : vs.drop i = [] := List.drop_eq_nil_of_le (by omega)
    subst hn
    exact ⟨r, by simp [hd, joinLoop], rfl, hok, h1, h2⟩
  | n+1, i, r, hn, hlen, hok, h1, h2 => by
    have hlt : i < vs.length := by omega
    have hd : vs.drop i = vs[i] :: vs.drop (i + 1) := List.drop_eq_getElem_cons hlt
    have hgd : vs.getD i 0 = vs[i] := by simp [List.getD, hlt]
    have hmul : (i + 1) * size = i * size + size := Nat.succ_mul i size
    have hle : (i + 1) * size ≤ vs.length * size := Nat.mul_le_mul_right size hlt
    obtain ⟨w, hw⟩ : ∃ w, r[i * size / 64]? = some w := by
      refine ⟨_, List.getElem?_eq_getElem ?_⟩
      generalize i * size = K at *
      generalize vs.length * size = L at *
      omega
    rw [hd]
    simp only [joinLoop, hw]
    have hbit : ∀ j, bitAt (r.set (i * size / 64) (w ||| shl64 (vs[i] &&& mask size) (i * size % 64))) j
        = (bitAt r j || (decide (i * size ≤ j ∧ j < i * size + size) && vs[i].testBit (j - i * size))) := by
      intro j
      rw [bitAt_set_or_mask hw, field_bit _ _ _ _ (hns i)]
    obtain ⟨r', e1, e2, e3, e4, e5⟩ := joinLoop_spec (vs := vs) hpos hns n (i + 1)
      (r.set (i * size / 64) (w ||| shl64 (vs[i] &&& mask size) (i * size % 64))) (by omega)
      (by rw [List.length_set]; exact hlen)
      (wordsOK_set hok _ _ (Nat.or_lt_two_pow (getElem?_of_wordsOK hok hw) (shl64_lt _ _)))
      (by
        intro a t ha ht
        rw [hbit]
        by_cases hai : a = i
        · subst hai
          rw [h2 _ (by omega), decide_eq_true (by omega), Nat.add_sub_cancel_left, hgd, Bool.false_or, Bool.true_and]
        · have hle2 : (a + 1) * size ≤ i * size := Nat.mul_le_mul_right size (by omega)
          rw [Nat.succ_mul] at hle2
          rw [h1 a t (by omega) ht, decide_eq_false (by omega), Bool.false_and, Bool.or_false])
      (by
        intro j hj
        rw [hbit, h2 j (by omega), decide_eq_false (by omega), Bool.false_and, Bool.or_false])
    exact ⟨r', e1, by rw [e2, List.length_set], e3, e4, e5⟩

/-- the seven legal widths divide 64: a field never straddles a word -/
theorem width_ok {w : Nat} (hw : w ∈ [1, 2, 4, 8, 16, 32, 64]) :
    0 < w ∧ ∀ i, (i * w) % 64 + w ≤ 64 := by
  simp only [List.mem_cons, List.not_mem_nil, or_false] at hw
  rcases hw with h | h | h | h | h | h | h <;> subst h <;> exact ⟨by omega, fun i => by omega⟩

theorem getw_spec {r : List Nat} {w i v : Nat} (hns : (i * w) % 64 + w ≤ 64) (hlen : i * w + w ≤ 64 * r.length)
    (hpos : 0 < w) (hbits : ∀ t, t < w → bitAt r (i * w + t) = v.testBit t) :
    getw r i w = some (v % 2^w) := by
  have hk : i * w / 64 < r.length := by omega
  have hx : r[i * w / 64]? = some r[i * w / 64] := List.getElem?_eq_getElem hk
  simp only [getw, hx, Option.bind_eq_bind, Option.bind_some]
  congr 1
  apply Nat.eq_of_testBit_eq
  intro t
  rw [testBit_and_mask, Nat.testBit_shiftRight, Nat.testBit_mod_two_pow]
  by_cases ht : t < w
  · have hb := hbits t ht
    have e : i * w + t = 64 * (i * w / 64) + (i * w % 64 + t) := by omega
    rw [e, bitAt_word hx (by omega)] at hb
    simp [ht, hb]
  · simp [ht]

end Low.C14L
