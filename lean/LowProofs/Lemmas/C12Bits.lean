import LowProofs.Lemmas.Count
/-
  Shared lemmas for C12 to C15: `WordsOK` preservation, single-bit masks, and `bitAt` after OR-ing any mask into a
  word (`bitAt_set_or_mask`; appending zero words and the single-bit case are in Count.lean).
-/
namespace Low.C12L

theorem wordsOK_set {ws : List Nat} (h : WordsOK ws) (k v : Nat) (hv : v < 2 ^ 64) : WordsOK (ws.set k v) := by
  intro x hx
  rcases List.mem_or_eq_of_mem_set hx with h' | h'
  · exact h x h'
  · subst h'; exact hv

theorem wordsOK_append_zeros {ws : List Nat} (h : WordsOK ws) (n : Nat) : WordsOK (ws ++ zeros n) := by
  intro x hx
  rcases List.mem_append.mp hx with h' | h'
  · exact h x h'
  · simp only [zeros, List.mem_replicate] at h'
    rw [h'.2]; exact Nat.two_pow_pos 64

theorem wordsOK_zeros (n : Nat) : WordsOK (zeros n) := by
  have := wordsOK_append_zeros (ws := []) (by intro x hx; cases hx) n
  simpa using this

theorem or_bit_lt {w j : Nat} (hw : w < 2 ^ 64) (hj : j < 64) : w ||| 2 ^ j < 2 ^ 64 :=
  Nat.or_lt_two_pow hw (Nat.pow_lt_pow_right (by omega) hj)

theorem getElem?_of_wordsOK {ws : List Nat} (h : WordsOK ws) {k w : Nat} (hw : ws[k]? = some w) : w < 2 ^ 64 :=
  h w (List.mem_of_getElem? hw)

theorem and_two_pow_eq (w j : Nat) : w &&& 2 ^ j = (w.testBit j).toNat <<< j := by
  rw [and_two_pow, Nat.shiftLeft_eq]

/-- OR-ing a mask `m` into word `k` changes exactly the bits of `m`; `bitAt_set_or` is the case `m = 2^(i%64)`, `k = i/64` -/
theorem bitAt_set_or_mask {r : List Nat} {k w : Nat} (hw : r[k]? = some w) (m j : Nat) :
    bitAt (r.set k (w ||| m)) j = (bitAt r j || (decide (j / 64 = k) && m.testBit (j % 64))) := by
  unfold bitAt
  rw [List.getD_eq_getElem?_getD, List.getD_eq_getElem?_getD]
  by_cases h : j / 64 = k
  · have hlt : k < r.length := by
      rcases Nat.lt_or_ge k r.length with h | h
      · exact h
      · rw [List.getElem?_eq_none h] at hw; cases hw
    rw [h, List.getElem?_set_self hlt, hw]
    simp [Nat.testBit_or]
  · have h' : k ≠ j / 64 := fun e => h e.symm
    rw [List.getElem?_set_ne h']
    simp [h]

end Low.C12L
