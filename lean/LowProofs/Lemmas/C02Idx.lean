import LowProofs.Lemmas.C02Spec
/- C02 helpers, part 2: `selIdxGo` picks every 32nd element of the filtered list -/
namespace Low.C02L

/-- keep the elements whose running counter is a multiple of 32 -/
def pick : Nat → List Nat → List Nat
  | _, [] => []
  | c, x :: xs => if c % 32 = 0 then x :: pick (c+1) xs else pick (c+1) xs

theorem selIdxGo_eq_pick (ws : List Nat) : ∀ (l : List Nat) (c : Nat),
    selIdxGo ws l c = pick c (l.filter (bitAt ws))
  | [], c => by simp [selIdxGo, pick]
  | i :: r, c => by
    by_cases hb : bitAt ws i = true
    · simp only [selIdxGo, hb, if_true, List.filter_cons_of_pos, pick, selIdxGo_eq_pick ws r (c+1)]
    · simp only [selIdxGo, hb, Bool.false_eq_true, if_false, selIdxGo_eq_pick ws r c]
      rw [List.filter_cons_of_neg (by simpa using hb)]

/-- `d` = index of the first picked element when the counter starts at `c` -/
theorem pick_eq : ∀ (L : List Nat) (c d : Nat), d < 32 → (c + d) % 32 = 0 →
    pick c L = (List.range ((L.length - d + 31) / 32)).map (fun k => L.getD (d + 32 * k) 0)
  | [], c, d, _, _ => by simp [pick]
  | x :: xs, c, d, hd, hcd => by
    by_cases hc : c % 32 = 0
    · have : d = 0 := by
        rwa [Nat.add_mod, hc, Nat.zero_add, Nat.mod_mod, Nat.mod_eq_of_lt hd] at hcd
      subst this
      rw [pick, if_pos hc, pick_eq xs (c+1) 31 (by omega) (by rwa [Nat.add_assoc, Nat.add_mod_right]), List.length_cons,
        show (xs.length + 1 - 0 + 31) / 32 = (xs.length - 31 + 31) / 32 + 1 by omega,
        List.range_succ_eq_map, List.map_cons, List.map_map]
      refine congrArg _ (List.map_congr_left fun k _ => ?_)
      rw [Function.comp, Nat.succ_eq_add_one, show 0 + 32 * (k + 1) = (31 + 32 * k) + 1 by omega,
        List.getD_cons_succ]
    · cases d with
      | zero => exact absurd hcd hc
      | succ d' =>
        rw [pick, if_neg hc, pick_eq xs (c+1) d' (by omega) (by rwa [Nat.add_assoc, Nat.add_comm 1]),
          List.length_cons, Nat.add_sub_add_right]
        refine List.map_congr_left fun k _ => ?_
        rw [Nat.add_right_comm, List.getD_cons_succ]

theorem indexSelect32_eq (ws : List Nat) :
    indexSelect32 ws =
      (List.range (((ones ws).length + 31) / 32)).map (fun k => (ones ws).getD (32 * k) 0) := by
  have e : ws.length * 64 = 64 * ws.length := by omega
  simp only [indexSelect32, selIdxGo_eq_pick, pick_eq _ 0 0 (by omega) rfl, e]
  simp [ones]

end Low.C02L
