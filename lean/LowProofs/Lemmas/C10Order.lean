import LowProofs.Lemmas.PathWord
/- helper lemmas for C10: recurrence of `encPath` along the branch list, order, binary digits -/
namespace Low.C10L

/-! ### peeling the first branch -/

theorem hi_cons (g : Nat) (x : Bool) (a : List Bool) (hl : a.length ≤ g) :
    hi (g + 1) (x :: a) = x.toNat * 2 ^ g + hi g a := by
  unfold hi
  have e : g + 1 - (x :: a).length = g - a.length := by simp
  rw [e]
  simp only [bitsVal]
  rw [Nat.add_mul, Nat.mul_assoc, ← pow_split hl]

theorem lo_succ (g l : Nat) (hl : l ≤ g) : lo (g + 1) (l + 1) = lo g l + 2 ^ g := by
  rw [lo_eq (by omega), lo_eq hl]
  have e : g + 1 - (l + 1) = g - l := by omega
  have : 2 ^ (g - l) ≤ 2 ^ g := Nat.pow_le_pow_right (by omega) (by omega)
  rw [e, Nat.pow_succ]; omega

/-- the path word of `x :: a` in height `g+1` from the path word of `a` in height `g` -/
theorem encPath_cons {g : Nat} (x : Bool) {a : List Bool} (hg : g + 1 ≤ 32) (hl : a.length ≤ g) :
    encPath (g + 1) (x :: a) = encPath g a + x.toNat * 2 ^ (g + 32) + 2 ^ g := by
  rw [encPath_eq hg (by simpa using hl), encPath_eq (by omega) hl, hi_cons g x a hl]
  simp only [List.length_cons]
  rw [lo_succ g _ hl, Nat.add_mul, Nat.mul_assoc, ← Nat.pow_add]
  omega

/-! ### order -/

theorem encPath_lt_iff : ∀ (a b : List Bool) (h : Nat), h ≤ 32 → a.length ≤ h → b.length ≤ h →
    (encPath h a < encPath h b ↔ lexCmp a b = -1)
  | [], [], h, _, _, _ => by simp [lexCmp]
  | [], y :: b, h, hh, _, hb => by
    obtain ⟨g, rfl⟩ : ∃ g, h = g + 1 := ⟨h - 1, by simp at hb; omega⟩
    have hb' : b.length ≤ g := by simpa using hb
    rw [encPath_nil, encPath_cons y hh hb']
    have := Nat.two_pow_pos g
    simp [lexCmp]; omega
  | x :: a, [], h, _, _, _ => by simp [lexCmp, encPath_nil]
  | x :: a, y :: b, h, hh, ha, hb => by
    obtain ⟨g, rfl⟩ : ∃ g, h = g + 1 := ⟨h - 1, by simp at hb; omega⟩
    have ha' : a.length ≤ g := by simpa using ha
    have hb' : b.length ≤ g := by simpa using hb
    have ih := encPath_lt_iff a b g (by omega) ha' hb'
    have la := encPath_lt (n := a) (h := g) (by omega) ha'
    have lb := encPath_lt (n := b) (h := g) (by omega) hb'
    rw [encPath_cons x hh ha', encPath_cons y hh hb']
    generalize 2 ^ (g + 32) = P at *
    generalize 2 ^ g = Q at *
    cases x <;> cases y <;> simp [lexCmp, ← ih] <;> omega

/-! ### binary digits -/

/-- the digit list that `fmtBin l v` wraps into a string -/
def pad (l v : Nat) : List Char :=
  List.replicate (l - (Nat.toDigits 2 v).length) '0' ++ Nat.toDigits 2 v

theorem fmtBin_eq (l v : Nat) : fmtBin l v = String.ofList (pad l v) := rfl

theorem pad_succ {l : Nat} (hl : 0 < l) (v : Nat) :
    pad (l + 1) v = pad l (v / 2) ++ [Nat.digitChar (v % 2)] := by
  unfold pad
  by_cases hv : v < 2
  · have e0 : v / 2 = 0 := by omega
    have e1 : v % 2 = v := by omega
    obtain ⟨m, rfl⟩ : ∃ m, l = m + 1 := ⟨l - 1, by omega⟩
    rw [e0, e1, Nat.toDigits_zero, Nat.toDigits_of_lt_base hv]
    simp [List.replicate_succ']
  · rw [Nat.toDigits_of_base_le (b := 2) (n := v) (by omega) (by omega)]
    simp only [List.length_append, List.length_singleton, List.append_assoc]
    have e : l + 1 - ((Nat.toDigits 2 (v / 2)).length + 1) = l - (Nat.toDigits 2 (v / 2)).length := by omega
    rw [e]

/-- the character of a branch bit -/
def chr (b : Bool) : Char := if b then '1' else '0'
theorem pad_bitsVal : ∀ (k : Nat) (n : List Bool), n.length = k + 1 → pad (k + 1) (bitsVal n) = n.map chr
  | 0, n, hn => by
    match n, hn with
    | [b], _ =>
      cases b
      · simp [pad, bitsVal, Nat.toDigits_zero, chr]
      · simp [pad, bitsVal, Nat.toDigits_of_lt_base (b := 2) (n := 1) (by omega), chr]
  | k+1, n, hn => by
    rcases List.eq_nil_or_concat n with rfl | ⟨m, b, rfl⟩
    · simp at hn
    · rw [List.concat_eq_append] at hn ⊢
      have hm : m.length = k + 1 := by simpa using hn
      rw [pad_succ (by omega), bitsVal_concat]
      have e0 : (2 * bitsVal m + b.toNat) / 2 = bitsVal m := by cases b <;> simp <;> omega
      have e1 : (2 * bitsVal m + b.toNat) % 2 = b.toNat := by cases b <;> simp <;> omega
      rw [e0, e1, pad_bitsVal k m hm]; cases b <;> simp [chr]

end Low.C10L
