import LowProofs.Lemmas.C12Bits
/-
  Helper lemmas for C12 (Of / ToArray / SafeGet): `int` word index, the `orBits` loop as set insertion,
  `bmOf`, `ones`, `lastEnd` / `ofLen`, and `ofManyFlat` running out of sizes.
-/
namespace Low.C12L

theorem wordI_out (i : Int) (L : Nat) : (i / 64 < 0 ∨ i / 64 ≥ (L : Int)) ↔ ¬ (0 ≤ i ∧ i < 64 * (L : Int)) := by
  omega

theorem toNat_div (j : Nat) : ((j : Int) / 64).toNat = j / 64 := by
  rw [show (64 : Int) = ((64 : Nat) : Int) from rfl, ← Int.natCast_ediv, Int.toNat_natCast]

theorem toNat_mod (j : Nat) : ((j : Int) % 64).toNat = j % 64 := by
  rw [show (64 : Int) = ((64 : Nat) : Int) from rfl, ← Int.natCast_emod, Int.toNat_natCast]

theorem orBits_spec : ∀ (ps : List Int) (ws : List Nat), (∀ p ∈ ps, 0 ≤ p ∧ p < 64 * (ws.length : Int)) →
    ∃ ws', orBits ws ps = some ws' ∧ ws'.length = ws.length ∧ (WordsOK ws → WordsOK ws') ∧
      ∀ i : Nat, (bitAt ws' i = true ↔ (bitAt ws i = true ∨ (i : Int) ∈ ps))
  | [], ws, _ => ⟨ws, rfl, rfl, id, by simp⟩
  | p :: ps, ws, h => by
    obtain ⟨hp0, hp1⟩ := h p List.mem_cons_self
    have hq : p.toNat / 64 < ws.length := by omega
    have hw := List.getElem?_eq_getElem hq
    obtain ⟨ws', h1, h2, h3, h4⟩ := orBits_spec ps (ws.set (p.toNat / 64) (ws[p.toNat / 64] ||| 2 ^ (p.toNat % 64)))
      (by intro q hq; simpa using h q (List.mem_cons_of_mem _ hq))
    refine ⟨ws', ?_, by simpa using h2, ?_, ?_⟩
    · simp only [orBits, if_neg (show ¬ p < 0 by omega), orBit, hw, h1]
    · intro hok
      exact h3 (wordsOK_set hok _ _ (or_bit_lt (hok _ (List.getElem_mem _)) (by omega)))
    · intro i
      rw [h4, bitAt_set_or hw]
      have : i = p.toNat ↔ (i : Int) = p := by omega
      simp only [Bool.or_eq_true, decide_eq_true_eq, List.mem_cons, this, or_assoc]

theorem le_getLast : ∀ {ps : List Int}, ps.Pairwise (· ≤ ·) → ∀ l, ps.getLast? = some l → ∀ p ∈ ps, p ≤ l
  | [], _, _, _, p, hp => by cases hp
  | [a], _, l, hl, p, hp => by
    simp at hl hp; omega
  | a :: b :: r, h, l, hl, p, hp => by
    rw [List.pairwise_cons] at h
    rcases List.mem_cons.mp hp with e | hp'
    · subst e; exact h.1 l (List.mem_of_getLast? hl)
    · exact le_getLast h.2 l hl p hp'

/-- `last+1`, or 0 for the empty list -/
def lastEnd (ps : List Int) : Int := match ps.getLast? with
  | none => 0
  | some l => l + 1

/-- number of words `Of(ps, n?)` allocates: ceil(max(n, last+1, 0) / 64) -/
def ofLen (ps : List Int) (nOpt : Option Int) : Nat := ((max (max (nOpt.getD 0) (lastEnd ps)) 0 + 63) / 64).toNat

theorem lt_lastEnd {ps : List Int} (hs : ps.Pairwise (· ≤ ·)) {p : Int} (hp : p ∈ ps) : p < lastEnd ps := by
  unfold lastEnd
  cases hl : ps.getLast? with
  | none => rw [List.getLast?_eq_none_iff] at hl; subst hl; cases hp
  | some l => exact Int.lt_add_one_of_le (le_getLast hs l hl p hp)

theorem toArray_eq_ones (ws : List Nat) : toArray ws = ones ws := by
  simp only [toArray, ones, Nat.mul_comm]

theorem mem_ones (ws : List Nat) (i : Nat) : i ∈ ones ws ↔ (i < 64 * ws.length ∧ bitAt ws i = true) := by
  simp only [ones, List.mem_filter, List.mem_range]

theorem mem_ones' (ws : List Nat) (i : Nat) : i ∈ ones ws ↔ bitAt ws i = true := by
  rw [mem_ones]
  constructor
  · exact fun h => h.2
  · intro h
    refine ⟨?_, h⟩
    rcases Nat.lt_or_ge i (64 * ws.length) with h' | h'
    · exact h'
    · rw [bitAt_oob h'] at h; cases h

theorem ones_sorted (ws : List Nat) : (ones ws).Pairwise (· < ·) :=
  List.Pairwise.filter _ List.pairwise_lt_range

theorem bmOf_eq (ps : List Int) (nOpt : Option Int) : bmOf ps nOpt = orBits (zeros (ofLen ps nOpt)) ps := by
  unfold bmOf ofLen lastEnd
  cases ps.getLast? <;> simp only [ite_lt_eq_max]
  rw [Int.max_assoc, Int.max_self]

theorem bmOf_spec (ps : List Int) (nOpt : Option Int) (hs : ps.Pairwise (· ≤ ·)) (h0 : ∀ p ∈ ps, 0 ≤ p) :
    ∃ ws, bmOf ps nOpt = some ws ∧ ws.length = ofLen ps nOpt ∧ WordsOK ws ∧
      ∀ i : Nat, (bitAt ws i = true ↔ (i : Int) ∈ ps) := by
  rw [bmOf_eq ps nOpt]
  have hin : ∀ p ∈ ps, 0 ≤ p ∧ p < 64 * ((zeros (ofLen ps nOpt)).length : Int) := by
    intro p hp
    have := lt_lastEnd hs hp
    refine ⟨h0 p hp, ?_⟩
    simp only [zeros, List.length_replicate, ofLen]
    omega
  obtain ⟨ws, h1, h2, h3, h4⟩ := orBits_spec ps (zeros (ofLen ps nOpt)) hin
  refine ⟨ws, h1, by simpa [zeros] using h2, h3 (wordsOK_zeros _), ?_⟩
  intro i
  rw [h4, bitAt_zeros]
  simp

theorem ofManyFlat_short : ∀ (subs : List (List Int)) (sizes : List Int) (base : Int), sizes.length < subs.length →
    ofManyFlat subs sizes base = none
  | [], _, _, h => by simp at h
  | _ :: _, [], _, _ => rfl
  | _ :: subs, s :: sizes, base, h => by
    simp only [ofManyFlat, ofManyFlat_short subs sizes (base + s) (by simpa using h)]

end Low.C12L
