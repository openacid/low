import LowProofs.Lemmas.C08Bits
/- helper lemmas for C11 (FromStr32): the 5-byte gather is the value of the bits of its bytes; a window of an
   `N`-bit value is the value of a slice of its bits -/
namespace Low.C11L
open Low.C08L

theorem bitsVal_bitsBE_cons {b : Nat} (hb : b < 256) (t : List Nat) :
    bitsVal (bitsBE (b :: t)) = b <<< (8 * t.length) ||| bitsVal (bitsBE t) := by
  have h := bitsVal_lt (bitsBE t)
  rw [length_bitsBE] at h
  rw [bitsBE_cons, bitsVal_append, bitsVal_byteBits hb, length_bitsBE, ← Nat.shiftLeft_eq,
    Nat.shiftLeft_add_eq_or_of_lt h]

theorem bitsVal_window {L : List Bool} {N o w : Nat} (hN : L.length = N) (h : o + w ≤ N) :
    (bitsVal L >>> (N - (o + w))) % 2 ^ w = bitsVal ((L.drop o).take w) := by
  rw [← bitsVal_wordBits w, ← Nat.sub_sub, ← wordBits_slice _ h, wordBits_bitsVal N L hN]

/-- the big-endian gather of five bytes -/
def gather (g : Nat → Nat) : Nat := g 0 <<< 32 ||| g 1 <<< 24 ||| g 2 <<< 16 ||| g 3 <<< 8 ||| g 4 <<< 0

theorem gather_eq (g : Nat → Nat) (hg : ∀ m, g m < 256) : gather g = bitsVal (bitsBE ((List.range 5).map g)) := by
  show _ = bitsVal (bitsBE [g 0, g 1, g 2, g 3, g 4])
  rw [bitsVal_bitsBE_cons (hg 0), bitsVal_bitsBE_cons (hg 1), bitsVal_bitsBE_cons (hg 2), bitsVal_bitsBE_cons (hg 3),
    bitsVal_bitsBE_cons (hg 4)]
  simp only [gather, bitsBE_nil, bitsVal, List.length_cons, List.length_nil, Nat.or_zero, Nat.or_assoc]

/-- the byte the model reads at offset `m` from byte `i`, given the clamped length `l` -/
def rd (s : List Nat) (l i m : Nat) : Nat := if i + m < l then s.getD (i + m) 0 else 0

theorem ite_shl (c : Prop) [Decidable c] (x sh : Nat) :
    (if c then x <<< sh else 0) = (if c then x else 0) <<< sh := by split <;> simp

theorem gather_rd (s : List Nat) (l i : Nat) :
    ((((if i < l then s.getD i 0 <<< 32 else 0) ||| (if i + 1 < l then s.getD (i + 1) 0 <<< 24 else 0)) |||
      (if i + 2 < l then s.getD (i + 2) 0 <<< 16 else 0)) ||| (if i + 3 < l then s.getD (i + 3) 0 <<< 8 else 0)) |||
      (if i + 4 < l then s.getD (i + 4) 0 <<< 0 else 0) = gather (rd s l i) := by
  simp only [gather, rd, ite_shl, Nat.add_zero]

theorem rd_lt {s : List Nat} (hs : BytesOK s) (l i m : Nat) : rd s l i m < 256 := by
  unfold rd; split
  · exact getD_lt hs _
  · decide

/-- the available bit count, computed in `int` and clamped by the caller's `if`s, against its `Nat` form -/
theorem toNat_min_sub (a f w : Nat) : (min ((a : Int) - f) w).toNat = min (a - f) w := by omega

theorem window_len {A B F w : Nat} (h1 : B ≤ A) (h2 : B = A ∨ F + w ≤ B) : min w (B - F) = min (A - F) w := by omega

theorem window_pad_len {A B F w d : Nat} (h1 : B ≤ A) (h2 : B = A ∨ F + w ≤ B) (hd : w + F ≤ B + d) :
    min (w - (min B A - F)) d = w - min (A - F) w := by
  omega

/-- The window of `w` bits at bit `8i + o` of the gather of bytes `i .. i+4`; `l` is the number of bytes the code may
    read: those of `s` that start before the end `8i + o + w` of the window. -/
theorem value_eq {s : List Nat} (hs : BytesOK s) (i o w l : Nat) (ho : o < 8) (hw : w ≤ 32)
    (hil : i < l) (hl1 : l ≤ s.length) (hl2 : l = s.length ∨ 8 * i + o + w ≤ 8 * l) (hl3 : 8 * l < 8 * i + o + w + 8) :
    (gather (rd s l i) >>> (40 - (w + o))) % 2 ^ w =
      bitsVal (((bitsBE s).drop (8 * i + o)).take (min (8 * s.length - (8 * i + o)) w) ++
        List.replicate (w - min (8 * s.length - (8 * i + o)) w) false) := by
  have hu : ((s.take l).drop i).length = l - i := by rw [List.length_drop, List.length_take, Nat.min_eq_left hl1]
  have h5 : (List.range 5).map (rd s l i) = (s.take l).drop i ++ List.replicate (5 - (l - i)) 0 := by
    rw [← hu, ← map_getD_range _ 5 (by omega)]
    refine List.map_congr_left fun m _ => ?_
    unfold rd
    rw [List.getD_eq_getElem?_getD, List.getD_eq_getElem?_getD, List.getElem?_drop, List.getElem?_take]
    split <;> rfl
  have hX : (((bitsBE s).take (8 * l)).drop (8 * i)).length = 8 * (l - i) := by
    rw [List.length_drop, List.length_take, length_bitsBE]; omega
  rw [gather_eq _ (rd_lt hs l i), Nat.add_comm w o, bitsVal_window (N := 40) (by rw [length_bitsBE]; simp) (by omega), h5,
    bitsBE_append, ← bitsBE_drop, ← bitsBE_take]
  show bitsVal (((_ ++ (List.replicate (5 - (l - i)) 0).flatMap (wordBits 8)).drop o).take w) = _
  rw [flatMap_wordBits_zeros, List.drop_append_of_le_length (by omega), List.drop_drop, List.take_append, List.length_drop,
    List.length_take, length_bitsBE, List.take_replicate, List.drop_take, List.take_take]
  have h1 : 8 * l ≤ 8 * s.length := Nat.mul_le_mul_left 8 hl1
  have h2 : 8 * l = 8 * s.length ∨ 8 * i + o + w ≤ 8 * l := hl2.imp (congrArg _) id
  rw [window_len h1 h2, window_pad_len h1 h2 (by omega)]

theorem getElem?_wordBits {n j : Nat} (x : Nat) (h : j < n) : (wordBits n x)[j]? = some (x.testBit (n - 1 - j)) := by
  simp [wordBits, List.getElem?_map, List.getElem?_range h]

theorem getElem?_eq_testBit_bitsVal (L : List Bool) {j : Nat} (h : j < L.length) :
    L[j]? = some ((bitsVal L).testBit (L.length - 1 - j)) := by
  rw [← getElem?_wordBits _ h, wordBits_bitsVal _ L rfl]
end Low.C11L
