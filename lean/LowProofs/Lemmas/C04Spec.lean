import LowProofs.Lemmas.C03Order
import LowProofs.Lemmas.C10Order
import LowProofs.Lemmas.C04List
import LowProofs.Lemmas.C08Bits
/- C04 helpers, part 2: the specification `storedPaths`: pre-order = numeric order of the path words, and
   the stored path words characterised by (search value, number of trailing levels cut off). -/
namespace Low.C04L

theorem storedPaths_sorted (T h : Nat) (h32 : h ≤ 32) : (storedPaths T h).Pairwise (· < ·) := by
  unfold storedPaths
  rw [List.pairwise_map]
  refine List.Pairwise.imp_of_mem ?_ (C03L.preorder_lex T h 0 [])
  intro a b ha hb hab
  have ha' := ((C03L.mem_preorder_root T h a).mp ha).1
  have hb' := ((C03L.mem_preorder_root T h b).mp hb).1
  exact (C10L.encPath_lt_iff a b h h32 ha' hb').mpr hab

/-- `p := (i << 32) | (fullPathMask ^ Mask[k])` -/
def pword (h i k : Nat) : Nat := (shl64 i 32) ||| (mask h ^^^ mask k)

theorem mask_xor (h k : Nat) (hk : k ≤ h) : mask h ^^^ mask k = 2^h - 2^k := by
  apply Nat.eq_of_testBit_eq
  intro j
  rw [Nat.testBit_xor, testBit_pow_sub_pow hk]
  simp only [mask, Nat.testBit_two_pow_sub_one]
  by_cases h1 : j < h <;> by_cases h2 : j < k <;> simp [h1, h2] <;> omega

theorem pword_eq {h i k : Nat} (h32 : h ≤ 32) (hk : k ≤ h) (hi : i < 2^32) :
    pword h i k = i * 2^32 + (2^h - 2^k) := by
  have e64 : M64 = 2^32 * 2^32 := by decide
  have hs : shl64 i 32 = i <<< 32 := by
    apply Nat.mod_eq_of_lt
    rw [Nat.shiftLeft_eq, e64]
    exact Nat.mul_lt_mul_of_lt_of_le hi (Nat.le_refl _) (Nat.two_pow_pos _)
  rw [pword, mask_xor h k hk, hs, ← Nat.shiftLeft_add_eq_or_of_lt (sub_pow_lt k h32), Nat.shiftLeft_eq]

theorem pword_bounds {h i k : Nat} (h32 : h ≤ 32) (hk : k ≤ h) (hi : i < 2^32) :
    i * 2^32 ≤ pword h i k ∧ pword h i k < (i + 1) * 2^32 := by
  have := sub_pow_lt k h32
  rw [pword_eq h32 hk hi, Nat.add_mul]
  omega

theorem pword_lt_of_gt {h i k k' : Nat} (h32 : h ≤ 32) (hk : k ≤ h) (hkk : k' < k) (hi : i < 2^32) :
    pword h i k < pword h i k' := by
  rw [pword_eq h32 hk hi, pword_eq h32 (by omega) hi]
  have h1 : 2^k' < 2^k := Nat.pow_lt_pow_right (by omega) hkk
  have h2 : 2^k ≤ 2^h := pow_le_pow hk
  omega

theorem mem_storedPaths (T h p : Nat) (h32 : h ≤ 32) :
    p ∈ storedPaths T h ↔
      ∃ i k, i < 2^h ∧ k ≤ h ∧ i % 2^k = 0 ∧ T.testBit (h - k) = true ∧ p = pword h i k := by
  have hp32 := pow_le_pow h32
  unfold storedPaths
  rw [List.mem_map]
  constructor
  · rintro ⟨n, hn, rfl⟩
    obtain ⟨hl, ht⟩ := (C03L.mem_preorder_root T h n).mp hn
    have hhi := hi_lt hl
    refine ⟨hi h n, h - n.length, hhi, by omega, Nat.mul_mod_left _ _, ?_, ?_⟩
    · rw [show h - (h - n.length) = n.length by omega]; exact ht
    · rw [pword_eq h32 (by omega) (by omega), encPath_eq h32 hl, lo_eq hl]
  · rintro ⟨i, k, hi', hk, hm, ht, rfl⟩
    have hv : i / 2^k < 2^(h - k) := by
      rw [← Nat.shiftRight_eq_div_pow]
      exact shiftRight_lt_two_pow (by rw [Nat.add_sub_cancel' hk]; exact hi')
    have hik : i / 2^k * 2^k = i := by
      have := Nat.div_add_mod i (2^k)
      rw [hm, Nat.add_zero, Nat.mul_comm] at this; exact this
    have hl : (C08L.wordBits (h - k) (i / 2^k)).length ≤ h := by rw [C08L.length_wordBits]; omega
    refine ⟨C08L.wordBits (h - k) (i / 2^k), ?_, ?_⟩
    · rw [C03L.mem_preorder_root, C08L.length_wordBits]
      exact ⟨by omega, ht⟩
    · rw [pword_eq h32 hk (by omega), encPath_eq h32 hl, lo_eq hl, hi, C08L.length_wordBits, C08L.bitsVal_wordBits,
        Nat.mod_eq_of_lt hv, show h - (h - k) = k by omega, hik]

end Low.C04L
