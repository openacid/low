import LowProofs.Lemmas.PathWord
import LowProofs.Lemmas.SumBits
/- C03 helpers, part 1: pure facts about the specification: size and positions of `preorder`, and `preIdx`
   as a sum over the set bits of the branch word -/
namespace Low.C03L

/-- size of the stored part of a subtree: root at depth `d`, `r` levels below it -/
theorem preorder_length (T : Nat) : ∀ (r d : Nat) (pfx : List Bool),
    (preorder T r d pfx).length = (T >>> d) % 2^(r+1)
  | 0, d, pfx => by
    simp only [preorder]
    rw [Nat.zero_add, Nat.pow_one, shiftRight_mod_two]
    cases T.testBit d <;> rfl
  | r+1, d, pfx => by
    simp only [preorder, List.length_append, preorder_length T r]
    have e : 2^(r+1+1) = 2 * 2^(r+1) := by rw [Nat.pow_succ, Nat.mul_comm]
    rw [e, Nat.mod_mul, shiftRight_mod_two, Nat.shiftRight_succ]
    cases T.testBit d <;> simp <;> omega

theorem preorder_length_of_lt {T r d : Nat} (pfx : List Bool) (h : T < 2^(d+r+1)) :
    (preorder T r d pfx).length = T >>> d := by
  rw [preorder_length]
  exact Nat.mod_eq_of_lt (shiftRight_lt_two_pow (by rw [Nat.add_assoc] at h; exact h))

/-- `s` is a stored node of the subtree rooted at depth `d` with `r` levels below the root -/
def StoredIn (T d r : Nat) (s : List Bool) : Prop := s.length ≤ r ∧ T.testBit (d + s.length) = true

theorem storedIn_nil {T d r : Nat} : StoredIn T d r [] ↔ T.testBit d = true := by
  simp [StoredIn]

theorem storedIn_zero {T d : Nat} {s : List Bool} : StoredIn T d 0 s ↔ s = [] ∧ T.testBit d = true := by
  constructor
  · rintro ⟨h1, h2⟩
    have : s = [] := List.eq_nil_of_length_eq_zero (by omega)
    subst this
    exact ⟨rfl, h2⟩
  · rintro ⟨rfl, h⟩
    exact storedIn_nil.mpr h

theorem storedIn_cons {T d r : Nat} {b : Bool} {s : List Bool} :
    StoredIn T d (r+1) (b :: s) ↔ StoredIn T (d+1) r s := by
  rw [StoredIn, StoredIn, List.length_cons, Nat.add_le_add_iff_right, Nat.add_right_comm, Nat.add_assoc]

theorem bound_succ {T d r : Nat} (h : T < 2^(d+(r+1)+1)) : T < 2^(d+1+r+1) := by
  rwa [Nat.add_right_comm d 1 r]

theorem length_ite_singleton (c : Bool) (x : List Bool) :
    (if c then [x] else []).length = c.toNat := by
  cases c <;> rfl

theorem preorder_index (T : Nat) : ∀ (r d : Nat) (pfx m : List Bool),
    T < 2^(d+r+1) → StoredIn T d r m → (preorder T r d pfx)[preIdx T d m]? = some (pfx ++ m)
  | 0, d, pfx, m, _, hm => by
    obtain ⟨rfl, ht⟩ := storedIn_zero.mp hm
    simp [preorder, preIdx, ht]
  | r+1, d, pfx, [], _, hm => by
    simp [preorder, preIdx, storedIn_nil.mp hm]
  | r+1, d, pfx, b :: m, hT, hm => by
    have hT' := bound_succ hT
    have hL := preorder_length_of_lt (pfx ++ [false]) hT'
    have hA := length_ite_singleton (T.testBit d) pfx
    have ih := preorder_index T r (d+1) (pfx ++ [b]) m hT' (storedIn_cons.mp hm)
    simp only [preorder, preIdx]
    cases b with
    | false =>
      have hlt := (List.getElem?_eq_some_iff.mp ih).1
      rw [List.append_assoc, List.getElem?_append_right (by rw [hA]; simp),
        List.getElem?_append_left (by rw [hA]; simp; omega), hA]
      have : (T.testBit d).toNat + (if false = true then T >>> (d + 1) else 0) + preIdx T (d + 1) m
          - (T.testBit d).toNat = preIdx T (d+1) m := by simp
      rw [this, ih]; simp
    | true =>
      rw [List.getElem?_append_right (by simp only [List.length_append, hA, hL]; simp)]
      have : (T.testBit d).toNat + (if true = true then T >>> (d + 1) else 0) + preIdx T (d + 1) m
          - ((if T.testBit d then [pfx] else []) ++ preorder T r (d + 1) (pfx ++ [false])).length
          = preIdx T (d+1) m := by
        simp only [List.length_append, hA, hL]; simp
      rw [this, ih]; simp

theorem preIdx_le (T : Nat) : ∀ (m : List Bool) (d : Nat), preIdx T d m ≤ T >>> d
  | [], d => by simp [preIdx]
  | b :: m, d => by
    have ih := preIdx_le T m (d+1)
    have h2 := shiftRight_mod_two T d
    rw [Nat.shiftRight_succ] at ih
    simp only [preIdx, Nat.shiftRight_succ]
    cases b <;> simp <;> omega

theorem testBit_bitsVal_cons (b : Bool) (r : List Bool) (k : Nat) :
    (bitsVal (b :: r)).testBit k = if k < r.length then (bitsVal r).testBit k else (b && decide (k = r.length)) := by
  have hr := bitsVal_lt r
  simp only [bitsVal]
  cases b with
  | false =>
    simp only [Bool.toNat_false, Nat.zero_mul, Nat.zero_add, Bool.false_and]
    split
    · rfl
    · exact Nat.testBit_lt_two_pow (Nat.lt_of_lt_of_le hr (Nat.pow_le_pow_right (by omega) (by omega)))
  | true =>
    simp only [Bool.toNat_true, Nat.one_mul, Bool.true_and]
    split
    · rename_i hk; exact Nat.testBit_two_pow_add_gt hk _
    · rename_i hk
      by_cases he : k = r.length
      · subst he; rw [Nat.testBit_two_pow_add_eq, Nat.testBit_lt_two_pow hr]; simp
      · have : 2^r.length + bitsVal r < 2^k := by
          have : 2^(r.length+1) ≤ 2^k := Nat.pow_le_pow_right (by omega) (by omega)
          rw [Nat.pow_succ] at this; omega
        rw [Nat.testBit_lt_two_pow this]; simp [he]

theorem sumBits_bitsVal_cons (f : Nat → Nat) (b : Bool) (r : List Bool) :
    sumBits f (bitsVal (b :: r)) (r.length + 1) = (if b then f r.length else 0) + sumBits f (bitsVal r) r.length := by
  simp only [sumBits]
  rw [sumBits_congr_b (c := bitsVal r) (fun k hk => by rw [testBit_bitsVal_cons]; simp [hk])]
  rw [testBit_bitsVal_cons]; simp; omega

theorem preIdx_sum (T : Nat) : ∀ (n : List Bool) (d : Nat),
    preIdx T d n = popc (T >>> d) n.length +
      sumBits (fun k => T >>> (d + n.length - k)) (bitsVal n) n.length
  | [], d => by simp [preIdx, popc, sumBits]
  | b :: r, d => by
    have ih := preIdx_sum T r (d+1)
    have hp := popc_add (T >>> d) 1 r.length
    simp only [popc, Nat.testBit_shiftRight, Nat.add_zero, Nat.zero_add, ← Nat.shiftRight_add] at hp
    simp only [preIdx, List.length_cons, sumBits_bitsVal_cons, ih]
    rw [show r.length + 1 = 1 + r.length by omega, hp]
    have e1 : d + (1 + r.length) - r.length = d + 1 := by omega
    have e2 : sumBits (fun k => T >>> (d + 1 + r.length - k)) (bitsVal r) r.length =
        sumBits (fun k => T >>> (d + (1 + r.length) - k)) (bitsVal r) r.length := by
      apply sumBits_congr; intro k _; congr 1; omega
    rw [e1, e2]; omega

/-- general formula: `preIdx T 0 n = popc T |n| + S T p h` with `p` the path bits of `encPath h n` -/
theorem preIdx_eq_S (T h : Nat) (n : List Bool) (hn : n.length ≤ h) :
    preIdx T 0 n = popc T n.length + S T (hi h n) h := by
  rw [preIdx_sum, hi, ← Nat.shiftLeft_eq]
  congr 1
  unfold S
  have e : h + 1 = (h - n.length) + (n.length + 1) := by omega
  rw [e, sumBits_skip (fun k hk => by simp [Nat.testBit_shiftLeft]; omega), Nat.shiftLeft_shiftRight,
    sumBits_of_lt (bitsVal_lt n) _ (Nat.le_succ _)]
  apply sumBits_congr; intro k hk; congr 1; omega

end Low.C03L
