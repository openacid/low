import LowProofs.Lemmas.C06
/-
  Helper lemmas for C07 (pbcmpl error paths): `pbUnmarshal` on an arbitrary byte string in terms of
  the fields of its first 32 bytes, and on a strict prefix of a frame.
-/
namespace Low.C07L
open Low.C06L

/-- header-size field of a byte string, as the Go code decodes it (uint64 little-endian at 16, then int64()):
    `(hdrInfo bytes).headerSize`, and what the C07 statements spell out; a definition of its own because stated as
    that projection the helpers below make the elaborator unfold the decoders until it runs out of recursion depth -/
def hsField (bytes : List Nat) : Int := wrap64 (unle ((bytes.drop 16).take 8))
/-- body-size field (at offset 24) -/
def bsField (bytes : List Nat) : Int := wrap64 (unle ((bytes.drop 24).take 8))

theorem hdrInfo_take32 (bytes : List Nat) :
    hdrInfo (bytes.take 32) = ⟨verStr (bytes.take 16), hsField bytes, bsField bytes⟩ := by
  unfold hdrInfo hsField bsField
  rw [List.take_take, List.drop_take, List.take_take, List.drop_take, List.take_take]
  rfl

/-- `pbUnmarshal` on 32 header bytes followed by anything, in terms of the two size fields
    (the fields are passed as variables `hs`, `bs`: unfolding `wrap64 (unle …)` inside a decidable
    `if` sends the kernel into deep recursion) -/
theorem pbUnmarshal_fields (hdr rest : List Nat) (e : PbErr) (hl : hdr.length = 32) (hs bs : Int)
    (hhs : hsField hdr = hs) (hbs : bsField hdr = bs) :
    pbUnmarshal ⟨hdr ++ rest, e⟩ =
      if hs ≠ 32 then ⟨32, verStr (hdr.take 16), none, some .invalidHeaderSize, ⟨rest, e⟩⟩ else
      if bs < 0 then ⟨32, verStr (hdr.take 16), none, some .invalidBodySize, ⟨rest, e⟩⟩ else
      match readFull ⟨rest, e⟩ bs.toNat with
      | (b, some err, r'') => ⟨32 + b.length, verStr (hdr.take 16), none, some err, r''⟩
      | (b, none, r'') => ⟨32 + b.length, verStr (hdr.take 16), some b, none, r''⟩ := by
  have hh : pbReadHeader ⟨hdr ++ rest, e⟩ =
      (32, some ⟨verStr (hdr.take 16), hsField hdr, bsField hdr⟩, none, ⟨rest, e⟩) := pbReadHeader_hdr hdr rest e hl
  rw [hhs, hbs] at hh
  exact pbUnmarshal_of_header _ _ _ _ hh

theorem pbReadHeader_long (bytes : List Nat) (e : PbErr) (h : 32 ≤ bytes.length) :
    pbReadHeader ⟨bytes, e⟩ =
      (32, some ⟨verStr (bytes.take 16), hsField bytes, bsField bytes⟩, none, ⟨bytes.drop 32, e⟩) := by
  have hl : (bytes.take 32).length = 32 := by rw [List.length_take]; exact Nat.min_eq_left h
  have := pbReadHeader_hdr (bytes.take 32) (bytes.drop 32) e hl
  rwa [List.take_append_drop, hdrInfo_take32] at this
theorem pbUnmarshal_long_cases (bytes : List Nat) (e : PbErr) (h : 32 ≤ bytes.length) :
    (hsField bytes ≠ 32 ∧
      pbUnmarshal ⟨bytes, e⟩ = ⟨32, verStr (bytes.take 16), none, some .invalidHeaderSize, ⟨bytes.drop 32, e⟩⟩) ∨
    (hsField bytes = 32 ∧ bsField bytes < 0 ∧
      pbUnmarshal ⟨bytes, e⟩ = ⟨32, verStr (bytes.take 16), none, some .invalidBodySize, ⟨bytes.drop 32, e⟩⟩) ∨
    (hsField bytes = 32 ∧ 0 ≤ bsField bytes ∧ bytes.length < 32 + (bsField bytes).toNat ∧ ∃ err,
      pbUnmarshal ⟨bytes, e⟩ = ⟨bytes.length, verStr (bytes.take 16), none, some err, ⟨[], e⟩⟩) ∨
    (hsField bytes = 32 ∧ 0 ≤ bsField bytes ∧ 32 + (bsField bytes).toNat ≤ bytes.length ∧
      pbUnmarshal ⟨bytes, e⟩ = ⟨32 + (bsField bytes).toNat, verStr (bytes.take 16),
        some ((bytes.drop 32).take (bsField bytes).toNat), none, ⟨bytes.drop (32 + (bsField bytes).toNat), e⟩⟩) := by
  rw [pbUnmarshal_of_header _ _ _ _ (pbReadHeader_long bytes e h)]
  generalize hsField bytes = hs
  generalize bsField bytes = bs
  by_cases h1 : hs ≠ 32
  · left; exact ⟨h1, by rw [if_pos h1]⟩
  · right
    have h1' : hs = 32 := Decidable.not_not.mp h1
    rw [if_neg h1]
    by_cases h2 : bs < 0
    · left; exact ⟨h1', h2, by rw [if_pos h2]⟩
    · right
      rw [if_neg h2]
      have h2' : 0 ≤ bs := by omega
      generalize bs.toNat = n
      rcases readFull_cases ⟨bytes.drop 32, e⟩ n with ⟨hr, hn⟩ | ⟨err, hr, hn⟩
      · right
        simp only [List.length_drop] at hn
        refine ⟨h1', h2', by omega, ?_⟩
        rw [hr]
        simp only [List.length_take, List.length_drop, List.drop_drop]
        rw [Nat.min_eq_left hn]
      · left
        simp only [List.length_drop] at hn
        refine ⟨h1', h2', by omega, err, ?_⟩
        rw [hr]
        simp only [List.length_drop]
        have : 32 + (bytes.length - 32) = bytes.length := by omega
        rw [this]

/-- the error `io.ReadFull`/`io.CopyN` report when the stream ends after `k` bytes of a frame -/
def cutErr (e : PbErr) (k : Nat) : PbErr :=
  if e = .eof then (if k = 0 ∨ k = 32 then .eof else .unexpectedEOF) else e

theorem pbUnmarshal_cut (ver body frame : List Nat) (e : PbErr) (k : Nat)
    (hf : pbFrame ver body = some frame) (hb : body.length < 2 ^ 63) (hk : k < frame.length) :
    pbUnmarshal ⟨frame.take k, e⟩ =
      ⟨k, if k < 32 then [] else verStr ver, none, some (cutErr e k), ⟨[], e⟩⟩ := by
  obtain ⟨hv, rfl⟩ := pbFrame_some hf
  rw [frame_length ver body hv] at hk
  have hl : (pad16 ver ++ le64 32 ++ le64 body.length).length = 32 :=
    pbHeader_length (pbHeader_eq ver body.length hv)
  generalize hH : pad16 ver ++ le64 32 ++ le64 body.length = hdr at hl
  by_cases h32 : k < 32
  · have hlen : ((hdr ++ body).take k).length = k := by
      rw [List.length_take, List.length_append, hl]; exact Nat.min_eq_left (by omega)
    rw [pbUnmarshal_short _ e (by omega), hlen]
    simp only [h32, if_true, cutErr]
    have : (k = 0 ∨ k = 32) ↔ k = 0 := by omega
    simp only [this]
  · have ht : (hdr ++ body).take k = hdr ++ body.take (k - 32) := by
      rw [List.take_append, hl, List.take_of_length_le (by omega)]
    have hi : hdrInfo hdr = ⟨verStr ver, 32, (body.length : Int)⟩ := by
      rw [← hH]; exact hdrInfo_frame ver body.length hv hb
    have hh := pbReadHeader_hdr hdr (body.take (k - 32)) e hl
    rw [hi] at hh
    rw [ht, pbUnmarshal_of_header _ _ _ _ hh]
    have hs : (body.take (k - 32)).length < body.length := by
      rw [List.length_take]; exact Nat.lt_of_le_of_lt (Nat.min_le_left _ _) (by omega)
    have hr := readFull_short (body.take (k - 32)) e body.length hs
    have hnn : ¬ ((body.length : Int) < 0) := by omega
    simp only [Int.toNat_natCast, hr, hnn, if_false, ne_eq, not_true_eq_false]
    have hlen : (body.take (k - 32)).length = k - 32 := by
      rw [List.length_take]; exact Nat.min_eq_left (by omega)
    simp only [hlen, h32, if_false, cutErr]
    have e1 : 32 + (k - 32) = k := by omega
    have e2 : (k - 32 = 0) ↔ (k = 0 ∨ k = 32) := by omega
    simp only [e1, e2]

end Low.C07L
