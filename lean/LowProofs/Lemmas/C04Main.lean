import LowProofs.Lemmas.C04Loop
import LowProofs.Lemmas.C03Bits
/- C04 helpers, part 4: `allPaths` is the clipped `storedPaths`; the `Decode` predicate is `bitAt` -/
namespace Low.C04L

/-- the clamped number of search values `tt`: every search value `i < P` with `i << 32 ≤ to` is below it -/
theorem clamp {to P : Nat} (hto : to < 2^64) :
    ∃ tt, (if add64 (to >>> 32) 1 > P then P else add64 (to >>> 32) 1) = tt ∧ tt ≤ P ∧
      ∀ i, i < P → i ≤ to / 4294967296 → i < tt := by
  have eadd : add64 (to >>> 32) 1 = to / 4294967296 + 1 := by
    simp only [add64, Nat.shiftRight_eq_div_pow, two_pow_32, M64]
    omega
  refine ⟨_, rfl, ?_, fun i h1 h2 => ?_⟩
  · split <;> omega
  · split <;> omega

/-- a word `p` of search value `i` inside `[frm, to)` is visited by the outer loop iff `i < P` -/
theorem in_window {frm to i p tt P : Nat} (hp : i * 2^32 ≤ p ∧ p < (i + 1) * 2^32) (hfp : frm ≤ p)
    (hpt : p < to) (htt1 : tt ≤ P) (htt3 : i < P → i ≤ to / 4294967296 → i < tt) :
    (frm >>> 32 ≤ i ∧ i < frm >>> 32 + (tt - frm >>> 32)) ↔ i < P := by
  rw [Nat.shiftRight_eq_div_pow]
  constructor
  · rintro ⟨ha, hi⟩; omega
  · intro hi
    omega

theorem allPaths_eq (T h frm to : Nat) (hT1 : 1 ≤ T) (hT31 : T < 2^31) (hh : height T = (h : Int))
    (hto : to < 2^64) :
    allPaths T frm to = (storedPaths T h).filter (fun p => decide (frm ≤ p ∧ p < to)) := by
  have ⟨_, _, h30⟩ := C03L.height_spec hT1 hT31 hh
  have h32 : h ≤ 32 := by omega
  obtain ⟨tt, htt, htt1, htt3⟩ := clamp (P := 2^h) hto
  simp only [allPaths, C03L.height_toNat hh, bit, htt]
  have hs := rows_sorted T h (frm >>> 32) (tt - frm >>> 32) h32 (fun i h1 h2 => by omega)
  rw [outer_eq_scan, scan_sorted frm to _ _ hs, List.append_nil, List.reverse_reverse]
  apply eq_of_sorted_of_mem_iff (hs.filter _) ((storedPaths_sorted T h h32).filter _)
  intro x
  simp only [List.mem_filter, List.mem_flatMap, List.mem_range'_1, mem_row T h _ x h32,
    mem_storedPaths T h x h32, decide_eq_true_eq]
  constructor
  · rintro ⟨⟨i, hi, k, hk, hm, ht, rfl⟩, hP'⟩
    have hw := in_window (pword_bounds h32 hk (by omega)) hP'.1 hP'.2 htt1 (htt3 i)
    exact ⟨⟨i, k, hw.mp hi, hk, hm, ht, rfl⟩, hP'⟩
  · rintro ⟨⟨i, k, hi, hk, hm, ht, rfl⟩, hP'⟩
    have hw := in_window (pword_bounds h32 hk (by omega)) hP'.1 hP'.2 htt1 (htt3 i)
    exact ⟨⟨i, hw.mpr hi, k, hk, hm, ht, rfl⟩, hP'⟩

theorem storedPaths_lt (T h p : Nat) (h30 : h ≤ 30) (hp : p ∈ storedPaths T h) : p < 2^62 := by
  obtain ⟨i, k, hi, hk, _, _, rfl⟩ := (mem_storedPaths T h p (by omega)).mp hp
  have hp30 : 2^h ≤ 2^30 := pow_le_pow h30
  have hbd := pword_bounds (h := h) (i := i) (k := k) (by omega) hk (by omega)
  omega

theorem allPaths_all (T h to : Nat) (hT1 : 1 ≤ T) (hT31 : T < 2^31) (hh : height T = (h : Int))
    (hto : to < 2^64) (hto' : 2^62 ≤ to) :
    allPaths T 0 to = storedPaths T h := by
  have ⟨_, _, h30⟩ := C03L.height_spec hT1 hT31 hh
  rw [allPaths_eq T h 0 to hT1 hT31 hh hto, List.filter_eq_self]
  intro p hp
  have := storedPaths_lt T h p h30 hp
  simp; omega

/-- the bitmap test of `Decode` for a non-negative `int32` index is `bitAt` -/
theorem decode_pred (bm : List Nat) (idx : Nat) :
    (decide ((bm.length : Int) > (idx : Int) / 64) && decide ((idx : Int) / 64 ≥ 0) &&
      (bm.getD ((idx : Int) / 64).toNat 0).testBit ((idx : Int) % 64).toNat) = bitAt bm idx := by
  have e1 : ((idx : Int) / 64).toNat = idx / 64 := by omega
  have e2 : ((idx : Int) % 64).toNat = idx % 64 := by omega
  rw [e1, e2]
  unfold bitAt
  by_cases hl : idx / 64 < bm.length
  · have h1 : (bm.length : Int) > (idx : Int) / 64 := by omega
    have h2 : (idx : Int) / 64 ≥ 0 := by omega
    simp [h1, h2]
  · have h1 : ¬ (bm.length : Int) > (idx : Int) / 64 := by omega
    have : bm.getD (idx / 64) 0 = 0 := by
      simp only [List.getD]
      rw [List.getElem?_eq_none (by omega)]; rfl
    rw [this]
    simp [h1]

end Low.C04L
