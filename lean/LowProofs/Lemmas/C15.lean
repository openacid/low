import LowProofs.Lemmas.C12Bits
/-
  Helper lemmas for C15 (TailBitmap): the representation invariant, stated against an abstract
  membership predicate `S : Int → Prop`, its preservation by `dropOnes`/`compact`/`set`, and what
  `get`/`get1` return under it.
-/
namespace Low.C15L
open Low.C12L

/-- the invariant on the raw pair (offset, words), without the first-word clause -/
structure Pre (S : Int → Prop) (o : Int) (ws : List Nat) : Prop where
  dvd : (64 : Int) ∣ o
  ok : WordsOK ws
  below : ∀ j, j < o → S j
  bits : ∀ k : Nat, k < 64 * ws.length → (bitAt ws k = true ↔ S (o + k))
  covers : ∀ j, S j → j < o + 64 * ws.length

/-- representation invariant of a `TailBitmap` w.r.t. the abstract set `S` -/
structure Inv (S : Int → Prop) (tb : TailBitmap) : Prop where
  pre : Pre S tb.offset tb.words
  head : tb.words.head? ≠ some allOnes64

theorem Pre.congr {S S' : Int → Prop} {o : Int} {ws : List Nat} (e : ∀ j, S j ↔ S' j) (h : Pre S o ws) :
    Pre S' o ws :=
  ⟨h.dvd, h.ok, fun j hj => (e j).mp (h.below j hj), fun k hk => (h.bits k hk).trans (e _),
   fun j hj => h.covers j ((e j).mpr hj)⟩

theorem Inv.congr {S S' : Int → Prop} {tb : TailBitmap} (e : ∀ j, S j ↔ S' j) (h : Inv S tb) : Inv S' tb :=
  ⟨h.pre.congr e, h.head⟩

theorem allOnes64_testBit {k : Nat} (hk : k < 64) : allOnes64.testBit k = true := by
  rw [show allOnes64 = 2 ^ 64 - 1 by decide, Nat.testBit_two_pow_sub_one]; simp [hk]

theorem inv_new {o : Int} (ho : (64 : Int) ∣ o) : Inv (fun j => j < o) (newTailBitmap o) := by
  refine ⟨⟨ho, ?_, ?_, ?_, ?_⟩, ?_⟩
  · intro x hx; cases hx
  · intro j hj; exact hj
  · intro k hk; simp [newTailBitmap] at hk
  · intro j hj; simp [newTailBitmap]; exact hj
  · simp [newTailBitmap]

/-- `dropOnes` removes a prefix of all-ones words: each moves 64 members below the offset -/
theorem dropOnes_spec {S : Int → Prop} : ∀ (ws : List Nat) (o : Int), Pre S o ws →
    Pre S (dropOnes ws o).2 (dropOnes ws o).1 ∧ (dropOnes ws o).1.head? ≠ some allOnes64 ∧
    o ≤ (dropOnes ws o).2 ∧ (dropOnes ws o).2 + 64 * ((dropOnes ws o).1.length : Int) = o + 64 * (ws.length : Int)
  | [], o, h => by
    simp only [dropOnes]
    exact ⟨h, by simp, Int.le_refl _, by simp⟩
  | w :: r, o, h => by
    simp only [dropOnes]
    split
    · rename_i hw
      have hp : Pre S (o + 64) r := by
        refine ⟨?_, ?_, ?_, ?_, ?_⟩
        · have := h.dvd; omega
        · intro x hx; exact h.ok x (List.mem_cons_of_mem _ hx)
        · intro j hj
          by_cases hjo : j < o
          · exact h.below j hjo
          · have hk : (j - o).toNat < 64 := by omega
            have hb := (h.bits (j - o).toNat (by simp only [List.length_cons]; omega)).mp
              (by rw [bitAt_cons_lt w r hk, hw]; exact allOnes64_testBit hk)
            have e : o + ((j - o).toNat : Int) = j := by omega
            rwa [e] at hb
        · intro k hk
          have hb := h.bits (k + 64) (by simp only [List.length_cons]; omega)
          rw [bitAt_cons_add] at hb
          have e : o + ((k + 64 : Nat) : Int) = o + 64 + (k : Int) := by omega
          rwa [e] at hb
        · intro j hj
          have := h.covers j hj
          simp only [List.length_cons] at this
          omega
      obtain ⟨h1, h2, h3, h4⟩ := dropOnes_spec r (o + 64) hp
      refine ⟨h1, h2, by omega, ?_⟩
      simp only [List.length_cons]; omega
    · rename_i hw
      refine ⟨h, ?_, Int.le_refl _, rfl⟩
      simp only [List.head?_cons, ne_eq, Option.some.injEq]; exact hw

theorem compact_words (thr : Int) (tb : TailBitmap) : (tb.compact thr).words = (dropOnes tb.words tb.offset).1 := rfl
theorem compact_offset (thr : Int) (tb : TailBitmap) : (tb.compact thr).offset = (dropOnes tb.words tb.offset).2 := rfl

theorem compact_spec (thr : Int) {S : Int → Prop} {tb : TailBitmap} (h : Pre S tb.offset tb.words) :
    Inv S (tb.compact thr) ∧ tb.offset ≤ (tb.compact thr).offset ∧
    (tb.compact thr).offset + 64 * ((tb.compact thr).words.length : Int) = tb.offset + 64 * (tb.words.length : Int) := by
  obtain ⟨h1, h2, h3, h4⟩ := dropOnes_spec tb.words tb.offset h
  exact ⟨⟨h1, h2⟩, h3, h4⟩

/-- grow with zero words up to word `k/64`, then OR bit `k`: inserts `o + k` -/
theorem pre_orBit {S : Int → Prop} {o : Int} {ws : List Nat} (h : Pre S o ws) (k : Nat) :
    Pre (fun j => S j ∨ j = o + k) o
      ((ws ++ zeros (k / 64 + 1 - ws.length)).set (k / 64)
        ((ws ++ zeros (k / 64 + 1 - ws.length)).getD (k / 64) 0 ||| bit (k % 64))) := by
  have hlen : (ws ++ zeros (k / 64 + 1 - ws.length)).length = max ws.length (k / 64 + 1) := by
    simp [zeros]; omega
  have hq : k / 64 < (ws ++ zeros (k / 64 + 1 - ws.length)).length := by omega
  have hw := List.getElem?_eq_getElem hq
  generalize hws1 : ws ++ zeros (k / 64 + 1 - ws.length) = ws1 at *
  have hg : ws1.getD (k / 64) 0 = ws1[k / 64] := by simp [List.getD, hw]
  rw [hg]
  generalize ws1[k / 64] = w1 at *
  have hok1 : WordsOK ws1 := by rw [← hws1]; exact wordsOK_append_zeros h.ok _
  have hb1 : ∀ m, bitAt ws1 m = bitAt ws m := by intro m; rw [← hws1]; exact bitAt_append_zeros _ _ _
  refine ⟨h.dvd, ?_, ?_, ?_, ?_⟩
  · exact wordsOK_set hok1 _ _ (or_bit_lt (getElem?_of_wordsOK hok1 hw) (by omega))
  · intro j hj; exact Or.inl (h.below j hj)
  · intro m hm
    simp only [bit]
    rw [bitAt_set_or hw, hb1]
    simp only [Bool.or_eq_true, decide_eq_true_eq]
    clear hw hq hlen
    by_cases hmw : m < 64 * ws.length
    · rw [h.bits m hmw]
      exact or_congr Iff.rfl (by omega)
    · have hn : ¬ S (o + m) := fun h' => by have := h.covers _ h'; omega
      rw [bitAt_oob (by omega)]
      exact ⟨fun h' => h'.elim (nomatch ·) fun e => Or.inr (by omega),
        fun h' => h'.elim (absurd · hn) fun e => Or.inr (by omega)⟩
  · intro j hj
    simp only [List.length_set, hlen]
    rcases hj with h' | h'
    · have := h.covers j h'; omega
    · omega

theorem set_lt (thr : Int) {tb : TailBitmap} {i : Int} (h : i < tb.offset) : tb.set thr i = tb := by
  simp [TailBitmap.set, h]

theorem set_spec (thr : Int) {S : Int → Prop} {tb : TailBitmap} (i : Int) (h : Inv S tb) :
    Inv (fun j => S j ∨ j = i) (tb.set thr i) ∧ tb.offset ≤ (tb.set thr i).offset := by
  by_cases hi : i < tb.offset
  · rw [set_lt thr hi]
    refine ⟨⟨⟨h.pre.dvd, h.pre.ok, fun j hj => Or.inl (h.pre.below j hj), ?_, ?_⟩, h.head⟩, Int.le_refl _⟩
    · intro k hk
      rw [h.pre.bits k hk]
      exact ⟨Or.inl, fun h' => h'.elim id fun e => by omega⟩
    · rintro j (h' | h')
      · exact h.pre.covers j h'
      · have : (0 : Int) ≤ 64 * (tb.words.length : Int) := by omega
        omega
  · have hk : tb.offset + (((i - tb.offset).toNat : Nat) : Int) = i := by omega
    have hp := pre_orBit h.pre (i - tb.offset).toNat
    rw [hk] at hp
    simp only [TailBitmap.set, if_neg hi]
    generalize (i - tb.offset).toNat = k at *
    split
    · rename_i hq
      generalize (tb.words ++ zeros (k / 64 + 1 - tb.words.length)).set (k / 64)
        ((tb.words ++ zeros (k / 64 + 1 - tb.words.length)).getD (k / 64) 0 ||| bit (k % 64)) = ws2 at *
      have := compact_spec thr (tb := { tb with words := ws2 }) hp
      exact ⟨this.1, this.2.1⟩
    · rename_i hq
      refine ⟨⟨hp, ?_⟩, Int.le_refl _⟩
      have hh := h.head
      simp only [List.head?_eq_getElem?] at hh ⊢
      rw [List.getElem?_set_ne hq, List.getElem?_append]
      split
      · exact hh
      · simp only [zeros, List.getElem?_replicate]
        split
        · simp [allOnes64]
        · simp

theorem Pre.testBit {S : Int → Prop} {o : Int} {ws : List Nat} (h : Pre S o ws) {j : Int} [Decidable (S j)]
    (hjo : ¬ j < o) (hj : j < o + 64 * (ws.length : Int)) :
    ∃ w, ws[(j - o).toNat / 64]? = some w ∧ w.testBit ((j - o).toNat % 64) = decide (S j) := by
  have hk : o + (((j - o).toNat : Nat) : Int) = j := by omega
  have hlt : (j - o).toNat < 64 * ws.length := by omega
  have hw := List.getElem?_eq_getElem (show (j - o).toNat / 64 < ws.length by omega)
  have hb := h.bits _ hlt
  rw [hk, bitAt_eq hw] at hb
  exact ⟨_, hw, Bool.eq_iff_iff.2 (hb.trans decide_eq_true_iff.symm)⟩

theorem get1_spec {S : Int → Prop} {tb : TailBitmap} (h : Pre S tb.offset tb.words) (j : Int)
    [Decidable (S j)] (hj : j < tb.offset + 64 * (tb.words.length : Int)) :
    tb.get1 j = some (if S j then 1 else 0) := by
  by_cases hjo : j < tb.offset
  · simp [TailBitmap.get1, hjo, h.below j hjo]
  · obtain ⟨w, hw, hb⟩ := h.testBit hjo hj
    simp only [TailBitmap.get1, if_neg hjo, hw, shiftRight_mod_two, hb]
    by_cases hs : S j <;> simp [hs]

theorem get_spec {S : Int → Prop} {tb : TailBitmap} (h : Pre S tb.offset tb.words) (j : Int)
    [Decidable (S j)] (hj : j < tb.offset + 64 * (tb.words.length : Int)) :
    tb.get j = some (if S j then 2 ^ (j % 64).toNat else 0) := by
  by_cases hjo : j < tb.offset
  · simp [TailBitmap.get, hjo, h.below j hjo, bit]
  · obtain ⟨w, hw, hb⟩ := h.testBit hjo hj
    -- the offset is a multiple of 64
    have hm : (j % 64).toNat = (j - tb.offset).toNat % 64 := by
      have := h.dvd
      omega
    simp only [TailBitmap.get, if_neg hjo, hw, bit, and_two_pow_eq, hb, hm]
    by_cases hs : S j <;> simp [hs, Nat.shiftLeft_eq]

theorem get_oob {tb : TailBitmap} {j : Int} (hj : tb.offset + 64 * (tb.words.length : Int) ≤ j) :
    tb.get j = none ∧ tb.get1 j = none := by
  have hjo : ¬ j < tb.offset := by omega
  have hlt : tb.words.length ≤ (j - tb.offset).toNat / 64 := by omega
  simp only [TailBitmap.get, TailBitmap.get1, if_neg hjo, List.getElem?_eq_none hlt, and_self]

end Low.C15L
