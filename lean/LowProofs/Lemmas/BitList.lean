import LowProofs.Lemmas.Bits
/- bit lists: `bitsVal`, the bit views `byteBits` / `bitsBE` of bytes, `BytesOK` of parts of a string, the order `lexCmp`, the common prefix length `lcp` -/
namespace Low

theorem bitsVal_append : ∀ (l1 l2 : List Bool), bitsVal (l1 ++ l2) = bitsVal l1 * 2 ^ l2.length + bitsVal l2
  | [], l2 => by simp [bitsVal]
  | b :: r, l2 => by
    simp only [List.cons_append, bitsVal, bitsVal_append r l2, List.length_append, Nat.pow_add,
      Nat.add_mul, Nat.mul_assoc, Nat.add_assoc]

theorem bitsVal_concat (a : List Bool) (b : Bool) : bitsVal (a ++ [b]) = 2 * bitsVal a + b.toNat := by
  rw [bitsVal_append]; simp [bitsVal]; omega

theorem bitsVal_lt : ∀ (l : List Bool), bitsVal l < 2 ^ l.length
  | [] => by simp [bitsVal]
  | b :: r => by
    have := bitsVal_lt r
    simp only [bitsVal, List.length_cons, Nat.pow_succ]
    cases b <;> simp <;> omega

theorem bitsVal_replicate_false : ∀ k, bitsVal (List.replicate k false) = 0
  | 0 => rfl
  | k+1 => by simp [List.replicate_succ, bitsVal, bitsVal_replicate_false k]

@[simp] theorem length_byteBits (b : Nat) : (byteBits b).length = 8 := by simp [byteBits]

theorem bitsBE_nil : bitsBE [] = [] := rfl

theorem bitsBE_cons (b : Nat) (s : List Nat) : bitsBE (b :: s) = byteBits b ++ bitsBE s := by
  simp [bitsBE]

theorem bitsBE_append (s t : List Nat) : bitsBE (s ++ t) = bitsBE s ++ bitsBE t := by
  simp [bitsBE]

theorem length_bitsBE : ∀ s : List Nat, (bitsBE s).length = 8 * s.length
  | [] => rfl
  | b :: r => by
    rw [bitsBE_cons, List.length_append, length_byteBits, length_bitsBE r, List.length_cons, Nat.mul_succ,
      Nat.add_comm]

theorem bitsBE_drop : ∀ (j : Nat) (s : List Nat), (bitsBE s).drop (8 * j) = bitsBE (s.drop j)
  | 0, s => by simp
  | j+1, [] => by simp [bitsBE]
  | j+1, b :: s => by
    rw [bitsBE_cons, List.drop_succ_cons, ← bitsBE_drop j s, Nat.mul_succ, Nat.add_comm,
      ← List.drop_drop, List.drop_left' (length_byteBits b)]

theorem bitsBE_take : ∀ (j : Nat) (s : List Nat), (bitsBE s).take (8 * j) = bitsBE (s.take j)
  | 0, s => by simp [bitsBE]
  | j+1, [] => by simp [bitsBE]
  | j+1, b :: s => by
    rw [List.take_succ_cons, bitsBE_cons, bitsBE_cons, ← bitsBE_take j s, Nat.mul_succ, Nat.add_comm,
      List.take_append, length_byteBits, List.take_of_length_le (by simp), Nat.add_sub_cancel_left]

theorem getD_lt {s : List Nat} (hs : BytesOK s) (k : Nat) : s.getD k 0 < 256 := by
  rw [List.getD_eq_getElem?_getD]
  cases e : s[k]? with
  | none => decide
  | some v => exact hs v (List.mem_of_getElem? e)

theorem bytesOK_cons {x : Nat} {s : List Nat} : BytesOK (x :: s) ↔ x < 256 ∧ BytesOK s := by
  simp [BytesOK]

theorem bytesOK_drop {s : List Nat} (h : BytesOK s) (i : Nat) : BytesOK (s.drop i) :=
  fun b hb => h b (List.mem_of_mem_drop hb)

theorem map_getD_range : ∀ (bs : List Nat) (L : Nat), bs.length ≤ L →
    (List.range L).map (fun k => bs.getD k 0) = bs ++ List.replicate (L - bs.length) 0
  | [], L, _ => by simp [List.map_const']
  | b :: bs, L+1, h => by
    rw [List.range_succ_eq_map, List.map_cons, List.map_map, List.length_cons, Nat.succ_sub_succ, List.cons_append,
      ← map_getD_range bs L (Nat.le_of_succ_le_succ h)]
    rfl

theorem lexCmp_cons (a b : Bool) (as bs : List Bool) :
    lexCmp (a :: as) (b :: bs) = if a = b then lexCmp as bs else if a = false then -1 else 1 := rfl

theorem lexCmp_nil_left (y : List Bool) : lexCmp [] y ≠ 1 := by
  cases y <;> simp [lexCmp]

theorem lexCmp_self : ∀ a, lexCmp a a = 0
  | [] => rfl
  | x :: a => by simp [lexCmp, lexCmp_self a]

theorem lexCmp_eq_zero : ∀ a b, lexCmp a b = 0 ↔ a = b
  | [], [] => by simp [lexCmp]
  | [], _ :: _ => by simp [lexCmp]
  | _ :: _, [] => by simp [lexCmp]
  | x :: a, y :: b => by
    have ih := lexCmp_eq_zero a b
    cases x <;> cases y <;> simp [lexCmp, ih]

theorem lexCmp_swap : ∀ a b, lexCmp b a = - lexCmp a b
  | [], [] => by simp [lexCmp]
  | [], _ :: _ => by simp [lexCmp]
  | _ :: _, [] => by simp [lexCmp]
  | x :: a, y :: b => by
    have ih := lexCmp_swap a b
    cases x <;> cases y <;> simp [lexCmp, ih]

theorem lexCmp_range : ∀ a b, lexCmp a b = -1 ∨ lexCmp a b = 0 ∨ lexCmp a b = 1
  | [], [] => by simp [lexCmp]
  | [], _ :: _ => by simp [lexCmp]
  | _ :: _, [] => by simp [lexCmp]
  | x :: a, y :: b => by
    have ih := lexCmp_range a b
    cases x <;> cases y <;> simp [lexCmp, ih]

theorem lexCmp_trans_lt : ∀ a b c, lexCmp a b = -1 → lexCmp b c = -1 → lexCmp a c = -1
  | [], [], _, h, _ => by simp [lexCmp] at h
  | [], _ :: _, [], _, h => by simp [lexCmp] at h
  | [], _ :: _, _ :: _, _, _ => by simp [lexCmp]
  | _ :: _, [], _, h, _ => by simp [lexCmp] at h
  | _ :: _, _ :: _, [], _, h => by simp [lexCmp] at h
  | x :: a, y :: b, z :: c, h1, h2 => by
    have ih := lexCmp_trans_lt a b c
    cases x <;> cases y <;> cases z <;> simp [lexCmp] at h1 h2 ⊢
    all_goals exact ih h1 h2

theorem lexCmp_append_left : ∀ (c a b : List Bool), lexCmp (c ++ a) (c ++ b) = lexCmp a b
  | [], a, b => rfl
  | x :: c, a, b => by simp [lexCmp, lexCmp_append_left c a b]

theorem lexCmp_append : ∀ (a b c d : List Bool), a.length = b.length →
    lexCmp (a ++ c) (b ++ d) = if lexCmp a b ≠ 0 then lexCmp a b else lexCmp c d
  | [], [], c, d, _ => by simp [lexCmp]
  | [], _ :: _, _, _, h => by simp at h
  | _ :: _, [], _, _, h => by simp at h
  | x :: a, y :: b, c, d, h => by
    have ih := lexCmp_append a b c d (by simpa using h)
    cases x <;> cases y <;> simp [lexCmp, ih]

theorem lexCmp_prefix : ∀ (a b : List Bool), b ≠ [] → lexCmp a (a ++ b) = -1
  | [], [], h => absurd rfl h
  | [], _ :: _, _ => by simp [lexCmp]
  | x :: a, b, h => by simp [lexCmp, lexCmp_prefix a b h]

theorem lexCmp_branch : ∀ (a x y : List Bool), lexCmp (a ++ false :: x) (a ++ true :: y) = -1
  | [], x, y => by simp [lexCmp]
  | z :: a, x, y => by simp [lexCmp, lexCmp_branch a x y]

theorem lexCmp_take : ∀ (n : Nat) (x y : List Bool), lexCmp x y ≠ 1 → lexCmp (x.take n) (y.take n) ≠ 1
  | 0, _, _, _ => by simp [lexCmp]
  | n+1, [], y, _ => by simpa using lexCmp_nil_left _
  | n+1, _ :: _, [], h => by simp [lexCmp] at h
  | n+1, a :: x, b :: y, h => by
    rw [lexCmp_cons] at h
    rw [List.take_succ_cons, List.take_succ_cons, lexCmp_cons]
    by_cases e : a = b
    · rw [if_pos e] at h ⊢; exact lexCmp_take n x y h
    · rw [if_neg e] at h ⊢; exact h

theorem lcp_nil_left {α} [DecidableEq α] (b : List α) : lcp [] b = 0 := by
  cases b <;> rfl

theorem lcp_nil_right {α} [DecidableEq α] (a : List α) : lcp a [] = 0 := by
  cases a <;> rfl

theorem lcp_cons {α} [DecidableEq α] (x y : α) (a b : List α) :
    lcp (x :: a) (y :: b) = if x = y then 1 + lcp a b else 0 := rfl

theorem lcp_le_left {α} [DecidableEq α] : ∀ (a b : List α), lcp a b ≤ a.length
  | [], b => by simp [lcp_nil_left]
  | _ :: _, [] => by simp [lcp_nil_right]
  | x :: a, y :: b => by
    have := lcp_le_left a b
    rw [lcp_cons]; split <;> simp <;> omega

theorem lcp_comm {α} [DecidableEq α] : ∀ (a b : List α), lcp a b = lcp b a
  | [], b => by simp [lcp_nil_left, lcp_nil_right]
  | _ :: _, [] => by simp [lcp_nil_left, lcp_nil_right]
  | x :: a, y :: b => by
    rw [lcp_cons, lcp_cons, lcp_comm a b]
    by_cases h : x = y
    · subst h; simp
    · have h' : ¬ y = x := fun e => h e.symm
      simp [h, h']

theorem lcp_le_right {α} [DecidableEq α] (a b : List α) : lcp a b ≤ b.length := by
  rw [lcp_comm]; exact lcp_le_left b a

theorem lcp_self {α} [DecidableEq α] : ∀ (a : List α), lcp a a = a.length
  | [] => rfl
  | x :: a => by rw [lcp_cons, lcp_self a]; simp; omega

theorem lcp_append_left {α} [DecidableEq α] : ∀ (p a b : List α), lcp (p ++ a) (p ++ b) = p.length + lcp a b
  | [], a, b => by simp
  | x :: p, a, b => by
    simp only [List.cons_append, lcp_cons, lcp_append_left p a b, List.length_cons]
    simp; omega

theorem lcp_append_of_ne {α} [DecidableEq α] : ∀ (x y a b : List α), x.length = y.length → x ≠ y →
    lcp (x ++ a) (y ++ b) = lcp x y ∧ lcp x y < x.length
  | [], [], _, _, _, h => absurd rfl h
  | [], _ :: _, _, _, hl, _ => by simp at hl
  | _ :: _, [], _, _, hl, _ => by simp at hl
  | u :: x, v :: y, a, b, hl, h => by
    simp only [List.cons_append, lcp_cons, List.length_cons]
    by_cases e : u = v
    · subst e
      have h' : x ≠ y := fun e => h (by rw [e])
      have := lcp_append_of_ne x y a b (by simpa using hl) h'
      simp only [if_true]; omega
    · simp [e]

theorem le_lcp_iff {α} [DecidableEq α] : ∀ (n : Nat) (a b : List α),
    n ≤ lcp a b ↔ n ≤ a.length ∧ n ≤ b.length ∧ a.take n = b.take n
  | 0, a, b => by simp
  | n+1, [], b => by simp [lcp_nil_left]
  | n+1, _ :: _, [] => by simp [lcp_nil_right]
  | n+1, x :: a, y :: b => by
    rw [lcp_cons]
    by_cases e : x = y
    · subst e
      have := le_lcp_iff n a b
      simp only [if_true, List.length_cons, List.take_succ_cons, List.cons.injEq, true_and]
      constructor
      · intro h
        obtain ⟨h1, h2, h3⟩ := this.1 (by omega)
        exact ⟨by omega, by omega, h3⟩
      · rintro ⟨h1, h2, h3⟩
        have := this.2 ⟨by omega, by omega, h3⟩
        omega
    · simp [e]

theorem lcp_take {α} [DecidableEq α] (x y : List α) : x.take (lcp x y) = y.take (lcp x y) :=
  ((le_lcp_iff (lcp x y) x y).1 (Nat.le_refl _)).2.2

theorem lcp_getElem?_ne {α} [DecidableEq α] : ∀ (x y : List α), lcp x y < x.length → lcp x y < y.length →
    x[lcp x y]? ≠ y[lcp x y]?
  | [], _, h, _ => by simp at h
  | _ :: _, [], _, h => by simp at h
  | u :: x, v :: y, h1, h2 => by
    rw [lcp_cons] at h1 h2 ⊢
    by_cases e : u = v
    · subst e
      simp only [if_true, List.length_cons] at h1 h2 ⊢
      have := lcp_getElem?_ne x y (by omega) (by omega)
      rw [Nat.add_comm 1, List.getElem?_cons_succ, List.getElem?_cons_succ]
      exact this
    · simp [e]

/-- ultrametric inequality, in the form used to change the reference key -/
theorem min_lcp_swap {α} [DecidableEq α] {m : Nat} {a b : List α} (h : m ≤ lcp a b) (x : List α) :
    min m (lcp a x) = min m (lcp b x) := by
  have key : ∀ n, n ≤ min m (lcp a x) ↔ n ≤ min m (lcp b x) := by
    intro n
    simp only [Nat.le_min, le_lcp_iff]
    constructor
    · rintro ⟨hm, h1, h2, h3⟩
      obtain ⟨_, g2, g3⟩ := (le_lcp_iff n a b).1 (by omega)
      exact ⟨hm, g2, h2, g3.symm.trans h3⟩
    · rintro ⟨hm, h1, h2, h3⟩
      obtain ⟨g1, _, g3⟩ := (le_lcp_iff n a b).1 (by omega)
      exact ⟨hm, g1, h2, g3.trans h3⟩
  apply Nat.le_antisymm
  · exact (key _).1 (Nat.le_refl _)
  · exact (key _).2 (Nat.le_refl _)

theorem lcp_bits_cons_eq (x : Nat) (a b : List Nat) :
    lcp (bitsBE (x :: a)) (bitsBE (x :: b)) = 8 + lcp (bitsBE a) (bitsBE b) := by
  rw [bitsBE_cons, bitsBE_cons, lcp_append_left, length_byteBits]

end Low
