import LowProofs.Lemmas.C12Bits
/-
  Helper lemmas for C13 (NextOne / PrevOne), on top of the `tz` / `bitLen` facts of Lemmas/Bits.lean:
  `rmask` / `maskUpto` keep the bits at or above / at or below a position; a scan is a (masked) word that hits
  (`Fwd.hit`, `Bwd.hit`) or a clear stretch followed by a scan (`Fwd.extend`, `Bwd.extend`).
-/
namespace Low.C13L
open Low Low.C12L

theorem tz_le : ∀ (n w : Nat), tz w n ≤ n := Low.tz_le

theorem testBit_rmask (j k : Nat) (hj : j ≤ 64) :
    (rmask j).testBit k = (decide (j ≤ k) && decide (k < 64)) := by
  have e : M64 - 1 = 2^64 - 1 := by decide
  simp only [rmask, not64, mask, e, Nat.testBit_xor, Nat.testBit_two_pow_sub_one]
  by_cases h1 : k < 64 <;> by_cases h2 : k < j <;> simp [h1, h2] <;> omega

theorem testBit_and_rmask (w j k : Nat) (hj : j ≤ 64) :
    (w &&& rmask j).testBit k = (w.testBit k && (decide (j ≤ k) && decide (k < 64))) := by
  rw [Nat.testBit_and, testBit_rmask j k hj]

theorem testBit_and_maskUpto (w j k : Nat) :
    (w &&& maskUpto j).testBit k = (w.testBit k && decide (k ≤ j)) := by
  simp only [maskUpto, Nat.testBit_and, Nat.testBit_two_pow_sub_one]
  by_cases h : k ≤ j
  · have : k < j + 1 := by omega
    simp [h, this]
  · have : ¬ k < j + 1 := by omega
    simp [h, this]

theorem and_lt_of_lt {w m : Nat} (hw : w < 2^64) : w &&& m < 2^64 :=
  Nat.lt_of_le_of_lt Nat.and_le_left hw


/-- `r` answers a forward scan of `[a, e)`: nothing set there, or the least set position `q ≥ a`
    (possibly `≥ e`; `NextOne` clips afterwards) -/
def Fwd (ws : List Nat) (a e : Nat) (r : Option Nat) : Prop :=
  (r = none ∧ ∀ p, a ≤ p → p < e → bitAt ws p = false) ∨
  (∃ q, r = some q ∧ a ≤ q ∧ bitAt ws q = true ∧ ∀ p, a ≤ p → p < q → bitAt ws p = false)

theorem Fwd.extend {ws : List Nat} {a b e : Nat} {r : Option Nat} (hab : a ≤ b)
    (hclr : ∀ p, a ≤ p → p < b → bitAt ws p = false) (h : Fwd ws b e r) : Fwd ws a e r := by
  have key : ∀ q, (∀ p, b ≤ p → p < q → bitAt ws p = false) → ∀ p, a ≤ p → p < q → bitAt ws p = false :=
    fun q hq p h1 h2 => if hp : p < b then hclr p h1 hp else hq p (by omega) h2
  rcases h with ⟨hr, hall⟩ | ⟨q, hq, hq1, hq2, hq3⟩
  · exact Or.inl ⟨hr, key e hall⟩
  · exact Or.inr ⟨q, hq, by omega, hq2, key q hq3⟩

/-- a non-zero word `w` that shows the bits of word `k` from position `a` on and nothing below: its lowest
    set bit is the answer. (`w` is the word itself in the loop, the masked word at the start.) -/
theorem Fwd.hit {ws : List Nat} {k w a e : Nat} (h0 : w ≠ 0) (hw64 : w < 2^64) (ha : 64 * k ≤ a)
    (hm : ∀ p, a ≤ p → p < 64 * k + 64 → bitAt ws p = w.testBit (p - 64 * k))
    (hlow : ∀ j, 64 * k + j < a → w.testBit j = false) :
    Fwd ws a e (some (64 * k + tz w 64)) := by
  have ht := tz_lt h0 hw64
  have hb := tz_testBit 64 w ht
  have hge : a ≤ 64 * k + tz w 64 := Nat.le_of_not_lt fun h => by rw [hlow _ h] at hb; cases hb
  refine Or.inr ⟨_, rfl, hge, ?_, fun p h1 h2 => ?_⟩
  · rw [hm _ hge (by omega), Nat.add_sub_cancel_left]
    exact hb
  · rw [hm p h1 (by omega)]
    exact tz_lt_false 64 _ _ (by omega)

/-- the whole-word loop of `NextOne`, started at word `k`: it does not panic and scans `[64k, e)` -/
theorem nextLoop_spec {ws : List Nat} (hok : WordsOK ws) {e : Nat} (he : e ≤ 64 * ws.length) :
    ∀ (n k : Nat), k + n = ws.length →
      ∃ r, nextLoop e (ws.drop k) (64 * k) = some r ∧ Fwd ws (64 * k) e r
  | 0, k, hn => by
    have hd : ws.drop k = [] := List.drop_eq_nil_of_le (by omega)
    exact ⟨none, by simp [hd, nextLoop, show ¬ 64 * k < e by omega], Or.inl ⟨rfl, fun p h1 h2 => by omega⟩⟩
  | n+1, k, hn => by
    have hlt : k < ws.length := by omega
    have hw : ws[k]? = some ws[k] := List.getElem?_eq_getElem hlt
    rw [List.drop_eq_getElem_cons hlt]
    simp only [nextLoop]
    by_cases hie : 64 * k < e
    · rw [if_pos hie]
      by_cases h0 : ws[k] = 0
      · rw [if_neg (by simpa using h0)]
        obtain ⟨r, hr, hspec⟩ := nextLoop_spec hok he n (k + 1) (by omega)
        exact ⟨r, hr, hspec.extend (by omega) fun p h1 h2 => bitAt_zero_word (by rw [hw, h0]) h1 (by omega)⟩
      · rw [if_pos h0]
        exact ⟨_, rfl, Fwd.hit h0 (getElem?_of_wordsOK hok hw) (Nat.le_refl _)
          (fun p h1 h2 => bitAt_in_word hw h1 h2) fun j hj => by omega⟩
    · rw [if_neg hie]
      exact ⟨none, rfl, Or.inl ⟨rfl, fun p h1 h2 => by omega⟩⟩

/-- first (masked) word plus whole-word loop of `NextOne`, then the clip at `e` -/
theorem nextOne_scan {ws : List Nat} (hok : WordsOK ws) {i e w0 : Nat} (he : e ≤ 64 * ws.length)
    (hw : ws[i / 64]? = some w0) :
    ∃ nxt, Fwd ws i e nxt ∧ nextOne ws i e =
      match nxt with
      | none => some (-1)
      | some p => if p ≥ e then some (-1) else some (p : Int) := by
  have hj : i % 64 ≤ 64 := by omega
  -- from position `i` to the end of its word, the masked word shows the bitmap
  have hm : ∀ p, i ≤ p → p < 64 * (i / 64) + 64 →
      bitAt ws p = (w0 &&& rmask (i % 64)).testBit (p - 64 * (i / 64)) := by
    intro p h1 h2
    rw [bitAt_in_word hw (by omega) h2, testBit_and_rmask _ _ _ hj,
      decide_eq_true (show i % 64 ≤ p - 64 * (i / 64) by omega), decide_eq_true (show p - 64 * (i / 64) < 64 by omega)]
    simp
  simp only [nextOne, hw, Option.bind_eq_bind, Option.bind_some]
  by_cases h0 : w0 &&& rmask (i % 64) = 0
  · have ek : (i + 63) / 64 * 64 / 64 = (i + 63) / 64 := by omega
    have ek2 : (i + 63) / 64 * 64 = 64 * ((i + 63) / 64) := by omega
    obtain ⟨hlen, _⟩ := List.getElem?_eq_some_iff.1 hw
    obtain ⟨r, hr, hspec⟩ := nextLoop_spec hok he (ws.length - (i + 63) / 64) ((i + 63) / 64) (by omega)
    refine ⟨r, hspec.extend (by omega) fun p h1 h2 => ?_, ?_⟩
    · rw [hm p h1 (by omega), h0, Nat.zero_testBit]
    · rw [if_neg (by simpa using h0), ek, ek2, hr]
      cases r <;> rfl
  · rw [if_pos h0, Nat.mul_comm (i / 64) 64]
    refine ⟨_, Fwd.hit h0 (and_lt_of_lt (getElem?_of_wordsOK hok hw)) (by omega) hm fun j hlt => ?_, rfl⟩
    rw [testBit_and_rmask _ _ _ hj, decide_eq_false (show ¬ i % 64 ≤ j by omega)]
    simp

/-- `r` answers a backward scan of `[i, e)`: nothing set there, or the greatest set position `q < e`
    (possibly `< i`; `PrevOne` clips afterwards) -/
def Bwd (ws : List Nat) (i e : Nat) (r : Option Nat) : Prop :=
  (r = none ∧ ∀ p, i ≤ p → p < e → bitAt ws p = false) ∨
  (∃ q, r = some q ∧ q < e ∧ bitAt ws q = true ∧ ∀ p, q < p → p < e → bitAt ws p = false)

theorem Bwd.extend {ws : List Nat} {i b e : Nat} {r : Option Nat} (hbe : b ≤ e)
    (hclr : ∀ p, b ≤ p → p < e → bitAt ws p = false) (h : Bwd ws i b r) : Bwd ws i e r := by
  have key : ∀ q, (∀ p, q ≤ p → p < b → bitAt ws p = false) → ∀ p, q ≤ p → p < e → bitAt ws p = false :=
    fun q hq p h1 h2 => if hp : p < b then hq p h1 hp else hclr p (by omega) h2
  rcases h with ⟨hr, hall⟩ | ⟨q, hq, hq1, hq2, hq3⟩
  · exact Or.inl ⟨hr, key i hall⟩
  · exact Or.inr ⟨q, hq, by omega, hq2, fun p h1 h2 => key (q + 1) (fun p h1 h2 => hq3 p h1 h2) p h1 h2⟩

/-- a non-zero word `w` that shows the bits of word `k` below position `e` and nothing from `e` on: its highest
    set bit is the answer -/
theorem Bwd.hit {ws : List Nat} {k w i e : Nat} (h0 : w ≠ 0) (hw64 : w < 2^64) (he : e ≤ 64 * k + 64)
    (hm : ∀ p, 64 * k ≤ p → p < e → bitAt ws p = w.testBit (p - 64 * k))
    (hhigh : ∀ j, j < 64 → e ≤ 64 * k + j → w.testBit j = false) :
    Bwd ws i e (some (64 * k + (bitLen w 64 - 1))) := by
  have hpos := bitLen_pos h0 hw64
  have hle := bitLen_le w 64
  have hb := bitLen_testBit w 64 hpos
  have hlt : 64 * k + (bitLen w 64 - 1) < e :=
    Nat.lt_of_not_le fun h => by rw [hhigh _ (by omega) h] at hb; cases hb
  refine Or.inr ⟨_, rfl, hlt, ?_, fun p h1 h2 => ?_⟩
  · rw [hm _ (by omega) hlt, Nat.add_sub_cancel_left]
    exact hb
  · rw [hm p (by omega) h2]
    exact bitLen_ge_false w 64 _ (by omega) (by omega)

theorem take_succ_reverse {ws : List Nat} {k : Nat} (hlt : k < ws.length) :
    (ws.take (k + 1)).reverse = ws[k] :: (ws.take k).reverse := by
  rw [List.take_add_one, List.getElem?_eq_getElem hlt]
  simp

/-- the backward whole-word loop of `PrevOne`, started below word `k`: it does not panic and scans `[i, 64k)` -/
theorem prevLoop_spec {ws : List Nat} (hok : WordsOK ws) (i : Nat) :
    ∀ (k : Nat), k ≤ ws.length → ∃ r, prevLoop i ((ws.take k).reverse) k = some r ∧ Bwd ws i (64 * k) r
  | 0, _ => ⟨none, by simp [prevLoop], Or.inl ⟨rfl, fun p h1 h2 => by omega⟩⟩
  | k+1, hk => by
    have hlt : k < ws.length := by omega
    have hw : ws[k]? = some ws[k] := List.getElem?_eq_getElem hlt
    rw [take_succ_reverse hlt]
    simp only [prevLoop]
    by_cases hie : 64 * (k + 1) > i
    · rw [if_pos hie]
      by_cases h0 : ws[k] = 0
      · rw [if_neg (by simpa using h0), Nat.add_sub_cancel]
        obtain ⟨r, hr, hspec⟩ := prevLoop_spec hok i k (by omega)
        exact ⟨r, hr, hspec.extend (by omega) fun p h1 h2 => bitAt_zero_word (by rw [hw, h0]) h1 (by omega)⟩
      · rw [if_pos h0]
        have hb := bitLen_pos h0 (getElem?_of_wordsOK hok hw)
        have hb2 := bitLen_le ws[k] 64
        have eq : 64 * (k + 1) - 1 - lz ws[k] 64 = 64 * k + (bitLen ws[k] 64 - 1) := by
          simp only [lz]; omega
        rw [eq]
        exact ⟨_, rfl, Bwd.hit h0 (getElem?_of_wordsOK hok hw) (by omega)
          (fun p h1 h2 => bitAt_in_word hw h1 (by omega)) fun j hj h => by omega⟩
    · rw [if_neg hie]
      exact ⟨none, rfl, Or.inl ⟨rfl, fun p h1 h2 => by omega⟩⟩

/-- last (masked) word plus backward whole-word loop of `PrevOne`, then the clip at `i` -/
theorem prevOne_scan {ws : List Nat} (hok : WordsOK ws) {i e w0 : Nat} (he : e ≠ 0)
    (hw : ws[(e - 1) / 64]? = some w0) :
    ∃ prv, Bwd ws i e prv ∧ prevOne ws i e =
      match prv with
      | none => some (-1)
      | some p => if p < i then some (-1) else some (p : Int) := by
  obtain ⟨e1, rfl⟩ : ∃ e1, e = e1 + 1 := ⟨e - 1, by omega⟩
  rw [Nat.add_sub_cancel] at hw
  -- from the start of its word up to position `e1`, the masked word shows the bitmap
  have hm : ∀ p, 64 * (e1 / 64) ≤ p → p < e1 + 1 →
      bitAt ws p = (w0 &&& maskUpto (e1 % 64)).testBit (p - 64 * (e1 / 64)) := by
    intro p h1 h2
    rw [bitAt_in_word hw h1 (by omega), testBit_and_maskUpto,
      decide_eq_true (show p - 64 * (e1 / 64) ≤ e1 % 64 by omega), Bool.and_true]
  simp only [prevOne, if_neg he, Nat.add_sub_cancel, hw, Option.bind_eq_bind, Option.bind_some]
  by_cases h0 : w0 &&& maskUpto (e1 % 64) = 0
  · obtain ⟨hlen, _⟩ := List.getElem?_eq_some_iff.1 hw
    obtain ⟨r, hr, hspec⟩ := prevLoop_spec hok i (e1 / 64) (by omega)
    refine ⟨r, hspec.extend (by omega) fun p h1 h2 => ?_, ?_⟩
    · rw [hm p h1 h2, h0, Nat.zero_testBit]
    · rw [if_neg (by simpa using h0), hr]
      cases r <;> rfl
  · have hw64 := and_lt_of_lt (m := maskUpto (e1 % 64)) (getElem?_of_wordsOK hok hw)
    have hpos := bitLen_pos h0 hw64
    have hle := bitLen_le (w0 &&& maskUpto (e1 % 64)) 64
    have eq : e1 / 64 * 64 + 63 - lz (w0 &&& maskUpto (e1 % 64)) 64
        = 64 * (e1 / 64) + (bitLen (w0 &&& maskUpto (e1 % 64)) 64 - 1) := by
      simp only [lz]; omega
    rw [if_pos h0, eq]
    refine ⟨_, Bwd.hit h0 hw64 (by omega) hm fun j _ h => ?_, rfl⟩
    rw [testBit_and_maskUpto, decide_eq_false (show ¬ j ≤ e1 % 64 by omega), Bool.and_false]

end Low.C13L
