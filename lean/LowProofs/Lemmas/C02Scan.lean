import LowProofs.Lemmas.C02Word
/- C02 helpers, part 4: masked words and the next-1 scan `nextNonZero` -/
namespace Low.C02L

/-- `w` is `w0` with the bits below `c` cleared -/
def Masked (w0 c w : Nat) : Prop := ∀ j, w.testBit j = (w0.testBit j && decide (c ≤ j))

theorem masked_refl (w0 : Nat) : Masked w0 0 w0 := by intro j; simp

theorem testBit_not64_mask (c j : Nat) :
    (not64 (mask c)).testBit j = (decide (j < 64) ^^ decide (j < c)) := by
  have : not64 (mask c) = (2^64 - 1) ^^^ (2^c - 1) := rfl
  rw [this, Nat.testBit_xor, Nat.testBit_two_pow_sub_one, Nat.testBit_two_pow_sub_one]

theorem masked_and {w0 c w d : Nat} (h0 : w0 < 2^64) (hm : Masked w0 c w) :
    Masked w0 (max c d) (w &&& not64 (mask d)) := by
  intro j
  rw [Nat.testBit_and, hm j, testBit_not64_mask d j]
  by_cases h64 : j < 64
  · have e1 : decide (max c d ≤ j) = (decide (c ≤ j) && decide (d ≤ j)) := by
      simp only [Nat.max_le, Bool.decide_and]
    have e2 : decide (j < d) = !decide (d ≤ j) := by
      by_cases h : d ≤ j
      · have h' : ¬ j < d := by omega
        simp [h, h']
      · have h' : j < d := by omega
        simp [h, h']
    rw [e1, e2]; simp [h64, Bool.and_assoc]
  · simp [testBit_false_of_lt h0 (by omega : 64 ≤ j)]

theorem masked_exists_bit {w0 c w : Nat} (h0 : w0 < 2^64) (hm : Masked w0 c w) (hz : w ≠ 0) :
    ∃ j, j < 64 ∧ w.testBit j = true := by
  obtain ⟨j, hj⟩ := Nat.exists_testBit_of_ne_zero hz
  refine ⟨j, ?_, hj⟩
  rcases Nat.lt_or_ge j 64 with h | h
  · exact h
  · rw [hm j, testBit_false_of_lt h0 h] at hj; simp at hj

theorem drop_cons_facts {ws : List Nat} {wI w : Nat} {r : List Nat} (hd : ws.drop wI = w :: r) :
    ws[wI]? = some w ∧ wI < ws.length ∧ ws.drop (wI + 1) = r := by
  have h1 : ws[wI]? = some w := by
    have := congrArg (fun l => l[0]?) hd
    simpa [List.getElem?_drop] using this
  have h2 : wI < ws.length := (List.getElem?_eq_some_iff.mp h1).1
  refine ⟨h1, h2, ?_⟩
  have : (ws.drop wI).drop 1 = r := by rw [hd]; rfl
  rwa [List.drop_drop] at this

/-- inside word `wI`, from bit `c` on: a masked word that is zero means no 1-bit there, otherwise its `tz`
    is the first one -/
theorem word_first {ws : List Nat} (hok : WordsOK ws) {wI w0 c w : Nat} (hw : ws[wI]? = some w0)
    (hm : Masked w0 c w) :
    (w = 0 → ∀ j, c ≤ j → j < 64 → bitAt ws (64 * wI + j) = false) ∧
    (w ≠ 0 → tz w 64 < 64 ∧ c ≤ tz w 64 ∧ bitAt ws (64 * wI + tz w 64) = true ∧
      ∀ j, c ≤ j → j < tz w 64 → bitAt ws (64 * wI + j) = false) := by
  have hw64 : w0 < 2^64 := hok w0 (List.mem_of_getElem? hw)
  constructor
  · intro hz j hcj hj
    have := hm j
    rw [hz, Nat.zero_testBit, decide_eq_true hcj, Bool.and_true] at this
    rw [bitAt_word hw hj, ← this]
  · intro hz
    obtain ⟨t1, t2, t3⟩ := tz_spec (masked_exists_bit hw64 hm hz)
    have hmt := hm (tz w 64)
    rw [t2] at hmt
    have hmt' : w0.testBit (tz w 64) = true ∧ c ≤ tz w 64 := by simpa using hmt.symm
    refine ⟨t1, hmt'.2, by rw [bitAt_word hw t1]; exact hmt'.1, fun j hcj hj => ?_⟩
    have h3 := t3 j hj
    rw [hm j, decide_eq_true hcj, Bool.and_true] at h3
    rw [bitAt_word hw (by omega), h3]

theorem nextNonZero_spec {ws : List Nat} (hok : WordsOK ws) : ∀ (rest : List Nat) (wI : Nat),
    ws.drop wI = rest → wI ≤ ws.length →
    64 * wI ≤ nextNonZero ws.length rest wI ∧ nextNonZero ws.length rest wI ≤ 64 * ws.length ∧
      (nextNonZero ws.length rest wI < 64 * ws.length → bitAt ws (nextNonZero ws.length rest wI) = true) ∧
      ∀ c, 64 * wI ≤ c → c < nextNonZero ws.length rest wI → bitAt ws c = false
  | [], wI, hd, hle => by
    have : ws.length ≤ wI := List.drop_eq_nil_iff.mp hd
    have e : wI = ws.length := by omega
    simp only [nextNonZero]
    exact ⟨by omega, by omega, by omega, by intros; omega⟩
  | w :: r, wI, hd, hle => by
    obtain ⟨hw, hlt, hdr⟩ := drop_cons_facts hd
    obtain ⟨hzero, hnz⟩ := word_first hok hw (masked_refl w)
    rw [nextNonZero]
    by_cases hz : w = 0
    · rw [if_neg (fun h => h hz)]
      obtain ⟨h1, h2, h3, h4⟩ := nextNonZero_spec hok r (wI+1) hdr (by omega)
      refine ⟨by omega, h2, h3, fun c hc1 hc2 => ?_⟩
      by_cases hc : 64*(wI+1) ≤ c
      · exact h4 c hc hc2
      · obtain ⟨j, rfl⟩ : ∃ j, c = 64 * wI + j := ⟨c - 64 * wI, by omega⟩
        exact hzero hz j (Nat.zero_le _) (by omega)
    · rw [if_pos hz, Nat.mul_comm wI 64]
      obtain ⟨t1, _, t2, t3⟩ := hnz hz
      refine ⟨by omega, by omega, fun _ => t2, fun c hc1 hc2 => ?_⟩
      obtain ⟨j, rfl⟩ : ∃ j, c = 64 * wI + j := ⟨c - 64 * wI, by omega⟩
      exact t3 j (Nat.zero_le _) (by omega)

/-- the shared tail of `Select32` / `Select32R64`: after clearing the bits up to and including the
    selected one, either the same word or the scan yields the next 1-bit.  The first three conjuncts are
    the position arithmetic of that tail (`a := a0 + wI*64`, `a % 64`, `a / 64`), handed to the callers
    so that they can rewrite the model's text into this form -/
theorem next_spec {ws : List Nat} (hok : WordsOK ws) {wI a0 w0 c w : Nat} (hw : ws[wI]? = some w0)
    (ha : a0 < 64) (hm0 : Masked w0 c w) (hc : c ≤ a0 + 1) :
    a0 + wI * 64 = 64 * wI + a0 ∧ (64 * wI + a0) % 64 = a0 ∧ (64 * wI + a0) / 64 = wI ∧
    IsNext ws (64*wI + a0)
      (if w &&& not64 (maskUpto a0) ≠ 0 then wI * 64 + tz (w &&& not64 (maskUpto a0)) 64
       else nextNonZero ws.length (ws.drop (wI+1)) (wI+1)) := by
  refine ⟨by omega, by omega, by omega, ?_⟩
  have hlt : wI < ws.length := (List.getElem?_eq_some_iff.mp hw).1
  have hm : Masked w0 (a0 + 1) (w &&& not64 (maskUpto a0)) := by
    have := masked_and (d := a0 + 1) (hok w0 (List.mem_of_getElem? hw)) hm0
    rwa [Nat.max_eq_right hc] at this
  obtain ⟨hzero, hnz⟩ := word_first hok hw hm
  generalize w &&& not64 (maskUpto a0) = w' at hzero hnz
  by_cases hz : w' = 0
  · rw [if_neg (fun h => h hz)]
    obtain ⟨h1, h2, h3, h4⟩ := nextNonZero_spec hok (ws.drop (wI+1)) (wI+1) rfl (by omega)
    refine ⟨by omega, h2, h3, fun c hc1 hc2 => ?_⟩
    by_cases hc : 64*(wI+1) ≤ c
    · exact h4 c hc hc2
    · obtain ⟨j, rfl⟩ : ∃ j, c = 64 * wI + j := ⟨c - 64 * wI, by omega⟩
      exact hzero hz j (by omega) (by omega)
  · rw [if_pos hz, Nat.mul_comm wI 64]
    obtain ⟨t1, t0, t2, t3⟩ := hnz hz
    refine ⟨by omega, by omega, fun _ => t2, fun c hc1 hc2 => ?_⟩
    obtain ⟨j, rfl⟩ : ∃ j, c = 64 * wI + j := ⟨c - 64 * wI, by omega⟩
    exact t3 j (by omega) (by omega)

end Low.C02L
