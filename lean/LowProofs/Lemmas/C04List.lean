import LowProofs.Lemmas.Count
/- C04 helpers, part 1: filtering an ascending list by membership in a sub-list, and `scan`: "skip while
   `p < frm`, stop at the first `p ≥ to`, else emit" over a list, accumulating in reverse -- the control
   flow shared by the two loops of `AllPaths`; on an ascending list it is a filter -/
namespace Low.C04L

theorem filter_eq_of_sublist {l P : List Nat} {p : Nat → Bool} (hl : l.Pairwise (· < ·))
    (hP : P.Sublist l) (h : ∀ x, x ∈ l → (p x = true ↔ x ∈ P)) : l.filter p = P := by
  apply eq_of_sorted_of_mem_iff (hl.filter _) (hl.sublist hP)
  intro x
  rw [List.mem_filter]
  constructor
  · rintro ⟨hx, hp⟩
    exact (h x hx).mp hp
  · intro hx
    exact ⟨hP.subset hx, (h x (hP.subset hx)).mpr hx⟩

/-- the clipping control flow of `AllPaths` over a list of candidate paths:
    returns (accumulator, stopped) -/
def scan (frm to : Nat) : List Nat → List Nat → List Nat × Bool
  | [], acc => (acc, false)
  | p :: r, acc =>
      if p < frm then scan frm to r acc
      else if p ≥ to then (acc, true)
      else scan frm to r (p :: acc)

/-- one round of the inner loop of `AllPaths` in front of a scan: the optional candidate `p` is skipped, ends
    the scan, or is emitted -/
theorem scan_ite_cons (frm to : Nat) (c : Bool) (p : Nat) (rest acc : List Nat) :
    scan frm to ((if c then [p] else []) ++ rest) acc =
      match (if c then (if p < frm then some acc else if p ≥ to then none else some (p :: acc)) else some acc) with
      | none => (acc, true)
      | some acc' => scan frm to rest acc' := by
  cases c
  · rfl
  · by_cases h1 : p < frm
    · simp [scan, h1]
    · by_cases h2 : p ≥ to
      · simp [scan, h1, h2]
      · simp [scan, h1, h2]

theorem scan_append (frm to : Nat) : ∀ (l1 l2 acc : List Nat),
    scan frm to (l1 ++ l2) acc =
      if (scan frm to l1 acc).2 then ((scan frm to l1 acc).1, true) else scan frm to l2 (scan frm to l1 acc).1
  | [], l2, acc => by simp [scan]
  | p :: r, l2, acc => by
    simp only [List.cons_append, scan]
    by_cases h1 : p < frm
    · simp only [h1, if_true]; exact scan_append frm to r l2 acc
    · by_cases h2 : p ≥ to
      · simp [h1, h2]
      · simp only [h1, h2, if_false]; exact scan_append frm to r l2 (p :: acc)

theorem scan_fst_append_of_stop (frm to : Nat) (l1 l2 acc : List Nat) (h : (scan frm to l1 acc).2 = true) :
    (scan frm to (l1 ++ l2) acc).1 = (scan frm to l1 acc).1 := by
  rw [scan_append, h]; rfl

theorem scan_sorted (frm to : Nat) : ∀ (l acc : List Nat), l.Pairwise (· < ·) →
    (scan frm to l acc).1 = (l.filter (fun p => decide (frm ≤ p ∧ p < to))).reverse ++ acc
  | [], acc, _ => by simp [scan]
  | p :: r, acc, hs => by
    rw [List.pairwise_cons] at hs
    simp only [scan]
    by_cases h1 : p < frm
    · have : decide (frm ≤ p ∧ p < to) = false := by simp; omega
      simp only [h1, if_true, List.filter_cons, this]
      exact scan_sorted frm to r acc hs.2
    · by_cases h2 : p ≥ to
      · have : decide (frm ≤ p ∧ p < to) = false := by simp; omega
        have hr : r.filter (fun p => decide (frm ≤ p ∧ p < to)) = [] := by
          rw [List.filter_eq_nil_iff]
          intro a ha
          have := hs.1 a ha
          simp; omega
        rw [List.filter_cons, this, hr]
        simp only [h1, h2, if_false, if_true]
        simp
      · have : decide (frm ≤ p ∧ p < to) = true := by simp; omega
        simp only [h1, h2, if_false, List.filter_cons, this, if_true]
        rw [scan_sorted frm to r (p :: acc) hs.2]
        simp

end Low.C04L
