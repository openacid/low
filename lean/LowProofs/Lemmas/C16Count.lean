import LowProofs.Lemmas.C16Order
/-
  C16 (after C16Order): `countPrefixes` (histogram, prefix sums) and the number of
  distinct elements of a sorted list.
-/
namespace Low.C16L

/-- number of adjacent pairs with different members -/
def adjNe {α : Type} [DecidableEq α] : List α → Nat
  | a :: b :: r => (if a = b then 0 else 1) + adjNe (b :: r)
  | _ => 0

section
variable {α : Type} [DecidableEq α] (le : α → α → Prop) (anti : ∀ x y, le x y → le y x → x = y)
include anti

theorem filter_ne_sorted : ∀ (as : List α) (a : α), (a :: as).Pairwise le →
    as.filter (fun b => !(b == a)) = as.dropWhile (· == a)
  | [], _, _ => rfl
  | x :: as, a, h => by
    obtain ⟨h1, h2⟩ := List.pairwise_cons.1 h
    obtain ⟨h3, h4⟩ := List.pairwise_cons.1 h2
    by_cases e : x = a
    · subst e
      have ih := filter_ne_sorted as x (List.Pairwise.cons (fun y hy => h1 y (by simp [hy])) h4)
      simp [ih]
    · have hall : ∀ y ∈ as, y ≠ a := fun y hy ey =>
        e (anti x a (ey ▸ h3 y hy) (h1 x (by simp)))
      have hf : as.filter (fun b => !(b == a)) = as := by
        apply List.filter_eq_self.2
        intro y hy
        simpa using hall y hy
      simp [e, hf]

theorem eraseDups_sorted_step (as : List α) (a : α) (h : (a :: as).Pairwise le) :
    (a :: as).eraseDups.length = 1 + (as.dropWhile (· == a)).eraseDups.length := by
  rw [List.eraseDups_cons, filter_ne_sorted le anti as a h]
  simp; omega

theorem eraseDups_sorted : ∀ (as : List α) (a : α), (a :: as).Pairwise le →
    (a :: as).eraseDups.length = 1 + adjNe (a :: as)
  | [], a, _ => by simp [List.eraseDups_cons, adjNe]
  | x :: as, a, h => by
    have h2 := (List.pairwise_cons.1 h).2
    have ih := eraseDups_sorted as x h2
    rw [eraseDups_sorted_step le anti (x :: as) a h]
    by_cases e : x = a
    · subst e
      have := eraseDups_sorted_step le anti as x h2
      simp only [List.dropWhile_cons, beq_self_eq_true, if_true, adjNe]
      omega
    · have e' : ¬ a = x := fun h => e h.symm
      simp only [List.dropWhile_cons, beq_iff_eq, e, if_false, adjNe, e']
      omega

end

theorem filter_lt_succ (l : List Nat) (f : Nat → Nat) (j : Nat) :
    (l.filter (fun d => f d < j + 1)).length =
      (l.filter (fun d => f d < j)).length + (l.filter (fun d => f d = j)).length := by
  induction l with
  | nil => rfl
  | cons d l ih =>
    simp only [← List.countP_eq_length_filter] at ih ⊢
    simp only [List.countP_cons, decide_eq_true_eq]
    rw [ih]
    -- `f d` is below `j`, equal to it, or above: it is counted on the left exactly once in the first two cases
    rcases Nat.lt_trichotomy (f d) j with h | h | h
    · rw [if_pos (by omega), if_pos h, if_neg (by omega)]
      omega
    · rw [if_pos (by omega), if_neg (by omega), if_pos h]
      omega
    · rw [if_neg (by omega), if_neg (by omega), if_neg (by omega)]
      rfl

/-- the prefix-sum loop of `countPrefixes`: started at `(pre, P j0)` it appends `P (j0+1) … P (j0+n)`, for any `P` with
    `P (j+1) = P j + cnt j` -/
theorem rst_fold (P cnt : Nat → Nat) (hP : ∀ j, P (j + 1) = P j + cnt j) : ∀ (n j0 : Nat) (pre : List Nat),
    ((List.range' j0 n).map cnt).foldl
        (fun (acc : List Nat × Nat) c => (acc.1 ++ [acc.2 + c], acc.2 + c)) (pre, P j0) =
      (pre ++ (List.range' (j0 + 1) n).map P, P (j0 + n))
  | 0, j0, pre => by simp
  | n+1, j0, pre => by
    rw [List.range'_succ, List.map_cons, List.foldl_cons]
    simp only [← hP]
    rw [rst_fold P cnt hP n (j0 + 1) (pre ++ [P (j0 + 1)]),
      show List.range' (j0 + 1) (n + 1) = (j0 + 1) :: List.range' (j0 + 1 + 1) n from List.range'_succ]
    have : j0 + 1 + n = j0 + (n + 1) := by omega
    rw [this]
    simp

theorem countPrefixes_spec (fds : List Nat) (m : Int) (hm : 1 ≤ m) :
    countPrefixes fds m = some (fds.foldl (fun mn d => if mn > d then d else mn) 0x7fffffff,
      (List.range m.toNat).map (fun i => 1 + (fds.filter
        (fun d => d - fds.foldl (fun mn d => if mn > d then d else mn) 0x7fffffff < i)).length)) := by
  have hm' : ¬ m < 1 := by omega
  simp only [countPrefixes, hm', if_false]
  generalize fds.foldl (fun mn d => if mn > d then d else mn) 0x7fffffff = mn
  have hP : ∀ j, (fun i => 1 + (fds.filter (fun d => d - mn < i)).length) (j + 1) =
      (fun i => 1 + (fds.filter (fun d => d - mn < i)).length) j +
        (fun j => (fds.filter (fun d => d - mn = j)).length) j := by
    intro j
    simp only [filter_lt_succ fds (fun d => d - mn) j]; omega
  obtain ⟨k, hk⟩ : ∃ k, m.toNat = k + 1 := ⟨m.toNat - 1, by omega⟩
  have := rst_fold (fun i => 1 + (fds.filter (fun d => d - mn < i)).length)
    (fun j => (fds.filter (fun d => d - mn = j)).length) hP k 0 [1]
  have h0 : List.filter (fun (_ : Nat) => false) fds = [] := by simp
  simp only [Nat.not_lt_zero, decide_false, h0, List.length_nil, Nat.add_zero, Nat.zero_add] at this
  rw [hk, Nat.add_sub_cancel, List.range_eq_range', this, List.range_eq_range',
    show List.range' 0 (k + 1) = 0 :: List.range' (0 + 1) k from List.range'_succ]
  simp

theorem zipWith_take_succ {α β γ} (f : α → β → γ) : ∀ (c : Nat) (l : List α) (l' : List β),
    List.zipWith f (l.take (c + 1)) (l'.take c) = List.zipWith f (l.take c) (l'.take c)
  | 0, _, _ => by simp
  | c+1, [], _ => by simp
  | c+1, _ :: _, [] => by simp
  | c+1, a :: l, b :: l' => by
    simp only [List.take_succ_cons, List.zipWith_cons_cons]
    rw [zipWith_take_succ f c l l']

theorem sig_slice {α β} (f : α → α → β) (keys : List α) (s c : Nat) :
    ((List.zipWith f keys keys.tail).drop s).take c =
      List.zipWith f ((keys.drop s).take (c + 1)) ((keys.drop s).take (c + 1)).tail := by
  have ht : ∀ (l : List α) (c : Nat), (l.take (c + 1)).tail = l.tail.take c := by
    intro l c; cases l <;> simp
  rw [List.drop_zipWith, List.take_zipWith, ht, zipWith_take_succ, List.drop_tail, List.tail_drop]

theorem adjNe_trunc (n : Nat) : ∀ (sub : List (List Nat)), (∀ k ∈ sub, BytesOK k) → strictAsc sub = true →
    adjNe (sub.map (truncBits n)) = ((List.zipWith fdSpec sub sub.tail).filter (fun d => d < n)).length
  | [], _, _ => rfl
  | [a], _, _ => rfl
  | a :: b :: r, hok, h => by
    obtain ⟨h1, h2⟩ := (strictAsc_cons_cons a b r).1 h
    have ih := adjNe_trunc n (b :: r) (fun k hk => hok k (by simp [hk])) h2
    have hne : a ≠ b := fun e => bytesCompare_irrefl a (e ▸ h1)
    have hiff := truncBits_ne_iff (hok a (by simp)) (hok b (by simp)) hne n
    simp only [List.map_cons, adjNe, List.tail_cons, List.zipWith_cons_cons, List.filter_cons] at ih ⊢
    by_cases c : fdSpec a b < n
    · have : ¬ truncBits n a = truncBits n b := hiff.2 c
      simp only [this, c, if_false, decide_true, if_true, List.length_cons, ih]; omega
    · have : truncBits n a = truncBits n b := by
        by_cases e : truncBits n a = truncBits n b
        · exact e
        · exact absurd (hiff.1 e) c
      simp only [this, c, if_true, decide_false, ih]
      simp

theorem distinct_trunc (n : Nat) (sub : List (List Nat)) (hne : sub ≠ []) (hok : ∀ k ∈ sub, BytesOK k)
    (h : strictAsc sub = true) :
    distinctCount (sub.map (truncBits n)) =
      1 + ((List.zipWith fdSpec sub sub.tail).filter (fun d => d < n)).length := by
  rw [← adjNe_trunc n sub hok h]
  have hp := pairwise_of_strictAsc sub h
  have hp2 : (sub.map (truncBits n)).Pairwise (fun x y => lexCmp x y ≠ 1) := by
    rw [List.pairwise_map]
    refine hp.imp_of_mem ?_
    intro a b ha hb hab
    have := (bytesCompare_eq a b (hok a ha) (hok b hb)).symm.trans hab
    exact lexCmp_take n _ _ (by rw [this]; decide)
  cases sub with
  | nil => exact absurd rfl hne
  | cons a r =>
    exact eraseDups_sorted (fun x y => lexCmp x y ≠ 1) lexCmp_le_antisymm _ _ hp2

theorem forall_mem_zipWith {α β γ} (f : α → β → γ) (P : γ → Prop) : ∀ (l : List α) (l' : List β),
    (∀ a ∈ l, ∀ b, P (f a b)) → ∀ d ∈ List.zipWith f l l', P d
  | [], _, _, d, hd => by simp at hd
  | a :: l, b :: l', h, d, hd => by
    simp only [List.zipWith_cons_cons, List.mem_cons] at hd
    rcases hd with e | hd
    · subst e; exact h a (by simp) b
    · exact forall_mem_zipWith f P l l' (fun a ha b => h a (by simp [ha]) b) d hd

end Low.C16L
