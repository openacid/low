import LowModel.Bits
/- sumBits: sums indexed by the set bits of a number; the symmetry lemma behind PathToIndex vs PathToIndexLoose (C03) -/
namespace Low

def sumBits (f : Nat → Nat) (b : Nat) : Nat → Nat
  | 0 => 0
  | n+1 => sumBits f b n + (if b.testBit n then f n else 0)

theorem sumBits_congr {f g : Nat → Nat} {b n : Nat} (h : ∀ k, k < n → f k = g k) :
    sumBits f b n = sumBits g b n := by
  induction n with
  | zero => rfl
  | succ n ih => simp only [sumBits]; rw [ih (fun k hk => h k (by omega)), h n (by omega)]

theorem sumBits_congr_b {f : Nat → Nat} {b c n : Nat} (h : ∀ k, k < n → b.testBit k = c.testBit k) :
    sumBits f b n = sumBits f c n := by
  induction n with
  | zero => rfl
  | succ n ih => simp only [sumBits]; rw [ih (fun k hk => h k (by omega)), h n (by omega)]

theorem sumBits_add (f g : Nat → Nat) (b n : Nat) :
    sumBits (fun k => f k + g k) b n = sumBits f b n + sumBits g b n := by
  induction n with
  | zero => rfl
  | succ n ih => simp only [sumBits, ih]; split <;> omega

theorem sumBits_mul (c : Nat) (f : Nat → Nat) (b n : Nat) :
    sumBits (fun k => c * f k) b n = c * sumBits f b n := by
  induction n with
  | zero => rfl
  | succ n ih => simp only [sumBits, ih]; split <;> simp [Nat.mul_add]

theorem sumBits_pow (b n : Nat) : sumBits (fun k => 2^k) b n = b % 2^n := by
  induction n with
  | zero => simp [sumBits, Nat.mod_one]
  | succ n ih =>
    simp only [sumBits, ih]
    rw [Nat.mod_pow_succ (x := b) (b := 2) (k := n)]
    have : b.testBit n = decide (b / 2^n % 2 = 1) := Nat.testBit_eq_decide_div_mod_eq
    rw [this]
    have h2 : b / 2^n % 2 = 0 ∨ b / 2^n % 2 = 1 := by omega
    rcases h2 with h | h <;> simp [h]

theorem sumBits_shift (f : Nat → Nat) (a n : Nat) :
    sumBits f a (n+1) = (if a.testBit 0 then f 0 else 0) + sumBits (fun j => f (j+1)) (a >>> 1) n := by
  induction n with
  | zero => simp [sumBits]
  | succ n ih =>
    rw [sumBits, ih]; simp only [sumBits, Nat.testBit_shiftRight]
    have : 1 + n = n + 1 := by omega
    rw [this]; omega

theorem sumBits_zero_of_low {f : Nat → Nat} {b : Nat} : ∀ {n : Nat}, (∀ k, k < n → b.testBit k = false) →
    sumBits f b n = 0
  | 0, _ => rfl
  | n+1, h => by
    rw [sumBits, h n (by omega), sumBits_zero_of_low (fun k hk => h k (by omega))]; simp

theorem sumBits_of_lt {f : Nat → Nat} {b n : Nat} (h : b < 2^n) : ∀ m, n ≤ m → sumBits f b m = sumBits f b n := by
  intro m hm
  induction m with
  | zero => have : n = 0 := by omega
            subst this; rfl
  | succ m ih =>
    by_cases hn : n = m + 1
    · subst hn; rfl
    · have hb : b.testBit m = false :=
        Nat.testBit_lt_two_pow (Nat.lt_of_lt_of_le h (Nat.pow_le_pow_right (by omega) (by omega)))
      simp only [sumBits, hb, ih (by omega)]; simp

theorem sumBits_skip {f : Nat → Nat} {b n : Nat} (h : ∀ k, k < n → b.testBit k = false) : ∀ m,
    sumBits f b (n + m) = sumBits (fun k => f (k + n)) (b >>> n) m
  | 0 => by simp [sumBits, sumBits_zero_of_low h]
  | m+1 => by
    have : n + (m + 1) = (n + m) + 1 := by omega
    rw [this]; simp only [sumBits, sumBits_skip h m, Nat.testBit_shiftRight]
    rw [Nat.add_comm m n]

theorem sumBits_one (b : Nat) : ∀ n, sumBits (fun _ => 1) b n = popc b n
  | 0 => rfl
  | n+1 => by simp only [sumBits, popc, sumBits_one b n]; cases b.testBit n <;> simp

/-- `Σ_{k ∈ bits of b, k ≤ s} a >>> (s - k)`; `shiftMulti a b s` is this sum mod `2^64` when `b < 2^(s+1)`,
    `s < 64` (`C03L.shiftMulti_spec`) -/
def S (a b s : Nat) : Nat := sumBits (fun k => a >>> (s - k)) b (s+1)

theorem S_succ_low (a b s : Nat) :
    sumBits (fun k => a >>> (s + 1 - k)) b (s+1) = S (a >>> 1) b s := by
  apply sumBits_congr
  intro k hk
  have : s + 1 - k = 1 + (s - k) := by omega
  rw [this, Nat.shiftRight_add]

/-- by induction on `s`: on the left peel the top bit of `b` (`hL`); on the right split every summand
    `b >>> (s+1-j)` into the top bit of `b` and the rest, and peel bit 0 of `a` (`hR`) -/
theorem S_symm (s : Nat) : ∀ a b, a < 2^(s+1) → b < 2^(s+1) → S a b s = S b a s := by
  induction s with
  | zero =>
    intro a b ha hb
    have ha' : a = 0 ∨ a = 1 := by omega
    have hb' : b = 0 ∨ b = 1 := by omega
    rcases ha' with rfl | rfl <;> rcases hb' with rfl | rfl <;> decide
  | succ s ih =>
    intro a b ha hb
    have hL : S a b (s+1) = S (a >>> 1) (b % 2^(s+1)) s + (if b.testBit (s+1) then a else 0) := by
      show sumBits (fun k => a >>> (s + 1 - k)) b (s+1+1) = _
      rw [sumBits, S_succ_low]
      have : S (a >>> 1) b s = S (a >>> 1) (b % 2^(s+1)) s := by
        unfold S; apply sumBits_congr_b; intro k hk
        simp [Nat.testBit_mod_two_pow, hk]
      rw [this]; simp
    have hb' : b % 2^(s+1) < 2^(s+1) := Nat.mod_lt _ (Nat.two_pow_pos _)
    have ha1 : a >>> 1 < 2^(s+1) := by
      rw [Nat.shiftRight_eq_div_pow]; rw [Nat.pow_succ] at ha; omega
    have hR : S b a (s+1) = (if b.testBit (s+1) then a else 0) + S (b % 2^(s+1)) (a >>> 1) s := by
      show sumBits (fun j => b >>> (s + 1 - j)) a (s+1+1) = _
      have hsplit : ∀ j, j < s+1+1 → b >>> (s+1-j) = (b / 2^(s+1)) * 2^j + (b % 2^(s+1)) >>> (s+1-j) := by
        intro j hj
        rw [Nat.shiftRight_eq_div_pow, Nat.shiftRight_eq_div_pow]
        have h1 : 2^(s+1) = 2^(s+1-j) * 2^j := by rw [← Nat.pow_add]; congr 1; omega
        have hpos : 0 < 2^(s+1-j) := Nat.two_pow_pos _
        conv => lhs; rw [← Nat.div_add_mod b (2^(s+1))]
        rw [h1, Nat.mul_assoc, Nat.mul_add_div hpos]
        rw [← h1, Nat.mul_comm]
      rw [sumBits_congr hsplit, sumBits_add, sumBits_mul, sumBits_pow]
      rw [Nat.mod_eq_of_lt ha, sumBits_shift]
      have hz : (b % 2^(s+1)) >>> (s+1-0) = 0 := by
        rw [Nat.shiftRight_eq_div_pow]; exact Nat.div_eq_of_lt hb'
      simp only [hz, ite_self, Nat.zero_add]
      have hbt : b / 2^(s+1) = if b.testBit (s+1) then 1 else 0 := by
        have : b / 2^(s+1) < 2 := by
          apply Nat.div_lt_of_lt_mul; rw [Nat.pow_succ] at hb; exact hb
        rw [Nat.testBit_eq_decide_div_mod_eq]
        generalize b / 2^(s+1) = q at this ⊢
        have h2 : q = 0 ∨ q = 1 := by omega
        rcases h2 with h | h <;> simp [h]
      rw [hbt]
      congr 1
      · split <;> simp
      · unfold S; apply sumBits_congr; intro k hk; congr 1; omega
    rw [hL, hR, ih _ _ ha1 hb']; omega

end Low
