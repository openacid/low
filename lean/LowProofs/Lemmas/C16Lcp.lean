import LowProofs.Lemmas.C08Bits
/-
  C16/C17 (first of Lcp → {Fd, Order} → Count): bit lcp of byte strings against their byte lcp.
-/
namespace Low.C16L
open Low.C08L

theorem bitsBE_nil : bitsBE [] = [] := rfl
theorem bytesOK_nil : BytesOK [] := by simp [BytesOK]

theorem bytesOK_take {s : List Nat} (h : BytesOK s) (i : Nat) : BytesOK (s.take i) :=
  fun b hb => h b (List.mem_of_mem_take hb)

theorem lcp_bits_cons_ne {x y : Nat} (hx : x < 256) (hy : y < 256) (h : x ≠ y) (a b : List Nat) :
    lcp (bitsBE (x :: a)) (bitsBE (y :: b)) = lcp (byteBits x) (byteBits y) ∧
      lcp (byteBits x) (byteBits y) < 8 := by
  have := lcp_append_of_ne (byteBits x) (byteBits y) (bitsBE a) (bitsBE b)
    (by simp [length_byteBits]) (fun e => h (by rw [← bitsVal_byteBits hx, ← bitsVal_byteBits hy, e]))
  rw [bitsBE_cons, bitsBE_cons]; exact this

theorem lcp_bits_div8 : ∀ (a b : List Nat), BytesOK a → BytesOK b → lcp (bitsBE a) (bitsBE b) / 8 = lcp a b
  | [], b, _, _ => by simp [bitsBE_nil, lcp_nil_left]
  | _ :: _, [], _, _ => by simp [bitsBE_nil, lcp_nil_right]
  | x :: a, y :: b, hxa, hyb => by
    obtain ⟨hx, ha⟩ := bytesOK_cons.1 hxa
    obtain ⟨hy, hb⟩ := bytesOK_cons.1 hyb
    rw [lcp_cons]
    by_cases e : x = y
    · subst e
      rw [lcp_bits_cons_eq, if_pos rfl, ← lcp_bits_div8 a b ha hb]; omega
    · have := lcp_bits_cons_ne hx hy e a b
      rw [if_neg e, this.1]; omega

end Low.C16L
