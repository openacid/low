import LowProofs.Lemmas.C17Dfs
/-
  C17: `lcpAll` of a range is the minimum the code computes; the inductive
  predicate `Valid` (shape, size, lcp of a result) and its closure under the split.
-/
namespace Low.C17L
open Low.C16L

/-- `keys[s:e]` -/
def slice (keys : List (List Nat)) (s e : Nat) : List (List Nat) := (keys.drop s).take (e - s)

theorem slice_cons {keys : List (List Nat)} {s e : Nat} (h1 : s < e) (h2 : e ≤ keys.length) :
    slice keys s e = keys.getD s [] :: slice keys (s + 1) e := by
  have hs : s < keys.length := by omega
  have e1 : e - s = (e - (s + 1)) + 1 := by omega
  have hg : keys.getD s [] = keys[s] := by simp [List.getD, List.getElem?_eq_getElem hs]
  rw [slice, slice, List.drop_eq_getElem_cons hs, e1, List.take_succ_cons, hg]
section
variable (keys : List (List Nat)) (fds : List Nat)
variable (hbl : ∀ t, t + 1 < keys.length → bl fds t = lcp (keys.getD t []) (keys.getD (t + 1) []))
include hbl

/-- folding `min · (lcp k0 ·)` over `keys[t+1 : t+1+c]` equals folding the adjacent common-prefix lengths,
    as soon as the running minimum is at most `lcp k0 keys[t]` -/
theorem lcpAll_fold (k0 : List Nat) : ∀ (c t m : Nat), m ≤ lcp k0 (keys.getD t []) → t + 1 + c ≤ keys.length →
    (slice keys (t + 1) (t + 1 + c)).foldl (fun m k' => min m (lcp k0 k')) m = minFold fds t c m
  | 0, t, m, _, _ => by simp [slice, minFold_zero]
  | c+1, t, m, h1, h2 => by
    have e1 : t + 1 + (c + 1) = t + 1 + 1 + c := by omega
    rw [slice_cons (by omega) h2, List.foldl_cons, minFold_succ, hbl t (by omega), e1,
      min_lcp_swap h1 (keys.getD (t + 1) []), ← min_lcp_swap h1 (keys.getD (t + 1) [])]
    have := lcpAll_fold k0 c (t + 1) (min m (lcp k0 (keys.getD (t + 1) []))) (Nat.min_le_right _ _) (by omega)
    rw [this, min_lcp_swap h1 (keys.getD (t + 1) [])]

theorem lam_eq_lcpAll {s e : Nat} (h1 : s < e) (h2 : e ≤ keys.length) :
    lam keys fds s e = lcpAll (slice keys s e) := by
  rw [slice_cons h1 h2, lcpAll, lam]
  have := lcpAll_fold keys fds hbl (keys.getD s []) (e - 1 - s) s (keys.getD s []).length
    (by rw [lcp_self]; exact Nat.le_refl _) (by omega)
  rw [← this]
  congr 2; omega

end

/-- `Valid keys mx s e Ls Bs`: `s :: Bs` ascends strictly from `s` to `e` in steps of at most `mx`, and
    `Ls` lists `lcpAll` of the corresponding sub-ranges. -/
inductive Valid (keys : List (List Nat)) (mx : Nat) : Nat → Nat → List Nat → List Nat → Prop
  | nil (s : Nat) : Valid keys mx s s [] []
  | cons {s b e l : Nat} {Ls Bs : List Nat} : s < b → b - s ≤ mx → l = lcpAll (slice keys s b) →
      Valid keys mx b e Ls Bs → Valid keys mx s e (l :: Ls) (b :: Bs)

variable {keys : List (List Nat)} {mx : Nat} {s e : Nat} {L Bs : List Nat}

theorem valid_append {m : Nat} {L2 B2 : List Nat} (h1 : Valid keys mx s m L Bs) (h2 : Valid keys mx m e L2 B2) :
    Valid keys mx s e (L ++ L2) (Bs ++ B2) := by
  induction h1 with
  | nil => exact h2
  | cons a b c _ ih => exact .cons a b c (ih h2)

theorem valid_length (h : Valid keys mx s e L Bs) : Bs.length = L.length := by
  induction h with
  | nil => rfl
  | cons _ _ _ _ ih => simp [ih]

theorem valid_last (h : Valid keys mx s e L Bs) : (s :: Bs).getLast? = some e := by
  induction h with
  | nil => rfl
  | cons _ _ _ _ ih => rw [List.getLast?_cons_cons]; exact ih

theorem valid_le (h : Valid keys mx s e L Bs) : s ≤ e := by
  induction h with
  | nil => exact Nat.le_refl _
  | cons a _ _ _ ih => omega

theorem groups_valid {es : List Nat} (h : Groups (Valid keys mx) s es L Bs) :
    (s :: es).getLast? = some e → Valid keys mx s e L Bs := by
  induction h with
  | nil s => intro hl; cases hl; exact .nil s
  | cons h3 _ ih => intro hl; rw [List.getLast?_cons_cons] at hl; exact valid_append h3 (ih hl)

theorem valid_index (h : Valid keys mx s e L Bs) : ∀ j, j < L.length →
    (s :: Bs).getD j 0 < (s :: Bs).getD (j + 1) 0 ∧
    (s :: Bs).getD (j + 1) 0 - (s :: Bs).getD j 0 ≤ mx ∧
    L.getD j 0 = lcpAll (slice keys ((s :: Bs).getD j 0) ((s :: Bs).getD (j + 1) 0)) := by
  induction h with
  | nil => intro j hj; cases hj
  | cons a b c _ ih =>
    intro j hj
    cases j with
    | zero => exact ⟨a, b, c⟩
    | succ j => exact ih j (by simpa using hj)

end Low.C17L
