import LowProofs.Lemmas.C04Spec
/- C04 helpers, part 3: the two loops of `AllPaths` as a clipped scan over the candidate words, row by row -/
namespace Low.C04L

/-- the candidate words of search value `i` for `tz` running from `k` down to 0, in loop order (no clipping) -/
def rowFrom (t h i : Nat) : Nat → List Nat
  | 0 => if t.testBit h then [pword h i 0] else []
  | k+1 => (if t.testBit (h - (k+1)) then [pword h i (k+1)] else []) ++ rowFrom t h i k

/-- all candidate words of search value `i` -/
def row (t h i : Nat) : List Nat := rowFrom t h i (min (tz i 64) h)

theorem inner_eq_scan (t h frm to i : Nat) : ∀ (k : Nat) (acc : List Nat),
    allPathsInner t h frm to i k acc = scan frm to (rowFrom t h i k) acc
  | 0, acc => by
    rw [allPathsInner, rowFrom, ← List.append_nil (if t.testBit h = true then [pword h i 0] else []), scan_ite_cons]
    rfl
  | k+1, acc => by
    rw [allPathsInner, rowFrom, scan_ite_cons]
    simp only [inner_eq_scan t h frm to i k]
    rfl

theorem outer_eq_scan (t h frm to : Nat) : ∀ (cnt i : Nat) (acc : List Nat),
    allPathsOuter t h frm to cnt i acc = (scan frm to ((List.range' i cnt).flatMap (row t h)) acc).1
  | 0, i, acc => by simp [allPathsOuter, scan]
  | cnt+1, i, acc => by
    rw [allPathsOuter, List.range'_succ, List.flatMap_cons, scan_append]
    simp only [inner_eq_scan]
    show (if (scan frm to (row t h i) acc).2 = true then (scan frm to (row t h i) acc).1
        else allPathsOuter t h frm to cnt (i + 1) (scan frm to (row t h i) acc).1) = _
    by_cases hs : (scan frm to (row t h i) acc).2 = true
    · simp only [hs, if_true]
    · simp only [hs, if_false, Bool.false_eq_true]
      exact outer_eq_scan t h frm to cnt (i+1) _

theorem mem_rowFrom (t h i p : Nat) : ∀ (k : Nat),
    p ∈ rowFrom t h i k ↔ ∃ k', k' ≤ k ∧ t.testBit (h - k') = true ∧ p = pword h i k'
  | 0 => by
    simp only [rowFrom, List.mem_ite_nil_right, List.mem_singleton]
    constructor
    · rintro ⟨ht, hp⟩
      exact ⟨0, Nat.le_refl _, ht, hp⟩
    · rintro ⟨k', hk, ht, rfl⟩
      rw [Nat.le_zero.mp hk] at ht ⊢
      exact ⟨ht, rfl⟩
  | k+1 => by
    simp only [rowFrom, List.mem_append, mem_rowFrom t h i p k, List.mem_ite_nil_right, List.mem_singleton]
    constructor
    · rintro (⟨ht, hp⟩ | ⟨k', hk, ht, rfl⟩)
      · exact ⟨k+1, Nat.le_refl _, ht, hp⟩
      · exact ⟨k', by omega, ht, rfl⟩
    · rintro ⟨k', hk, ht, rfl⟩
      by_cases e : k' = k + 1
      · subst e; exact .inl ⟨ht, rfl⟩
      · exact .inr ⟨k', by omega, ht, rfl⟩

theorem rowFrom_sorted (t h i : Nat) (h32 : h ≤ 32) (hi : i < 2^32) : ∀ (k : Nat), k ≤ h →
    (rowFrom t h i k).Pairwise (· < ·)
  | 0, _ => by simp only [rowFrom]; split <;> simp
  | k+1, hk => by
    simp only [rowFrom]
    rw [List.pairwise_append]
    refine ⟨by split <;> simp, rowFrom_sorted t h i h32 hi k (by omega), ?_⟩
    intro a ha b hb
    obtain ⟨k', hk', _, rfl⟩ := (mem_rowFrom t h i b k).mp hb
    rw [List.mem_singleton.mp (List.mem_ite_nil_right.mp ha).2]
    exact pword_lt_of_gt h32 hk (by omega) hi

theorem mem_row (t h i p : Nat) (h32 : h ≤ 32) :
    p ∈ row t h i ↔ ∃ k, k ≤ h ∧ i % 2^k = 0 ∧ t.testBit (h - k) = true ∧ p = pword h i k := by
  unfold row
  rw [mem_rowFrom]
  constructor
  · rintro ⟨k, hk, ht, rfl⟩
    exact ⟨k, by omega, (le_tz_iff 64 i k (by omega)).mp (by omega), ht, rfl⟩
  · rintro ⟨k, hk, hm, ht, rfl⟩
    have := (le_tz_iff 64 i k (by omega)).mpr hm
    exact ⟨k, by omega, ht, rfl⟩
theorem row_bounds (t h i p : Nat) (h32 : h ≤ 32) (hi : i < 2^32) (hp : p ∈ row t h i) :
    i * 2^32 ≤ p ∧ p < (i + 1) * 2^32 := by
  obtain ⟨k, hk, _, _, rfl⟩ := (mem_row t h i p h32).mp hp
  exact pword_bounds h32 hk hi

theorem rows_sorted (t h a cnt : Nat) (h32 : h ≤ 32) (hb : ∀ i, a ≤ i → i < a + cnt → i < 2^32) :
    ((List.range' a cnt).flatMap (row t h)).Pairwise (· < ·) := by
  rw [List.pairwise_flatMap]
  constructor
  · intro i hi
    rw [List.mem_range'_1] at hi
    exact rowFrom_sorted t h i h32 (hb i hi.1 hi.2) _ (Nat.min_le_right _ _)
  · refine List.Pairwise.imp_of_mem ?_ (List.pairwise_lt_range' (s := a) (n := cnt))
    intro i j hi hj hij x hx y hy
    rw [List.mem_range'_1] at hi hj
    have bx := row_bounds t h i x h32 (hb i hi.1 hi.2) hx
    have by' := row_bounds t h j y h32 (hb j hj.1 hj.2) hy
    omega

end Low.C04L
