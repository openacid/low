import LowProofs.Lemmas.C05Spec
import LowProofs.Lemmas.PathWord
import LowProofs.Lemmas.C08Bits
/-
  C05, part 2: the two-halves view of a path word, `W a m = a * 2^32 + m`, the path word of a
  concatenation, and the explicit prefix of `nodeAt` (phase A's mathematics).
-/
namespace Low.C05L

/-- `a` in the high 32 bits, `m < 2^32` in the low 32 bits -/
def W (a m : Nat) : Nat := 2 ^ 32 * a + m

theorem W_testBit {m : Nat} (hm : m < 2 ^ 32) (a k : Nat) :
    (W a m).testBit k = if k < 32 then m.testBit k else a.testBit (k - 32) :=
  Nat.testBit_two_pow_mul_add a hm k

theorem W_or {m m' : Nat} (hm : m < 2 ^ 32) (hm' : m' < 2 ^ 32) (a a' : Nat) :
    W a m ||| W a' m' = W (a ||| a') (m ||| m') := by
  apply Nat.eq_of_testBit_eq; intro k
  rw [Nat.testBit_or, W_testBit hm, W_testBit hm', W_testBit (Nat.or_lt_two_pow hm hm')]
  split <;> simp [Nat.testBit_or]

theorem W_and {m m' : Nat} (hm : m < 2 ^ 32) (hm' : m' < 2 ^ 32) (a a' : Nat) :
    W a m &&& W a' m' = W (a &&& a') (m &&& m') := by
  apply Nat.eq_of_testBit_eq; intro k
  rw [Nat.testBit_and, W_testBit hm, W_testBit hm', W_testBit (Nat.and_lt_two_pow _ hm')]
  split <;> simp [Nat.testBit_and]

theorem W_shr32 {m : Nat} (hm : m < 2 ^ 32) (a : Nat) : W a m >>> 32 = a := by
  simp only [W, Nat.shiftRight_eq_div_pow]; omega

theorem W_mod {m : Nat} (hm : m < 2 ^ 32) (a : Nat) : W a m % 2 ^ 32 = m := by
  simp only [W]; omega

theorem W_zero_left (m : Nat) : W 0 m = m := by simp [W]

theorem W_shr1 (a m : Nat) : W (2 * a) (2 * m) >>> 1 = W a m := by
  simp only [W, Nat.shiftRight_eq_div_pow]; omega

theorem encPath_W {h : Nat} {n : List Bool} (hl : n.length ≤ h) (hh : h ≤ 32) :
    encPath h n = W (bitsVal n * 2 ^ (h - n.length)) (2 ^ h - 2 ^ (h - n.length)) := by
  rw [encPath_eq hh hl, lo_eq hl, hi, W, Nat.mul_comm]

/-- the path word of `pfx ++ rest`: the prefix occupies the top `f` levels, the rest is the path word of
    `rest` in the subtree of height `r` -/
theorem encPath_append {f r : Nat} {pfx rest : List Bool} (hf : pfx.length = f) (hr : rest.length ≤ r)
    (hh : f + r ≤ 32) :
    encPath (f + r) (pfx ++ rest) =
      W (bitsVal pfx * 2 ^ r) (2 ^ (f + r) - 2 ^ r) ||| encPath r rest := by
  have hl : (pfx ++ rest).length ≤ f + r := by simp [hf]; omega
  rw [encPath_W hl hh, encPath_W hr (by omega)]
  have hm1 : 2 ^ (f + r) - 2 ^ r < 2 ^ 32 := sub_pow_lt r hh
  have hm2 := sub_pow_lt (r - rest.length) (show r ≤ 32 by omega)
  rw [W_or hm1 hm2]
  have el : f + r - (pfx ++ rest).length = r - rest.length := by simp [hf]; omega
  rw [el]
  have hpw : 2 ^ rest.length * 2 ^ (r - rest.length) = 2 ^ r := by
    rw [← Nat.pow_add]; congr 1; omega
  congr 1
  · have hlt : bitsVal rest * 2 ^ (r - rest.length) < 2 ^ r := hi_lt hr
    rw [Nat.mul_comm (bitsVal pfx) (2 ^ r), ← Nat.two_pow_add_eq_or_of_lt hlt,
      bitsVal_append, Nat.add_mul, Nat.mul_assoc, hpw, Nat.mul_comm]
  · exact (or_pow_sub_pow (Nat.le_add_left r f) (Nat.sub_le r _)).symm

/-- the key formula of phase A: a node whose first `f` branches are the low `f` bits of `A` has pre-order
    index `f + A * 2^(D'+1) - popc A` plus the index of the rest in the subtree of height `D'` -/
theorem preIdx_wordBits : ∀ (f A D' : Nat) (rest : List Bool),
    preIdx (full (f + D')) 0 (C08L.wordBits f A ++ rest) + popc A f =
      f + A % 2 ^ f * 2 ^ (D' + 1) + preIdx (full D') 0 rest
  | 0, A, D', rest => by simp [C08L.wordBits_zero, popc, Nat.mod_one]
  | f + 1, A, D', rest => by
    have ih := preIdx_wordBits f A D' rest
    have e : f + 1 + D' = f + D' + 1 := by omega
    have hP : 2 ^ f * 2 ^ (D' + 1) = 2 ^ (f + D' + 1) := by rw [← Nat.pow_add]; congr 1
    have hpos := Nat.two_pow_pos (f + D' + 1)
    rw [e, C08L.wordBits_succ, List.cons_append, preIdx_full_cons, popc,
      Nat.mod_pow_succ (x := A) (b := 2) (k := f), Nat.add_mul, Nat.mul_assoc,
      Nat.mul_comm (A / 2 ^ f % 2), ← Nat.mul_assoc, hP, Nat.testBit_eq_decide_div_mod_eq]
    simp only [full] at ih ⊢
    rcases Nat.mod_two_eq_zero_or_one (A / 2 ^ f) with h | h <;> simp [h] <;> omega

/-- the node at index `A * 2^(D'+1) + R` (`f ≤ R`): its first `f` branches are the bits of `A`, the rest is
    the node at index `R - f + popc A` of the subtree of height `D'`.  `nodeAt` inverts `preIdx`, so it is
    enough to compute the index of the claimed node -/
theorem nodeAt_prefix (f A R D' : Nat) (hA : A < 2 ^ f) (hR : R < 2 ^ (D' + 1)) (hfR : f ≤ R)
    (hlt : A * 2 ^ (D' + 1) + R < 2 ^ (f + D' + 1) - 1) :
    nodeAt (f + D') (A * 2 ^ (D' + 1) + R) = C08L.wordBits f A ++ nodeAt D' (R - f + popc A f) ∧
      R - f + popc A f < 2 ^ (D' + 1) - 1 := by
  have hpc := popc_le A f
  have hj : R - f + popc A f < 2 ^ (D' + 1) - 1 := by
    by_cases hA' : A + 1 < 2 ^ f
    · have := popc_lt_of_succ_lt f A hA'; omega
    · have hP : 2 ^ f * 2 ^ (D' + 1) = 2 ^ (f + D' + 1) := by rw [← Nat.pow_add, Nat.add_assoc]
      have e : A = 2 ^ f - 1 := by omega
      rw [e, ← hP, Nat.sub_mul] at hlt
      omega
  refine ⟨?_, hj⟩
  obtain ⟨hl, hv⟩ := nodeAt_spec D' _ hj
  have key := preIdx_wordBits f A D' (nodeAt D' (R - f + popc A f))
  rw [hv, Nat.mod_eq_of_lt hA] at key
  have hn : (C08L.wordBits f A ++ nodeAt D' (R - f + popc A f)).length ≤ f + D' := by
    rw [List.length_append, C08L.length_wordBits]; omega
  have := nodeAt_preIdx (f + D') _ hn
  rwa [show preIdx (full (f + D')) 0 (C08L.wordBits f A ++ nodeAt D' (R - f + popc A f)) =
    A * 2 ^ (D' + 1) + R by omega] at this

end Low.C05L
