import LowProofs.Lemmas.C03Spec
/- C03 helpers, part 6: members and order of the enumeration `preorder`, surjectivity of `preIdx` onto the
   positions, and strict monotonicity for the pre-order on nodes given directly -/
namespace Low.C03L

theorem preIdx_lt (T : Nat) (r d : Nat) (m : List Bool) (hT : T < 2^(d+r+1)) (hm : StoredIn T d r m) :
    preIdx T d m < T >>> d := by
  have h1 := (List.getElem?_eq_some_iff.mp (preorder_index T r d [] m hT hm)).1
  rwa [preorder_length_of_lt [] hT] at h1

theorem mem_preorder (T : Nat) : ∀ (r d : Nat) (pfx m : List Bool),
    m ∈ preorder T r d pfx ↔ ∃ s, m = pfx ++ s ∧ StoredIn T d r s
  | 0, d, pfx, m => by
    simp only [preorder, List.mem_ite_nil_right, List.mem_singleton, storedIn_zero]
    constructor
    · rintro ⟨ht, rfl⟩
      exact ⟨[], by simp, rfl, ht⟩
    · rintro ⟨s, rfl, rfl, ht⟩
      exact ⟨ht, by simp⟩
  | r+1, d, pfx, m => by
    simp only [preorder, List.mem_append, mem_preorder T r, List.mem_ite_nil_right, List.mem_singleton]
    constructor
    · rintro ((⟨ht, rfl⟩ | ⟨s, rfl, hs⟩) | ⟨s, rfl, hs⟩)
      · exact ⟨[], by simp, storedIn_nil.mpr ht⟩
      · exact ⟨false :: s, by simp, storedIn_cons.mpr hs⟩
      · exact ⟨true :: s, by simp, storedIn_cons.mpr hs⟩
    · rintro ⟨s, rfl, hs⟩
      match s, hs with
      | [], hs => exact .inl (.inl ⟨storedIn_nil.mp hs, by simp⟩)
      | false :: s, hs => exact .inl (.inr ⟨s, by simp, storedIn_cons.mp hs⟩)
      | true :: s, hs => exact .inr ⟨s, by simp, storedIn_cons.mp hs⟩

theorem mem_preorder_root (T h : Nat) (m : List Bool) :
    m ∈ preorder T h 0 [] ↔ m.length ≤ h ∧ T.testBit m.length = true := by
  rw [mem_preorder]
  constructor
  · rintro ⟨s, rfl, hs, ht⟩
    exact ⟨hs, by simpa using ht⟩
  · rintro ⟨hs, ht⟩
    exact ⟨m, by simp, hs, by simpa using ht⟩

theorem preorder_lex (T : Nat) : ∀ (r d : Nat) (pfx : List Bool),
    (preorder T r d pfx).Pairwise (fun a b => lexCmp a b = -1)
  | 0, d, pfx => by
    simp only [preorder]
    split <;> simp
  | r+1, d, pfx => by
    simp only [preorder]
    rw [List.pairwise_append, List.pairwise_append]
    refine ⟨⟨?_, preorder_lex T r (d+1) _, ?_⟩, preorder_lex T r (d+1) _, ?_⟩
    · split <;> simp
    · intro a ha b hb
      have ea : a = pfx := List.mem_singleton.mp (List.mem_ite_nil_right.mp ha).2
      obtain ⟨s, rfl, _⟩ := (mem_preorder T r (d+1) _ b).mp hb
      subst ea
      rw [List.append_assoc]
      exact lexCmp_prefix a _ (by simp)
    · intro a ha b hb
      obtain ⟨s', rfl, _⟩ := (mem_preorder T r (d+1) _ b).mp hb
      rw [List.mem_append] at ha
      rcases ha with ha | ha
      · have ea : a = pfx := List.mem_singleton.mp (List.mem_ite_nil_right.mp ha).2
        subst ea
        rw [List.append_assoc]
        exact lexCmp_prefix a _ (by simp)
      · obtain ⟨s, rfl, _⟩ := (mem_preorder T r (d+1) _ a).mp ha
        rw [List.append_assoc, List.append_assoc]
        exact lexCmp_branch pfx s s'

theorem pairwise_getElem?_inj {α : Type} {R : α → α → Prop} {l : List α} (hl : l.Pairwise R)
    (hirr : ∀ a, ¬ R a a) {i j : Nat} {a : α} (hi : l[i]? = some a) (hj : l[j]? = some a) : i = j := by
  obtain ⟨hi', ei⟩ := List.getElem?_eq_some_iff.mp hi
  obtain ⟨hj', ej⟩ := List.getElem?_eq_some_iff.mp hj
  have hp := List.pairwise_iff_getElem.mp hl
  apply Nat.le_antisymm
  · apply Nat.le_of_not_lt; intro hlt
    have := hp j i hj' hi' hlt
    rw [ei, ej] at this
    exact hirr a this
  · apply Nat.le_of_not_lt; intro hlt
    have := hp i j hi' hj' hlt
    rw [ei, ej] at this
    exact hirr a this

theorem preorder_surj (T r d : Nat) (pfx : List Bool) (i : Nat) (hT : T < 2^(d+r+1))
    (hi : i < (preorder T r d pfx).length) :
    ∃ s : List Bool, (preorder T r d pfx)[i]? = some (pfx ++ s) ∧ StoredIn T d r s ∧ preIdx T d s = i := by
  obtain ⟨s, hs, hst⟩ := (mem_preorder T r d pfx _).mp (List.getElem_mem hi)
  have hi' : (preorder T r d pfx)[i]? = some (pfx ++ s) := by rw [List.getElem?_eq_getElem hi, hs]
  refine ⟨s, hi', hst, ?_⟩
  refine pairwise_getElem?_inj (preorder_lex T r d pfx) (fun a h => ?_) (preorder_index T r d pfx s hT hst) hi'
  rw [lexCmp_self] at h
  cases h

/-- pre-order on nodes, given directly: an ancestor precedes its descendants; otherwise the node that
    goes left at the first difference precedes the one that goes right -/
def preLt : List Bool → List Bool → Bool
  | [], [] => false
  | [], _ :: _ => true
  | _ :: _, [] => false
  | a :: r, b :: s => if a = b then preLt r s else (!a && b)

theorem preIdx_strictMono (T : Nat) : ∀ (r : Nat) (n n' : List Bool) (d : Nat), T < 2^(d+r+1) →
    StoredIn T d r n → StoredIn T d r n' → preLt n n' = true → preIdx T d n < preIdx T d n'
  | _, [], [], _, _, _, _, h => by simp [preLt] at h
  | _, [], b :: s, d, _, hs, _, _ => by
    simp only [preIdx, storedIn_nil.mp hs]; simp; omega
  | r+1, a :: m, b :: s, d, hT, hn, hn', h => by
    have hT' := bound_succ hT
    have hm := storedIn_cons.mp hn
    have hm' := storedIn_cons.mp hn'
    simp only [preLt] at h
    by_cases hab : a = b
    · subst hab
      simp only [if_true] at h
      have := preIdx_strictMono T r m s (d+1) hT' hm hm' h
      simp only [preIdx]; omega
    · simp only [hab, if_false, Bool.and_eq_true, Bool.not_eq_true'] at h
      obtain ⟨ha, hb⟩ := h
      subst ha; subst hb
      have := preIdx_lt T r (d+1) m hT' hm
      simp only [preIdx]; simp; omega

end Low.C03L
