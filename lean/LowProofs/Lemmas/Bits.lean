import LowModel
/- bit-level lemmas: popc, masks, shifts, `tz`, `bitLen`, bits above a bound, literal powers of two,
   `w &&& 2^i`, `w &&& (w - 1)` (`testBit_and_pred`, `popc_and_pred`); Go's `if`-clamps as min / max
   (core Lean only) -/
namespace Low

theorem popc_congr {a b : Nat} : ∀ {n : Nat}, (∀ k, k < n → a.testBit k = b.testBit k) → popc a n = popc b n
  | 0, _ => rfl
  | n+1, h => by
    simp only [popc]
    rw [popc_congr (fun k hk => h k (by omega)), h n (by omega)]

theorem popc_le (w : Nat) : ∀ n, popc w n ≤ n
  | 0 => by simp [popc]
  | n+1 => by
    simp only [popc]
    have := popc_le w n
    cases w.testBit n <;> simp <;> omega

theorem popc_mono (w : Nat) {m n : Nat} (h : m ≤ n) : popc w m ≤ popc w n := by
  induction n with
  | zero => have : m = 0 := by omega
            subst this; exact Nat.le_refl _
  | succ n ih =>
    by_cases hm : m = n + 1
    · subst hm; exact Nat.le_refl _
    · have := ih (by omega); simp only [popc]; omega

theorem testBit_and_mask (w j k : Nat) : (w &&& mask j).testBit k = (w.testBit k && decide (k < j)) := by
  simp [mask, Bool.and_comm]

theorem popc_and_mask (w j : Nat) : ∀ n, popc (w &&& mask j) n = popc w (min n j)
  | 0 => by simp [popc]
  | n+1 => by
    simp only [popc, popc_and_mask w j n, testBit_and_mask]
    by_cases h : n < j
    · have h1 : min (n+1) j = n + 1 := by omega
      have h2 : min n j = n := by omega
      simp [h1, h2, popc, h]
    · have h1 : min (n+1) j = j := by omega
      have h2 : min n j = j := by omega
      simp [h1, h2, h]

theorem popc_add (w m : Nat) : ∀ n, popc w (m + n) = popc w m + popc (w >>> m) n
  | 0 => by simp [popc]
  | n+1 => by
    have : m + (n + 1) = (m + n) + 1 := by omega
    rw [this]; simp only [popc, popc_add w m n, Nat.testBit_shiftRight]; omega

theorem popc_zero (n : Nat) : popc 0 n = 0 := by
  induction n with
  | zero => rfl
  | succ n ih => simp [popc, ih]

theorem popc_lt_two_pow {w n : Nat} (h : w < 2^n) : ∀ m, n ≤ m → popc w m = popc w n := by
  intro m hm
  induction m with
  | zero => have : n = 0 := by omega
            subst this; rfl
  | succ m ih =>
    by_cases hn : n = m + 1
    · subst hn; rfl
    · have hb : w.testBit m = false := Nat.testBit_lt_two_pow (Nat.lt_of_lt_of_le h (Nat.pow_le_pow_right (by omega) (by omega)))
      simp only [popc, hb, ih (by omega)]; simp

theorem shiftRight_mod_two (w j : Nat) : (w >>> j) % 2 = (w.testBit j).toNat := by
  rw [Nat.toNat_testBit, Nat.shiftRight_eq_div_pow]

/-- Go's clamp `if a > b { a = b }` -/
theorem ite_gt_eq_min (a b : Int) : (if a > b then b else a) = min a b := by
  rw [Int.min_def]; split <;> split <;> omega

/-- Go's `if a < b { a = b }` -/
theorem ite_lt_eq_max (a b : Int) : (if a < b then b else a) = max a b := by
  rw [Int.max_def]; split <;> split <;> omega

theorem two_pow_30 : (2:Nat)^30 = 1073741824 := rfl
theorem two_pow_31 : (2:Nat)^31 = 2147483648 := rfl
theorem two_pow_32 : (2:Nat)^32 = 4294967296 := rfl
theorem M32_eq : M32 = 2^32 := rfl
theorem M64_pred : M64 - 1 = 2^64 - 1 := rfl

theorem pow_le_pow {a b : Nat} (h : a ≤ b) : 2 ^ a ≤ 2 ^ b := Nat.pow_le_pow_right (by omega) h

theorem pow_split {h l : Nat} (hl : l ≤ h) : 2^h = 2^l * 2^(h - l) := by
  rw [← Nat.pow_add]; congr 1; omega

theorem shiftRight_lt_two_pow {T d r : Nat} (h : T < 2^(d+r)) : T >>> d < 2^r := by
  rw [Nat.shiftRight_eq_div_pow]
  apply Nat.div_lt_of_lt_mul
  rw [← Nat.pow_add]; exact h

theorem testBit_false_of_lt {x j k : Nat} (hx : x < 2^j) (hk : j ≤ k) : x.testBit k = false :=
  Nat.testBit_lt_two_pow (Nat.lt_of_lt_of_le hx (pow_le_pow hk))

theorem lt_of_testBit_of_lt {w k n : Nat} (hb : w.testBit k = true) (hw : w < 2^n) : k < n := by
  apply Nat.lt_of_not_le; intro h
  rw [testBit_false_of_lt hw h] at hb; cases hb

theorem exists_bit_lt {w n : Nat} (h0 : w ≠ 0) (hn : w < 2^n) : ∃ k, k < n ∧ w.testBit k = true := by
  obtain ⟨k, hk⟩ := Nat.exists_testBit_of_ne_zero h0
  exact ⟨k, lt_of_testBit_of_lt hk hn, hk⟩

theorem testBit_bit_add_eq (b : Bool) {v n : Nat} (hv : v < 2 ^ n) : (b.toNat * 2 ^ n + v).testBit n = b := by
  rw [Nat.mul_comm, Nat.testBit_two_pow_mul_add _ hv]
  cases b <;> simp

theorem testBit_bit_add_lt (b : Bool) {v n k : Nat} (hv : v < 2 ^ n) (hk : k < n) :
    (b.toNat * 2 ^ n + v).testBit k = v.testBit k := by
  rw [Nat.mul_comm, Nat.testBit_two_pow_mul_add _ hv]
  simp [hk]

theorem tz_le : ∀ (n w : Nat), tz w n ≤ n
  | 0, _ => Nat.le_refl _
  | n+1, w => by
    simp only [tz]
    split
    · omega
    · have := tz_le n (w >>> 1); omega

theorem tz_zero : ∀ m, tz 0 m = m
  | 0 => rfl
  | m+1 => by
    rw [tz, Nat.zero_testBit, if_neg (by simp), Nat.zero_shiftRight, tz_zero m, Nat.add_comm]

theorem tz_lt_false : ∀ (n w j : Nat), j < tz w n → w.testBit j = false
  | 0, _, j, h => by simp [tz] at h
  | n+1, w, j, h => by
    simp only [tz] at h
    split at h
    · omega
    · rename_i h0
      cases j with
      | zero => simpa using h0
      | succ j =>
        have := tz_lt_false n (w >>> 1) j (by omega)
        rw [Nat.testBit_shiftRight] at this
        rwa [Nat.add_comm] at this

theorem tz_testBit : ∀ (n w : Nat), tz w n < n → w.testBit (tz w n) = true
  | 0, _, h => by simp [tz] at h
  | n+1, w, h => by
    simp only [tz] at h ⊢
    split
    · rename_i h0; exact h0
    · rename_i h0
      rw [if_neg h0] at h
      have := tz_testBit n (w >>> 1) (by omega)
      rw [Nat.testBit_shiftRight] at this
      exact this

theorem tz_le_of_testBit {n w k : Nat} (hk : w.testBit k = true) : tz w n ≤ k := by
  apply Nat.le_of_not_lt
  intro h
  rw [tz_lt_false n w k h] at hk; cases hk

theorem tz_spec {n w : Nat} (h : ∃ j, j < n ∧ w.testBit j = true) :
    tz w n < n ∧ w.testBit (tz w n) = true ∧ ∀ j, j < tz w n → w.testBit j = false := by
  obtain ⟨j, hj, hb⟩ := h
  have hlt : tz w n < n := Nat.lt_of_le_of_lt (tz_le_of_testBit hb) hj
  exact ⟨hlt, tz_testBit n w hlt, tz_lt_false n w⟩

theorem tz_lt {w n : Nat} (h0 : w ≠ 0) (hn : w < 2^n) : tz w n < n :=
  (tz_spec (exists_bit_lt h0 hn)).1

theorem le_tz_iff : ∀ (m w k : Nat), k ≤ m → (k ≤ tz w m ↔ w % 2^k = 0)
  | 0, w, k, hk => by
    have : k = 0 := by omega
    subst this; simp [tz, Nat.mod_one]
  | m+1, w, 0, _ => by simp [Nat.mod_one]
  | m+1, w, k+1, hk => by
    have ih := le_tz_iff m (w >>> 1) k (by omega)
    have e : w % 2^(k+1) = w % 2 + 2 * (w / 2 % 2^k) := by
      rw [Nat.pow_succ, Nat.mul_comm, Nat.mod_mul]
    rw [Nat.shiftRight_eq_div_pow, Nat.pow_one] at ih
    simp only [tz]
    by_cases hb : w.testBit 0 = true
    · have : w % 2 = 1 := by rw [Nat.testBit_zero] at hb; simpa using hb
      simp only [hb, if_true]
      omega
    · have : w % 2 = 0 := by rw [Nat.testBit_zero] at hb; simp at hb; omega
      simp only [hb]
      rw [Nat.shiftRight_eq_div_pow, Nat.pow_one]
      simp only [Bool.false_eq_true, if_false]
      omega

theorem bitLen_congr {a b : Nat} : ∀ {n : Nat}, (∀ k, k < n → a.testBit k = b.testBit k) → bitLen a n = bitLen b n
  | 0, _ => rfl
  | n+1, h => by
    simp only [bitLen]
    rw [bitLen_congr (fun k hk => h k (by omega)), h n (by omega)]

theorem bitLen_le (w : Nat) : ∀ n, bitLen w n ≤ n
  | 0 => Nat.le_refl _
  | n+1 => by
    have := bitLen_le w n
    simp only [bitLen]; split <;> omega

theorem lt_two_pow_bitLen (w : Nat) : ∀ n, w < 2 ^ n → w < 2 ^ bitLen w n
  | 0, h => h
  | n + 1, h => by
    simp only [bitLen]
    split
    · exact h
    · rename_i hb
      apply lt_two_pow_bitLen w n
      apply Decidable.by_contra; intro hge
      exact hb (Nat.testBit_of_two_pow_le_and_two_pow_add_one_gt (by omega) h)

theorem bitLen_testBit (w : Nat) : ∀ n, 0 < bitLen w n → w.testBit (bitLen w n - 1) = true
  | 0, h => by simp [bitLen] at h
  | n+1, h => by
    simp only [bitLen] at h ⊢
    split
    · rename_i hb; simpa using hb
    · rename_i hb
      rw [if_neg hb] at h
      exact bitLen_testBit w n h

theorem bitLen_ge_false (w : Nat) : ∀ (n k : Nat), bitLen w n ≤ k → k < n → w.testBit k = false
  | 0, k, _, h => by omega
  | n+1, k, h1, h2 => by
    simp only [bitLen] at h1
    split at h1
    · omega
    · rename_i hb
      by_cases hk : k = n
      · subst hk; simpa using hb
      · exact bitLen_ge_false w n k h1 (by omega)

theorem bitLen_range {w : Nat} (h0 : w ≠ 0) (n : Nat) (h : w < 2^n) :
    1 ≤ bitLen w n ∧ 2^(bitLen w n - 1) ≤ w ∧ w < 2^(bitLen w n) := by
  have hlt := lt_two_pow_bitLen w n h
  have hpos : 1 ≤ bitLen w n := by
    apply Nat.lt_of_not_le; intro hle
    have : bitLen w n = 0 := by omega
    rw [this] at hlt; omega
  exact ⟨hpos, Nat.ge_two_pow_of_testBit (bitLen_testBit w n hpos), hlt⟩

theorem bitLen_pos {w n : Nat} (h0 : w ≠ 0) (hn : w < 2^n) : 0 < bitLen w n :=
  (bitLen_range h0 n hn).1

theorem bitLen_of_range {w j : Nat} (h1 : 2^j ≤ w) (h2 : w < 2^(j+1)) : ∀ n, j < n → bitLen w n = j + 1
  | 0, h => by omega
  | n+1, h => by
    simp only [bitLen]
    by_cases hj : n = j
    · subst hj
      rw [Nat.testBit_of_two_pow_le_and_two_pow_add_one_gt h1 h2]; simp
    · rw [testBit_false_of_lt h2 (by omega)]; simp
      exact bitLen_of_range h1 h2 n (by omega)

/-- `w &&& (w - 1)` clears the lowest set bit `t` of `w` and nothing else -/
theorem testBit_and_pred {w t : Nat} (ht : w.testBit t = true) (hlow : ∀ j, j < t → w.testBit j = false)
    (j : Nat) : (w &&& (w - 1)).testBit j = (w.testBit j && decide (j ≠ t)) := by
  have hlt : 2 ^ t < 2 ^ (t + 1) := Nat.pow_lt_pow_right (by omega) (Nat.lt_succ_self t)
  have hw : w = 2 ^ (t + 1) * (w >>> (t + 1)) + 2 ^ t := by
    apply Nat.eq_of_testBit_eq; intro k
    rw [Nat.testBit_two_pow_mul_add _ hlt, Nat.testBit_two_pow, Nat.testBit_shiftRight]
    split
    · by_cases hk : t = k
      · subst hk; simp [ht]
      · simp [hk, hlow k (by omega)]
    · rw [show t + 1 + (k - (t + 1)) = k by omega]
  have hp := Nat.two_pow_pos t
  have hw1 : w - 1 = 2 ^ (t + 1) * (w >>> (t + 1)) + (2 ^ t - 1) := by omega
  rw [Nat.testBit_and, hw1, Nat.testBit_two_pow_mul_add _ (by omega), Nat.testBit_two_pow_sub_one,
    Nat.testBit_shiftRight]
  split
  · by_cases hk : j < t
    · simp [hlow j hk]
    · have : j = t := by omega
      simp [this]
  · rw [show t + 1 + (j - (t + 1)) = j by omega]
    have : j ≠ t := by omega
    simp [this]

theorem popc_and_pred {w t : Nat} (ht : w.testBit t = true) (hlow : ∀ j, j < t → w.testBit j = false) :
    ∀ n, popc w n = popc (w &&& (w - 1)) n + (decide (t < n)).toNat
  | 0 => by simp [popc]
  | n+1 => by
    rw [popc, popc, popc_and_pred ht hlow n, testBit_and_pred ht hlow]
    by_cases hn : n = t
    · subst hn; simp [ht]
    · have e : decide (t < n + 1) = decide (t < n) := by simp; omega
      simp [hn, e]; omega

theorem and_two_pow (n i : Nat) : n &&& 2 ^ i = (n.testBit i).toNat * 2 ^ i := by
  apply Nat.eq_of_testBit_eq; intro k
  rw [Nat.testBit_and, Nat.testBit_two_pow]
  by_cases h : i = k
  · subst h
    cases hb : n.testBit i <;> simp
  · cases hb : n.testBit i <;> simp [h]

theorem popc_lt_of_succ_lt : ∀ (f A : Nat), A + 1 < 2 ^ f → popc A f < f
  | 0, A, h => by simp at h
  | f + 1, A, h => by
    rw [popc]
    have := popc_le A f
    cases hb : A.testBit f
    · simp; omega
    · have hge := Nat.ge_two_pow_of_testBit hb
      have e : A = 2 ^ f + (A - 2 ^ f) := by omega
      have ih := popc_lt_of_succ_lt f (A - 2 ^ f) (by rw [Nat.pow_succ] at h; omega)
      rw [e, popc_congr (fun k hk => Nat.testBit_two_pow_add_gt hk (A - 2 ^ f))]
      simp; omega

end Low
