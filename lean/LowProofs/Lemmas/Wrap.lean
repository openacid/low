import LowModel.Go
/-
  The conversions of `LowModel/Go.lean`: `wrap32 / wrap64` depend on their argument only through the residue modulo `2^w`
  (`_congr`), have that residue (`_emod`) and are the identity on the values of their range (`_id`); `u32 / u64` of naturals.
-/
namespace Low

theorem wrap32_congr {a b : Int} (h : a % (M32 : Int) = b % (M32 : Int)) : wrap32 a = wrap32 b := by
  unfold wrap32; rw [h]

theorem wrap32_emod (x : Int) : wrap32 x % (M32 : Int) = x % (M32 : Int) := by
  unfold wrap32; simp only []
  split
  · exact Int.emod_emod_of_dvd x (Int.dvd_refl _)
  · rw [Int.sub_emod_right]; exact Int.emod_emod_of_dvd x (Int.dvd_refl _)

theorem wrap32_id {x : Int} (h1 : -2147483648 ≤ x) (h2 : x < 2147483648) : wrap32 x = x := by
  unfold wrap32; simp only [M32]; omega

theorem wrap32_ofNat {n : Nat} (h : n < 2147483648) : wrap32 (n : Int) = n := wrap32_id (by omega) (by omega)

theorem wrap32_wrap32_add (a b : Int) : wrap32 (wrap32 a + b) = wrap32 (a + b) :=
  wrap32_congr (by rw [← Int.emod_add_emod, wrap32_emod, Int.emod_add_emod])

theorem wrap32_add_wrap32 (a b : Int) : wrap32 (a + wrap32 b) = wrap32 (a + b) :=
  wrap32_congr (by rw [← Int.add_emod_emod, wrap32_emod, Int.add_emod_emod])

theorem wrap32_wrap32_sub (a b : Int) : wrap32 (wrap32 a - b) = wrap32 (a - b) :=
  wrap32_congr (by rw [← Int.emod_sub_emod, wrap32_emod, Int.emod_sub_emod])

theorem u32_wrap32 (x : Int) : u32 (wrap32 x) = u32 x := by
  unfold u32; rw [wrap32_emod]

theorem u32_lt (x : Int) : u32 x < 4294967296 := by unfold u32; simp only [M32]; omega

theorem u32_ofNat (n : Nat) : u32 (n : Int) = n % M32 := by
  unfold u32; simp only [M32]; omega

theorem u32_ofNat_lt {n : Nat} (h : n < 4294967296) : u32 (n : Int) = n := by
  rw [u32_ofNat]; exact Nat.mod_eq_of_lt h

theorem wrap64_congr {a b : Int} (h : a % (M64 : Int) = b % (M64 : Int)) : wrap64 a = wrap64 b := by
  unfold wrap64; rw [h]

theorem wrap64_emod (x : Int) : wrap64 x % (M64 : Int) = x % (M64 : Int) := by
  unfold wrap64; simp only []
  split
  · exact Int.emod_emod_of_dvd x (Int.dvd_refl _)
  · rw [Int.sub_emod_right]; exact Int.emod_emod_of_dvd x (Int.dvd_refl _)

theorem wrap64_id {x : Int} (h1 : -9223372036854775808 ≤ x) (h2 : x < 9223372036854775808) : wrap64 x = x := by
  unfold wrap64; simp only [M64]; omega

theorem wrap64_ofNat {n : Nat} (h : n < 9223372036854775808) : wrap64 (n : Int) = n := wrap64_id (by omega) (by omega)

theorem wrap64_lt (x : Int) : wrap64 x < 9223372036854775808 := by
  unfold wrap64; simp only [M64]; omega

theorem wrap64_wrap64_sub (a b : Int) : wrap64 (wrap64 a - b) = wrap64 (a - b) :=
  wrap64_congr (by rw [← Int.emod_sub_emod, wrap64_emod, Int.emod_sub_emod])

theorem wrap64_sub_wrap64 (a b : Int) : wrap64 (a - wrap64 b) = wrap64 (a - b) :=
  wrap64_congr (by rw [← Int.sub_emod_emod, wrap64_emod, Int.sub_emod_emod])

theorem u64_ofNat (n : Nat) : u64 (n : Int) = n % M64 := by
  unfold u64; simp only [M64]; omega

theorem u64_ofNat_lt {n : Nat} (h : n < 18446744073709551616) : u64 (n : Int) = n := by
  rw [u64_ofNat]; exact Nat.mod_eq_of_lt h

theorem u64_of_nonneg {x : Int} (h0 : 0 ≤ x) (h : x < 18446744073709551616) : u64 x = x.toNat := by
  unfold u64; rw [Int.emod_eq_of_lt h0 (show x < ((M64 : Nat) : Int) from h)]

/-! ### residues and two's complement -/

/-- reducing modulo `M` first does not change the residue modulo a divisor `m` of `M` -/
theorem toNat_emod_emod (v : Int) (m M : Nat) (hm : 0 < m) (hd : m ∣ M) (hM : 0 < M) :
    (v % (M : Int)).toNat % m = (v % (m : Int)).toNat := by
  have h1 : 0 ≤ v % (M : Int) := Int.emod_nonneg _ (by omega)
  have h2 : 0 ≤ v % (m : Int) := Int.emod_nonneg _ (by omega)
  apply Int.ofNat.inj
  simp only [Int.ofNat_eq_natCast]
  rw [Int.natCast_emod, Int.toNat_of_nonneg h1, Int.toNat_of_nonneg h2]
  exact Int.emod_emod_of_dvd v (Int.natCast_dvd_natCast.2 hd)

/-- a value in `[-H, H)` is recovered from its residue modulo `2H`: residues from `H` on stand for the negative values -/
theorem wrap_signed (v H : Int) (h1 : -H ≤ v) (h2 : v < H) :
    (if H ≤ v % (2 * H) then v % (2 * H) - 2 * H else v % (2 * H)) = v := by
  by_cases hv : 0 ≤ v
  · rw [Int.emod_eq_of_lt hv (by omega), if_neg (by omega)]
  · have e : v % (2 * H) = v + 2 * H := by
      rw [← Int.add_mul_emod_self_left v (2 * H) 1, Int.mul_one]
      exact Int.emod_eq_of_lt (by omega) (by omega)
    rw [e, if_pos (by omega)]
    omega

end Low
