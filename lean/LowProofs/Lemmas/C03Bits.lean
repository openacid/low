import LowProofs.Lemmas.C03Spec
/- C03 helpers, part 2: `height`, `popc` of a complemented word, and the shift form `pmask` of the level mask -/
namespace Low.C03L

theorem height_spec {T h : Nat} (h1 : 1 ≤ T) (h31 : T < 2^31) (hh : height T = (h : Int)) :
    2^h ≤ T ∧ T < 2^(h+1) ∧ h ≤ 30 := by
  have hlt : T < 2^32 := by rw [two_pow_31] at h31; rw [two_pow_32]; omega
  have hm : T % M32 = T := Nat.mod_eq_of_lt (by rw [two_pow_32] at hlt; exact hlt)
  have ⟨a, b, c⟩ := bitLen_range (w := T) (by omega) 32 hlt
  have hle := bitLen_le T 32
  simp only [height, lz, hm] at hh
  have e : bitLen T 32 = h + 1 := by omega
  rw [e] at b c
  refine ⟨by simpa using b, c, ?_⟩
  have : h < 31 := (Nat.pow_lt_pow_iff_right (a := 2) (by omega)).mp (Nat.lt_of_le_of_lt (by simpa using b) h31)
  omega

theorem height_of_range {T h : Nat} (h1 : 2^h ≤ T) (h2 : T < 2^(h+1)) (h30 : h ≤ 30) :
    height T = (h : Int) := by
  have hlt : T < 2^32 := Nat.lt_of_lt_of_le h2 (Nat.pow_le_pow_right (by omega) (by omega))
  have hm : T % M32 = T := Nat.mod_eq_of_lt (by rw [two_pow_32] at hlt; exact hlt)
  simp only [height, lz, hm, bitLen_of_range h1 h2 32 (by omega)]
  omega

theorem height_toNat {T h : Nat} (hh : height T = (h : Int)) : (height T).toNat = h := by
  rw [hh]; exact Int.toNat_natCast h

theorem popc_compl {x w : Nat} : ∀ {n : Nat}, (∀ k, k < n → x.testBit k = !w.testBit k) →
    popc x n + popc w n = n
  | 0, _ => rfl
  | n+1, h => by
    have ih := popc_compl (n := n) (fun k hk => h k (by omega))
    simp only [popc, h n (by omega)]
    cases w.testBit n <;> simp <;> omega

/-- the level mask of a path word written with a shift; it is `lo h n.length` -/
def pmask (h : Nat) (n : List Bool) : Nat := (2 ^ n.length - 1) <<< (h - n.length)
end Low.C03L
