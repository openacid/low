import LowProofs.Lemmas.C03Cases
/- C03 helpers, part 5: the `-tags debug` contracts hold on every valid input -/
namespace Low.C03L

theorem sizeCheck_ok {T h : Nat} {n : List Bool} (v : Valid T h n) : bitmapSizeCheck T = true := by
  have h0 : T ≠ 0 := by have := v.lo; have := Nat.two_pow_pos h; omega
  have := v.h30
  simp only [bitmapSizeCheck, height_of_range v.lo v.hi v.h30]
  simp [h0]; omega

/-- `path & 0xc0000000c0000000 == 0` -/
theorem pathCheck_top {T h : Nat} {n : List Bool} (v : Valid T h n) :
    encPath h n &&& 0xc0000000c0000000 = 0 := by
  have hc : (0xc0000000c0000000 : Nat) = ((2^2 - 1) <<< 30) ||| ((2^2 - 1) <<< 62) := by decide
  have hp : hi h n < 2^30 := Nat.lt_of_lt_of_le (hi_lt v.len) (pow_le_pow v.h30)
  have hm : lo h n.length < 2^30 := Nat.lt_of_lt_of_le (lo_lt v.len) (pow_le_pow v.h30)
  apply Nat.eq_of_testBit_eq; intro k
  rw [Nat.zero_testBit, Nat.testBit_and]
  by_cases hk : k = 30 ∨ k = 31 ∨ k = 62 ∨ k = 63
  · have h32 : h ≤ 32 := Nat.le_trans v.h30 (by decide)
    rw [encPath_eq h32 v.len, Nat.mul_comm, Nat.testBit_two_pow_mul_add _ (lo_lt32 h32 v.len)]
    split
    · rw [testBit_false_of_lt hm (by omega)]; rfl
    · rw [testBit_false_of_lt hp (by omega)]; rfl
  · have : (0xc0000000c0000000 : Nat).testBit k = false := by
      rw [hc, Nat.testBit_or, Nat.testBit_shiftLeft, Nat.testBit_shiftLeft]
      simp only [Nat.testBit_two_pow_sub_one]
      simp; omega
    rw [this]; simp

/-- filling the trailing zeros of the mask: `extended := path | (path - 1)` of `pathCheck` -/
theorem lo_or_pred {h : Nat} {n : List Bool} (hn : n.length ≤ h) (h1 : 1 ≤ n.length) :
    lo h n.length ||| (lo h n.length - 1) = 2^h - 1 := by
  have he : 2^(h - n.length) < 2^h := Nat.pow_lt_pow_right (by omega) (by omega)
  have hm : lo h n.length = 2^h - 2^(h - n.length) := lo_eq hn
  have hm1 : lo h n.length - 1 = 2^h - (2^(h - n.length) + 1) := by rw [hm]; omega
  apply Nat.eq_of_testBit_eq; intro k
  rw [Nat.testBit_or, hm1, Nat.testBit_two_pow_sub_succ he, testBit_lo hn,
    Nat.testBit_two_pow_sub_one, Nat.testBit_two_pow]
  by_cases a : k < h
  · by_cases c : h - n.length = k
    · simp [a, c]
    · simp [a, c]
  · simp [a]

theorem pathCheck_ok {T h : Nat} {n : List Bool} (v : Valid T h n) : pathCheck (encPath h n) = true := by
  have h32 : h ≤ 32 := by have := v.h30; omega
  have e := encPath_eq h32 v.len
  simp only [pathCheck, pathCheck_top v, encPath_mod32 h32 v.len, encPath_shr h32 v.len]
  split
  · rfl
  · rename_i hne
    have h1 : 1 ≤ n.length := (lo_ne_zero_iff h n.length).mp hne
    have hext : (encPath h n ||| (encPath h n - 1)) % M32 = 2^h - 1 := by
      have e1 := encPath_mod h32 v.len
      have e2 : (encPath h n - 1) % 2^32 = lo h n.length - 1 := by
        rw [e]; omega
      rw [M32_eq, Nat.or_mod_two_pow, e1, e2, lo_or_pred v.len h1]
    have hlz : 32 - lz (lo h n.length) 32 = h := by
      have := bitLen_lo h32 v.len h1
      simp only [lz, this]; omega
    have hpc : popc (2^h - 1) 32 = h := by rw [popc_mask]; omega
    have hnot : (not64 (lo h n.length)) % M32 &&& hi h n = 0 := by
      apply Nat.eq_of_testBit_eq; intro k
      rw [Nat.zero_testBit, Nat.testBit_and, M32_eq, Nat.testBit_mod_two_pow, not64, M64_pred, Nat.testBit_xor,
        Nat.testBit_two_pow_sub_one]
      by_cases hb : (hi h n).testBit k = true
      · rw [testBit_hi_imp v.len hb]
        by_cases hk : k < 32
        · have : k < 64 := by omega
          simp [this]
        · simp [hk]
      · have : (hi h n).testBit k = false := Bool.eq_false_iff.mpr hb
        rw [this]; simp
    rw [hext, hlz, hpc, hnot]; simp

theorem equalHeight_ok {T h : Nat} {n : List Bool} (v : Valid T h n) :
    bitmapPathMustHaveEqualHeight T (encPath h n) = true := by
  have h32 : h ≤ 32 := by have := v.h30; omega
  simp only [bitmapPathMustHaveEqualHeight, sizeCheck_ok v, pathCheck_ok v, Bool.true_and,
    encPath_mod32 h32 v.len]
  split
  · rename_i hne
    have h1 : 1 ≤ n.length := (lo_ne_zero_iff h n.length).mp hne
    have := bitLen_lo h32 v.len h1
    simp only [height_of_range v.lo v.hi v.h30, pathHeight, encPath_mod32 h32 v.len, lz, this]
    simp; omega
  · rfl

theorem contractsLoose_ok {T h : Nat} {n : List Bool} (v : Valid T h n) :
    contractsLoose T (encPath h n) = true := by
  simp [contractsLoose, sizeCheck_ok v, pathCheck_ok v, equalHeight_ok v]

theorem contractsStrict_ok {T h : Nat} {n : List Bool} (v : Valid T h n) (hs : T.testBit n.length = true) :
    contractsStrict T (encPath h n) = true := by
  have h32 : h ≤ 32 := by have := v.h30; omega
  simp [contractsStrict, contractsLoose_ok v, bitmapMustHaveLevel, pathLen_encPath h32 v.len,
    shiftRight_mod_two, hs]

end Low.C03L
