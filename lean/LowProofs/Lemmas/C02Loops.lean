import LowProofs.Lemmas.C02Scan
import LowProofs.Lemmas.C02Idx
/- C02 helpers, part 5: the word-skipping loops and the two select functions end to end -/
namespace Low.C02L

theorem masked_popc_low {w0 c w : Nat} (hm : Masked w0 c w) : ∀ j, j ≤ c → popc w j = 0
  | 0, _ => rfl
  | j+1, h => by
    have hd : decide (c ≤ j) = false := by simp; omega
    simp only [popc, masked_popc_low hm j (by omega), hm j, hd]; simp

theorem masked_popc {w0 c w : Nat} (hm : Masked w0 c w) : ∀ j, c ≤ j → popc w j + popc w0 c = popc w0 j
  | 0, h => by
    have : c = 0 := by omega
    subst this; rfl
  | j+1, h => by
    by_cases hc : c = j + 1
    · subst hc; rw [masked_popc_low hm (j+1) (Nat.le_refl _)]; omega
    · have ih := masked_popc hm j (by omega)
      have hd : decide (c ≤ j) = true := by simp; omega
      simp only [popc, hm j, hd, Bool.and_true]; omega

theorem rank_word_masked {ws : List Nat} {wI w0 c w : Nat} (hw : ws[wI]? = some w0)
    (hm : Masked w0 c w) (hc : c ≤ 64) :
    rank ws (64 * wI + 64) = rank ws (64 * wI + c) + popc w 64 := by
  rw [rank_word hw 64 (by omega), rank_word hw c hc]
  have := masked_popc hm 64 hc
  omega

/-- invariant of the word-skipping loop: `w` is word `wI` with the bits below `c` cleared, and `f` 1-bits
    remain to be passed from position `64*wI + c`; the loop ends in a word that holds the wanted bit
    (it cannot run off the end because `i` is below the total count) -/
theorem sel32Skip_spec {ws : List Nat} {i : Nat} (hi : i < rank ws (64 * ws.length)) :
    ∀ (rest : List Nat) (w wI f w0 c : Nat), ws.drop (wI+1) = rest → ws[wI]? = some w0 →
      Masked w0 c w → c ≤ 64 → f + rank ws (64 * wI + c) = i →
      ∃ w' wI' f' w0' c', sel32Skip rest w wI f = some (w', wI', f') ∧ ws[wI']? = some w0' ∧
        Masked w0' c' w' ∧ c' ≤ 64 ∧ f' + rank ws (64 * wI' + c') = i ∧ f' < popc w' 64 := by
  intro rest
  induction rest with
  | nil =>
    intro w wI f w0 c hd hw hm hc hf
    have hlt : wI < ws.length := (List.getElem?_eq_some_iff.mp hw).1
    rw [sel32Skip]
    by_cases hp : popc w 64 ≤ f
    · exfalso
      have h1 : ws.length ≤ wI + 1 := List.drop_eq_nil_iff.mp hd
      have h2 : 64 * ws.length = 64 * wI + 64 := by omega
      rw [h2, rank_word_masked hw hm hc] at hi
      omega
    · rw [if_neg hp]
      exact ⟨w, wI, f, w0, c, rfl, hw, hm, hc, hf, by omega⟩
  | cons w1 r ih =>
    intro w wI f w0 c hd hw hm hc hf
    rw [sel32Skip]
    by_cases hp : popc w 64 ≤ f
    · rw [if_pos hp]
      obtain ⟨hw1, _, hdr⟩ := drop_cons_facts hd
      have hr := rank_word_masked hw hm hc
      have e : 64 * (wI + 1) + 0 = 64 * wI + 64 := by omega
      exact ih w1 (wI+1) (f - popc w 64) w1 0 hdr hw1 (masked_refl w1) (by omega)
        (by rw [e, hr]; omega)
    · rw [if_neg hp]
      exact ⟨w, wI, f, w0, c, rfl, hw, hm, hc, hf, by omega⟩

theorem sidx_entry {ws : List Nat} {i : Nat} (hi : i < (ones ws).length) :
    ∃ p0, (indexSelect32 ws)[i / 32]? = some p0 ∧ i / 32 < (indexSelect32 ws).length ∧
      p0 < 64 * ws.length ∧ bitAt ws p0 = true ∧ rank ws p0 = 32 * (i / 32) := by
  have h32 : 32 * (i / 32) < (ones ws).length := by omega
  have hk : i / 32 < ((ones ws).length + 31) / 32 := by omega
  have hg : (ones ws)[32 * (i / 32)]? = some (ones ws)[32 * (i / 32)] := List.getElem?_eq_getElem h32
  obtain ⟨h1, h2, h3⟩ := ones_getElem? hg
  refine ⟨(ones ws)[32 * (i / 32)], ?_, ?_, h1, h2, h3⟩
  · rw [indexSelect32_eq, List.getElem?_map, List.getElem?_range hk]
    simp [List.getD, hg]
  · rw [indexSelect32_eq]; simpa using hk

theorem sel_in_word {ws : List Nat} {wI w0 c w f a0 i : Nat} (hw : ws[wI]? = some w0)
    (hm : Masked w0 c w) (hc : c ≤ 64) (hf : f + rank ws (64 * wI + c) = i)
    (hs : IsSel w f a0) (ha : a0 < 64) :
    bitAt ws (64 * wI + a0) = true ∧ rank ws (64 * wI + a0) = i ∧ c ≤ a0 := by
  obtain ⟨hs1, hs2⟩ := hs
  rw [hm a0] at hs1
  have hs1' : w0.testBit a0 = true ∧ c ≤ a0 := by simpa using hs1
  refine ⟨by rw [bitAt_word hw ha]; exact hs1'.1, ?_, hs1'.2⟩
  have hp := masked_popc hm a0 hs1'.2
  rw [rank_word hw a0 (by omega)]
  rw [rank_word hw c hc] at hf
  omega

theorem select32_spec {ws : List Nat} (hok : WordsOK ws) {i : Nat} (hi : i < (ones ws).length) :
    ∃ a b, select32 ws (indexSelect32 ws) i = some (a, b) ∧ bitAt ws a = true ∧ rank ws a = i ∧
      IsNext ws a b := by
  obtain ⟨p0, hidx, hlen, hp0lt, _, hp0r⟩ := sidx_entry hi
  have hi' : i < rank ws (64 * ws.length) := by rw [← ones_length]; exact hi
  have hwlt : p0 / 64 < ws.length := by omega
  have hw0 : ws[p0 / 64]? = some ws[p0 / 64] := List.getElem?_eq_getElem hwlt
  have hw064 : ws[p0 / 64] < 2^64 := hok _ (List.mem_of_getElem? hw0)
  have hm0 : Masked ws[p0 / 64] (p0 % 64) (ws[p0 / 64] &&& not64 (mask (p0 % 64))) := by
    have := masked_and (d := p0 % 64) hw064 (masked_refl ws[p0 / 64])
    rwa [Nat.zero_max] at this
  have hf0 : i % 32 + rank ws (64 * (p0 / 64) + p0 % 64) = i := by
    have e : 64 * (p0 / 64) + p0 % 64 = p0 := by omega
    rw [e, hp0r]; omega
  obtain ⟨w', wI', f', w0', c', hskip, hw', hm', hc', hf', hlt'⟩ :=
    sel32Skip_spec hi' _ _ _ _ _ _ rfl hw0 hm0 (by omega) hf0
  obtain ⟨a0, hsel, hs, ha0⟩ := selWord_spec hlt'
  obtain ⟨hbit, hrank, hca⟩ := sel_in_word hw' hm' hc' hf' hs ha0
  obtain ⟨ea, e1, e2, hnext⟩ := next_spec hok hw' ha0 hm' (by omega)
  have hnl : ¬ (i / 32 ≥ (indexSelect32 ws).length) := by omega
  refine ⟨64 * wI' + a0, _, ?_, hbit, hrank, hnext⟩
  simp only [select32, hnl, if_false, hidx, hw0, hskip, hsel, Option.bind_eq_bind, Option.bind_some,
    ea, e1, e2]
  split <;> rfl

theorem ridx_get {ws : List Nat} {k : Nat} (hk : k ≤ ws.length) :
    (indexRank64 ws true)[k]? = some (rank ws (64 * k)) := by
  rw [indexRank64_eq, List.getElem?_map, List.getElem?_range (by simp; omega)]; rfl

theorem ridx_length (ws : List Nat) : (indexRank64 ws true).length = ws.length + 1 := by
  rw [indexRank64_eq]; simp

theorem r64Skip_spec {ws : List Nat} {i : Nat} (hi : i < rank ws (64 * ws.length)) :
    ∀ (rest : List Nat) (wI : Nat), (indexRank64 ws true).drop (wI+1) = rest →
      rank ws (64 * wI) ≤ i →
      ∃ wI', r64Skip i rest wI = some wI' ∧ wI' < ws.length ∧ rank ws (64 * wI') ≤ i ∧
        i < rank ws (64 * (wI' + 1)) := by
  intro rest
  induction rest with
  | nil =>
    intro wI hd hr
    have h1 := List.drop_eq_nil_iff.mp hd
    rw [ridx_length] at h1
    have := rank_mono ws (a := 64 * ws.length) (b := 64 * wI) (by omega)
    omega
  | cons r rest ih =>
    intro wI hd hr
    obtain ⟨h1, h2, h3⟩ := drop_cons_facts hd
    rw [ridx_length] at h2
    rw [ridx_get (by omega)] at h1
    have hr1 : rank ws (64 * (wI + 1)) = r := Option.some.inj h1
    simp only [r64Skip]
    by_cases hle : r ≤ i
    · rw [if_pos hle]
      exact ih (wI + 1) h3 (by omega)
    · rw [if_neg hle]
      exact ⟨wI, rfl, by omega, hr, by omega⟩

theorem select32R64_spec {ws : List Nat} (hok : WordsOK ws) {i : Nat} (hi : i < (ones ws).length) :
    ∃ a b, select32R64 ws (indexSelect32 ws) (indexRank64 ws true) i = some (a, b) ∧
      bitAt ws a = true ∧ rank ws a = i ∧ IsNext ws a b := by
  obtain ⟨p0, hidx, _, hp0lt, _, hp0r⟩ := sidx_entry hi
  have hi' : i < rank ws (64 * ws.length) := by rw [← ones_length]; exact hi
  have hstart : rank ws (64 * (p0 / 64)) ≤ i := by
    have := rank_mono ws (a := 64 * (p0 / 64)) (b := p0) (by omega)
    omega
  obtain ⟨wI, hskip, hwlt, hlo, hhi⟩ := r64Skip_spec hi' _ _ rfl hstart
  have hw : ws[wI]? = some ws[wI] := List.getElem?_eq_getElem hwlt
  have hr : (indexRank64 ws true)[wI]? = some (rank ws (64 * wI)) := ridx_get (by omega)
  have hpop : i - rank ws (64 * wI) < popc ws[wI] 64 := by
    have := rank_word hw 64 (by omega)
    have e : 64 * (wI + 1) = 64 * wI + 64 := by omega
    rw [e] at hhi; omega
  obtain ⟨a0, hsel, hs, ha0⟩ := selWord_spec hpop
  obtain ⟨hbit, hrank, _⟩ := sel_in_word (c := 0) (i := i) hw (masked_refl _) (by omega)
    (by simp only [Nat.add_zero]; omega) hs ha0
  obtain ⟨ea, e1, _, hnext⟩ := next_spec hok hw ha0 (masked_refl _) (by omega)
  have hnl : ¬ (i < rank ws (64 * wI)) := by omega
  refine ⟨64 * wI + a0, _, ?_, hbit, hrank, hnext⟩
  simp only [select32R64, rmaskUpto, hidx, hskip, hw, hr, hnl, if_false, hsel, Option.bind_eq_bind,
    Option.bind_some, ea, e1]
  split <;> rfl

end Low.C02L
