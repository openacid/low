import LowProofs.Lemmas.C02Spec
/- C02 helpers, part 3: the byte table and the 32/16/8 in-word search `selWord` -/
namespace Low.C02L

/-- `r` is the position of the `k`-th (from 0) 1-bit of `w` -/
def IsSel (w k r : Nat) : Prop := w.testBit r = true ∧ popc w r = k

theorem sel8Row_length : ∀ (n w : Nat), (sel8Row n w).length = n
  | 0, _ => rfl
  | n+1, w => by simp [sel8Row, sel8Row_length n]

theorem flatMap_getElem? {f : Nat → List Nat} {m : Nat} (hm : 0 < m) (hf : ∀ x, (f x).length = m) :
    ∀ (l : List Nat) (i : Nat), (l.flatMap f)[i]? = l[i / m]?.bind (fun x => (f x)[i % m]?)
  | [], i => by simp
  | x :: l, i => by
    rw [List.flatMap_cons]
    by_cases hi : i < m
    · rw [List.getElem?_append_left (by rw [hf]; exact hi), Nat.div_eq_of_lt hi, Nat.mod_eq_of_lt hi]
      rfl
    · have hi : m ≤ i := Nat.le_of_not_lt hi
      rw [List.getElem?_append_right (by rw [hf]; exact hi), hf, flatMap_getElem? hm hf l (i - m),
        Nat.div_eq_sub_div hm hi, Nat.mod_eq_sub_mod hi]
      rfl

/-- `select8Lookup[i]` is entry `i % 8` of the row of byte `i / 8` -/
theorem sel8_eq (i : Nat) : sel8 i = if i < 2048 then (sel8Row 8 (i / 8))[i % 8]? else none := by
  simp only [sel8, select8Table]
  rw [List.getElem?_toArray, flatMap_getElem? (by decide) (sel8Row_length 8)]
  split
  · rw [List.getElem?_range (by omega)]; rfl
  · rw [List.getElem?_eq_none (by rw [List.length_range]; omega)]; rfl

theorem sel8_row {b k : Nat} (hb : b < 256) (hk : k < 8) : sel8 (b*8+k) = (sel8Row 8 b)[k]? := by
  rw [sel8_eq, if_pos (by omega), Nat.mul_comm b 8, Nat.mul_add_div (by decide), Nat.mul_add_mod,
    Nat.div_eq_of_lt hk, Nat.mod_eq_of_lt hk, Nat.add_zero]

/-- the init loop `x = tz8(w); w &= w-1` lists the set bits of a byte in ascending order: `w & (w-1)` clears
    the lowest one -/
theorem sel8Row_spec : ∀ (n w k : Nat), k < n → k < popc w 8 →
    ∃ r, (sel8Row n w)[k]? = some r ∧ IsSel w k r ∧ r < 8
  | n+1, w, k, hn, hk => by
    have hex : ∃ j, j < 8 ∧ w.testBit j = true := by
      apply Decidable.by_contra; intro h
      rw [popc_congr (b := 0) (fun j hj => by
        rw [Nat.zero_testBit]; exact Bool.eq_false_iff.mpr (fun hb => h ⟨j, hj, hb⟩)), popc_zero] at hk
      omega
    obtain ⟨t1, t2, t3⟩ := tz_spec hex
    have hz : popc w (tz w 8) = 0 := by
      rw [popc_congr (b := 0) (fun j hj => by rw [t3 j hj, Nat.zero_testBit]), popc_zero]
    cases k with
    | zero => exact ⟨tz w 8, rfl, ⟨t2, hz⟩, t1⟩
    | succ k =>
      have hp := popc_and_pred t2 t3 8
      rw [decide_eq_true t1] at hp
      obtain ⟨r, hr, ⟨hs1, hs2⟩, hr8⟩ := sel8Row_spec n (w &&& (w - 1)) k (by omega) (by simp at hp; omega)
      rw [testBit_and_pred t2 t3] at hs1
      simp only [Bool.and_eq_true, decide_eq_true_eq] at hs1
      have htr : tz w 8 < r := by
        apply Nat.lt_of_not_le; intro hle
        have := t3 r (by omega)
        rw [hs1.1] at this; cases this
      refine ⟨r, hr, ⟨hs1.1, ?_⟩, hr8⟩
      rw [popc_and_pred t2 t3 r, hs2, decide_eq_true htr]; rfl
theorem table_spec {b k : Nat} (hb : b < 256) (hk : k < popc b 8) :
    ∃ r, sel8 (b*8+k) = some r ∧ IsSel b k r ∧ r < 8 := by
  have hk8 : k < 8 := Nat.lt_of_lt_of_le hk (popc_le b 8)
  rw [sel8_row hb hk8]
  exact sel8Row_spec 8 b k hk8 hk

theorem isSel_high {w m k r : Nat} (h : popc w m ≤ k) (hs : IsSel (w >>> m) (k - popc w m) r) :
    IsSel w k (m + r) := by
  obtain ⟨h1, h2⟩ := hs
  rw [Nat.testBit_shiftRight] at h1
  exact ⟨h1, by rw [popc_add, h2]; omega⟩

theorem isSel_congr {w b n k r : Nat} (hbits : ∀ j, j < n → b.testBit j = w.testBit j) (hr : r < n)
    (hs : IsSel b k r) : IsSel w k r := by
  obtain ⟨h1, h2⟩ := hs
  refine ⟨by rw [← hbits r hr]; exact h1, ?_⟩
  rw [← h2]; exact (popc_congr (fun j hj => hbits j (by omega))).symm

theorem isSel_lt {w k r n : Nat} (hs : IsSel w k r) (hk : k < popc w n) : r < n := by
  rcases Nat.lt_or_ge r n with h | h
  · exact h
  · have := popc_mono w h
    rw [hs.2] at this; omega

theorem idx_lo (ww k : Nat) (hk : k < 8) : ((ww &&& 0xff) <<< 3) ||| k = (ww % 256) * 8 + k := by
  have e : ww &&& 0xff = ww % 256 := Nat.and_two_pow_sub_one_eq_mod ww 8
  rw [e, ← Nat.shiftLeft_add_eq_or_of_lt (i := 3) hk, Nat.shiftLeft_eq]

theorem idx_hi (ww k : Nat) (hk : k < 8) :
    ((ww >>> 5) &&& 0x7f8) ||| k = ((ww >>> 8) % 256) * 8 + k := by
  have e : (ww >>> 5) &&& 0x7f8 = ((ww >>> 8) % 256) <<< 3 := by
    have e1 : (0x7f8 : Nat) = (2^8 - 1) <<< 3 := by decide
    have e2 : (256 : Nat) = 2^8 := by decide
    rw [e1, e2]
    apply Nat.eq_of_testBit_eq
    intro j
    simp only [Nat.testBit_and, Nat.testBit_shiftRight, Nat.testBit_shiftLeft,
      Nat.testBit_two_pow_sub_one, Nat.testBit_mod_two_pow]
    by_cases hj : 3 ≤ j
    · have e3 : 8 + (j - 3) = 5 + j := by omega
      simp [hj, e3, Bool.and_comm]
    · simp [hj]
  rw [e, ← Nat.shiftLeft_add_eq_or_of_lt (i := 3) hk, Nat.shiftLeft_eq]

theorem testBit_mod_256 (x j : Nat) (hj : j < 8) : (x % 256).testBit j = x.testBit j := by
  have e2 : (256 : Nat) = 2^8 := by decide
  rw [e2, Nat.testBit_mod_two_pow]; simp [hj]

/-- the last stage of `selWord` (select.go: the `ones = OnesCount8` test and the two `select8Lookup`
    reads), on the low 16 bits of `ww` -/
def selTail (ww f base : Nat) : Option Nat :=
  if popc ww 8 ≤ f then
    (sel8 (((ww >>> 5) &&& 0x7f8) ||| (f - popc ww 8))).bind fun v => some (v + base + 8)
  else
    (sel8 (((ww &&& 0xff) <<< 3) ||| f)).bind fun v => some (v + base)

/-- the `OnesCount16` stage of `selWord`, on the low 32 bits of `ww` -/
def selMid (ww f base : Nat) : Option Nat :=
  if popc ww 16 ≤ f then selTail (ww >>> 16) (f - popc ww 16) (base ||| 16) else selTail ww f base

theorem selWord_eq (w f : Nat) :
    selWord w f = if popc w 32 ≤ f then selMid (w >>> 32) (f - popc w 32) 32 else selMid w f 0 := by
  by_cases h1 : popc w 32 ≤ f
  · by_cases h2 : popc (w >>> 32) 16 ≤ f - popc w 32
    · simp only [selWord, selMid, selTail, h1, h2, if_true, Option.bind_eq_bind]
    · simp only [selWord, selMid, selTail, h1, h2, if_true, if_false, Option.bind_eq_bind]
  · by_cases h2 : popc w 16 ≤ f
    · simp only [selWord, selMid, selTail, h1, h2, if_true, if_false, Option.bind_eq_bind]
    · simp only [selWord, selMid, selTail, h1, h2, if_false, Option.bind_eq_bind]

theorem selTail_spec {ww f : Nat} (base : Nat) (h : f < popc ww 16) :
    ∃ r, selTail ww f base = some (r + base) ∧ IsSel ww f r ∧ r < 16 := by
  have hsplit : popc ww 16 = popc ww 8 + popc (ww >>> 8) 8 := popc_add ww 8 8
  unfold selTail
  by_cases h8 : popc ww 8 ≤ f
  · have hk : f - popc ww 8 < popc ((ww >>> 8) % 256) 8 := by
      rw [popc_congr (fun j hj => testBit_mod_256 (ww >>> 8) j hj)]; omega
    have hk8 : f - popc ww 8 < 8 := Nat.lt_of_lt_of_le hk (popc_le _ 8)
    obtain ⟨r, hr, hs, hr8⟩ := table_spec (Nat.mod_lt _ (by decide)) hk
    rw [if_pos h8, idx_hi _ _ hk8, hr]
    refine ⟨8 + r, by simp; omega, ?_, by omega⟩
    exact isSel_high h8 (isSel_congr (fun j hj => testBit_mod_256 _ j hj) hr8 hs)
  · have hk : f < popc (ww % 256) 8 := by
      rw [popc_congr (fun j hj => testBit_mod_256 ww j hj)]; omega
    have hk8 : f < 8 := Nat.lt_of_lt_of_le hk (popc_le _ 8)
    obtain ⟨r, hr, hs, hr8⟩ := table_spec (Nat.mod_lt _ (by decide)) hk
    rw [if_neg h8, idx_lo _ _ hk8, hr]
    refine ⟨r, by simp, ?_, by omega⟩
    exact isSel_congr (fun j hj => testBit_mod_256 _ j hj) hr8 hs

theorem selMid_spec {ww f base : Nat} (hb : base = 0 ∨ base = 32) (h : f < popc ww 32) :
    ∃ r, selMid ww f base = some (r + base) ∧ IsSel ww f r ∧ r < 32 := by
  have hsplit : popc ww 32 = popc ww 16 + popc (ww >>> 16) 16 := popc_add ww 16 16
  have hor : base ||| 16 = base + 16 := by rcases hb with rfl | rfl <;> decide
  unfold selMid
  by_cases h16 : popc ww 16 ≤ f
  · obtain ⟨r, hr, hs, hlt⟩ := selTail_spec (base ||| 16) (ww := ww >>> 16) (f := f - popc ww 16) (by omega)
    rw [if_pos h16, hr, hor]
    exact ⟨16 + r, by simp; omega, isSel_high h16 hs, by omega⟩
  · obtain ⟨r, hr, hs, hlt⟩ := selTail_spec base (ww := ww) (f := f) (by omega)
    rw [if_neg h16, hr]
    exact ⟨r, rfl, hs, by omega⟩

theorem selWord_spec {w f : Nat} (h : f < popc w 64) :
    ∃ r, selWord w f = some r ∧ IsSel w f r ∧ r < 64 := by
  have hsplit : popc w 64 = popc w 32 + popc (w >>> 32) 32 := popc_add w 32 32
  rw [selWord_eq]
  by_cases h32 : popc w 32 ≤ f
  · obtain ⟨r, hr, hs, hlt⟩ := selMid_spec (Or.inr rfl) (ww := w >>> 32) (f := f - popc w 32) (by omega)
    rw [if_pos h32, hr]
    exact ⟨32 + r, by simp; omega, isSel_high h32 hs, by omega⟩
  · obtain ⟨r, hr, hs, hlt⟩ := selMid_spec (Or.inl rfl) (ww := w) (f := f) (by omega)
    rw [if_neg h32, hr]
    exact ⟨r, rfl, hs, by omega⟩

end Low.C02L
