import LowProofs.Lemmas.C17Order
/-
  C17: the result of `shardByPrefix` satisfies the checkable predicate `shardOK`.
-/
namespace Low.C17L
open Low.C16L

theorem shard_ordered (keys : List (List Nat)) (maxSize : Int) (hne : keys ≠ [])
    (hasc : strictAsc keys = true) (hok : ∀ k ∈ keys, BytesOK k) (hm : 1 ≤ maxSize) :
    ∃ Ls Bs, shardByPrefix keys maxSize = some (Ls, 0 :: Bs) ∧
      Post keys maxSize.toNat 0 keys.length Ls Bs := by
  have hsorted := pairwise_of_strictAsc keys hasc
  have hbl := bl_fdsOf keys hok
  apply shard_post keys maxSize hne hok hm (Post keys maxSize.toNat)
  · intro s e h1 h2 h3
    refine ⟨.cons h1 h3 (lam_eq_lcpAll keys (fdsOf keys) hbl h1 h2) (.nil e), ?_⟩
    simp [PL]
  · intro s e es Ls Bs h1 h2 h3 hsp hg
    refine ⟨groups_valid (groups_mono (fun _ _ _ _ h => h.1) hg) (splitOK_last _ _ _ es s hsp), ?_⟩
    exact (groups_order keys (fdsOf keys) _ hbl hsorted s e (lam keys (fdsOf keys) s e) h2
      (fun i hi hi' => minFold_le_bl _ _ _ _ i hi (by omega)) (minFold_le_init _ _ _ _)
      es s Ls Bs (Nat.le_refl _) hsp hg).1

theorem valid_zip {keys : List (List Nat)} {mx s e : Nat} {L Bs : List Nat} (h : Valid keys mx s e L Bs) :
    (List.zipWith (fun a b => decide (a < b)) (s :: Bs) Bs).all id = true ∧
    (List.zipWith (fun a b => decide (b - a ≤ mx)) (s :: Bs) Bs).all id = true := by
  induction h with
  | nil => exact ⟨rfl, rfl⟩
  | cons a b _ _ ih =>
    simp only [List.zipWith_cons_cons, List.all_cons, ih, Bool.and_true, id]
    exact ⟨by simpa using a, by simpa using b⟩

theorem shardOK_of_post (keys : List (List Nat)) (mx : Nat) (Ls Bs : List Nat)
    (h : Post keys mx 0 keys.length Ls Bs) : shardOK keys mx Ls (0 :: Bs) = true := by
  obtain ⟨hv, hp⟩ := h
  have hl := valid_length hv
  simp only [shardOK, Bool.and_eq_true]
  refine ⟨⟨⟨⟨⟨⟨?_, ?_⟩, ?_⟩, ?_⟩, ?_⟩, ?_⟩, ?_⟩
  · simp [hl]
  · simp
  · rw [valid_last hv]; simp
  · exact (valid_zip hv).1
  · exact (valid_zip hv).2
  · rw [List.all_eq_true]
    intro j hj
    have := (valid_index hv j (List.mem_range.1 hj)).2.2
    simpa [slice] using this
  · rw [PL_eq_map keys Ls Bs 0 hl]
    exact strictAsc_of_pairwise _ hp

end Low.C17L
