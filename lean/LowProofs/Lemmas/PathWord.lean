import LowProofs.Lemmas.BitList
/-
  The two 32-bit halves of a path word `encPath h n` as numbers: the branch bits `hi h n` and the level
  mask `lo h n.length`, both left-aligned in `h` bits; before them the bit facts about `2^a - 2^b`
  (a run of ones) that the mask needs, after them `pathLen_encPath`.
-/
namespace Low

theorem mask_shift (a b : Nat) : (2 ^ a - 1) * 2 ^ b = 2 ^ (a + b) - 2 ^ b := by
  rw [Nat.sub_mul, ← Nat.pow_add, Nat.one_mul]

theorem sub_pow_lt {a : Nat} (b : Nat) (ha : a ≤ 32) : 2 ^ a - 2 ^ b < 2 ^ 32 := by
  have := pow_le_pow ha
  have := Nat.two_pow_pos b
  omega

theorem testBit_pow_sub_pow {a b : Nat} (h : b ≤ a) (k : Nat) :
    (2 ^ a - 2 ^ b).testBit k = (decide (b ≤ k) && decide (k < a)) := by
  have e : 2 ^ a - 2 ^ b = (2 ^ (a - b) - 1) * 2 ^ b := by
    rw [mask_shift]; congr 2; omega
  rw [e, Nat.testBit_mul_two_pow, Nat.testBit_two_pow_sub_one]
  by_cases h1 : b ≤ k
  · by_cases h2 : k < a
    · have : k - b < a - b := by omega
      simp [h1, h2, this]
    · have : ¬ k - b < a - b := by omega
      simp [h1, h2, this]
  · simp [h1]

/-- adjacent runs of ones join -/
theorem or_pow_sub_pow {a b c : Nat} (hab : b ≤ a) (hbc : c ≤ b) :
    (2 ^ a - 2 ^ b) ||| (2 ^ b - 2 ^ c) = 2 ^ a - 2 ^ c := by
  apply Nat.eq_of_testBit_eq; intro k
  rw [Nat.testBit_or, testBit_pow_sub_pow hab, testBit_pow_sub_pow hbc,
    testBit_pow_sub_pow (Nat.le_trans hbc hab)]
  by_cases hk : b ≤ k
  · simp [hk, Nat.le_trans hbc hk, Nat.not_lt.mpr hk]
  · simp [hk, Nat.lt_of_lt_of_le (Nat.lt_of_not_le hk) hab, Nat.lt_of_not_le hk]

theorem popc_mask (l : Nat) : ∀ n, popc (2^l - 1) n = min n l
  | 0 => by simp [popc]
  | n+1 => by
    simp only [popc, popc_mask l n, Nat.testBit_two_pow_sub_one]
    by_cases h : n < l <;> simp [h] <;> omega

/-- lower half: `l` ones left-aligned in `h` bits -/
def lo (h l : Nat) : Nat := (2 ^ l - 1) * 2 ^ (h - l)
/-- upper half: the branch bits left-aligned in `h` bits -/
def hi (h : Nat) (n : List Bool) : Nat := bitsVal n * 2 ^ (h - n.length)

theorem lo_eq {h l : Nat} (hl : l ≤ h) : lo h l = 2 ^ h - 2 ^ (h - l) := by
  rw [lo, mask_shift, Nat.add_sub_cancel' hl]

theorem lo_lt {h l : Nat} (hl : l ≤ h) : lo h l < 2 ^ h := by
  rw [lo_eq hl]
  exact Nat.sub_lt (Nat.two_pow_pos _) (Nat.two_pow_pos _)

theorem hi_lt {h : Nat} {n : List Bool} (hl : n.length ≤ h) : hi h n < 2 ^ h := by
  rw [hi, pow_split hl]
  exact Nat.mul_lt_mul_of_lt_of_le (bitsVal_lt n) (Nat.le_refl _) (Nat.two_pow_pos _)

theorem lo_lt32 {h l : Nat} (hh : h ≤ 32) (hl : l ≤ h) : lo h l < 2 ^ 32 :=
  Nat.lt_of_lt_of_le (lo_lt hl) (pow_le_pow hh)

theorem encPath_eq {h : Nat} {n : List Bool} (hh : h ≤ 32) (hl : n.length ≤ h) :
    encPath h n = hi h n * 2 ^ 32 + lo h n.length := by
  unfold encPath
  rw [Nat.shiftLeft_eq, Nat.shiftLeft_eq, Nat.shiftLeft_eq]
  show hi h n * 2 ^ 32 ||| lo h n.length = _
  rw [← Nat.shiftLeft_eq, ← Nat.shiftLeft_add_eq_or_of_lt (lo_lt32 hh hl)]

theorem encPath_mod {h : Nat} {n : List Bool} (hh : h ≤ 32) (hl : n.length ≤ h) :
    encPath h n % 2 ^ 32 = lo h n.length := by
  rw [encPath_eq hh hl, Nat.add_comm, Nat.add_mul_mod_self_right, Nat.mod_eq_of_lt (lo_lt32 hh hl)]

theorem encPath_shr {h : Nat} {n : List Bool} (hh : h ≤ 32) (hl : n.length ≤ h) :
    encPath h n >>> 32 = hi h n := by
  rw [encPath_eq hh hl, Nat.shiftRight_eq_div_pow, Nat.add_comm,
    Nat.add_mul_div_right _ _ (Nat.two_pow_pos 32), Nat.div_eq_of_lt (lo_lt32 hh hl), Nat.zero_add]

theorem encPath_lt {h : Nat} {n : List Bool} (hh : h ≤ 32) (hl : n.length ≤ h) :
    encPath h n < 2 ^ (h + 32) := by
  have hlo := lo_lt32 hh hl
  have hhi := hi_lt hl
  rw [encPath_eq hh hl, Nat.pow_add]
  generalize 2 ^ 32 = M at *
  generalize hi h n = H at *
  generalize 2 ^ h = P at *
  have : (H + 1) * M ≤ P * M := Nat.mul_le_mul_right _ (by omega)
  rw [Nat.add_mul] at this
  omega

theorem encPath_lt64 {h : Nat} {n : List Bool} (h30 : h ≤ 30) (hn : n.length ≤ h) : encPath h n < 2^64 :=
  Nat.lt_of_lt_of_le (encPath_lt (by omega) hn) (Nat.pow_le_pow_right (by omega) (by omega))

theorem encPath_nil (h : Nat) : encPath h [] = 0 := by simp [encPath, bitsVal]

theorem testBit_lo {h l : Nat} (hl : l ≤ h) (k : Nat) :
    (lo h l).testBit k = (decide (h - l ≤ k) && decide (k < h)) := by
  rw [lo_eq hl, testBit_pow_sub_pow (Nat.sub_le h l)]

theorem popc_lo {h l : Nat} (hh : h ≤ 32) (hl : l ≤ h) : popc (lo h l) 32 = l := by
  have e : 32 = (h - l) + (32 - (h - l)) := by omega
  rw [e, popc_add]
  have z : popc (lo h l) (h - l) = 0 := by
    rw [popc_congr (b := 0) (fun k hk => by rw [testBit_lo hl]; simp; omega), popc_zero]
  have s : lo h l >>> (h - l) = 2 ^ l - 1 := by
    rw [lo, Nat.shiftRight_eq_div_pow, Nat.mul_div_cancel _ (Nat.two_pow_pos _)]
  rw [z, s, popc_mask]; omega

theorem bitLen_lo {h l : Nat} (hh : h ≤ 32) (hl : l ≤ h) (hp : 0 < l) : bitLen (lo h l) 32 = h := by
  have hb : (lo h l).testBit (h - 1) = true := by rw [testBit_lo hl]; simp; omega
  have := bitLen_of_range (Nat.ge_two_pow_of_testBit hb)
    (by rw [show h - 1 + 1 = h by omega]; exact lo_lt hl) 32 (by omega)
  omega

theorem encPath_mod32 {h : Nat} {n : List Bool} (hh : h ≤ 32) (hl : n.length ≤ h) :
    encPath h n % M32 = lo h n.length :=
  encPath_mod hh hl

theorem lo_ne_zero_iff (h l : Nat) : lo h l ≠ 0 ↔ 1 ≤ l := by
  rw [lo]
  constructor
  · intro hne
    apply Nat.lt_of_not_le; intro h0
    rw [show l = 0 by omega] at hne
    simp at hne
  · intro h1
    have : 2 ^ 1 ≤ 2 ^ l := pow_le_pow h1
    exact Nat.mul_ne_zero (by omega) (Nat.ne_of_gt (Nat.two_pow_pos _))

/-- a set bit of the branch half lies under the level mask -/
theorem testBit_hi_imp {h : Nat} {n : List Bool} (hn : n.length ≤ h) {k : Nat}
    (hb : (hi h n).testBit k = true) : (lo h n.length).testBit k = true := by
  rw [hi, Nat.testBit_mul_two_pow] at hb
  simp only [Bool.and_eq_true, decide_eq_true_eq] at hb
  have := lt_of_testBit_of_lt hb.2 (bitsVal_lt n)
  rw [testBit_lo hn]; simp; omega

theorem pathLen_encPath {h : Nat} {n : List Bool} (hh : h ≤ 32) (hl : n.length ≤ h) :
    pathLen (encPath h n) = n.length := by
  rw [pathLen, encPath_mod32 hh hl, popc_lo hh hl]

end Low
