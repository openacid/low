import LowProofs.Lemmas.C17Main
import LowProofs.Lemmas.C16Order
/-
  C17: the shard prefixes are strictly ascending.
-/
namespace Low.C17L
open Low.C16L

theorem bytesCompare_self : ∀ (a : List Nat), bytesCompare a a = 0
  | [] => rfl
  | x :: a => by simp [bytesCompare, bytesCompare_self a]

theorem bytesCompare_cons_le (x y : Nat) (a b : List Nat) :
    bytesCompare (x :: a) (y :: b) ≠ 1 ↔ x < y ∨ (x = y ∧ bytesCompare a b ≠ 1) := by
  simp only [bytesCompare]
  by_cases h1 : x < y
  · simp [h1]
  · by_cases h2 : x > y
    · have : ¬ x = y := by omega
      simp [h1, h2, this]
    · have : x = y := by omega
      simp [this]

theorem lcp_mid : ∀ (a x d : List Nat), bytesCompare a x ≠ 1 → bytesCompare x d ≠ 1 →
    lcp a d ≤ lcp a x ∧ lcp a d ≤ lcp x d
  | [], _, d, _, _ => by simp [lcp_nil_left]
  | u :: a, v :: x, w :: d, h1, h2 => by
    rw [bytesCompare_cons_le] at h1 h2
    rw [lcp_cons, lcp_cons, lcp_cons]
    by_cases e : u = w
    · subst e
      have hv : u = v := by
        rcases h1 with h1 | ⟨h1, _⟩ <;> rcases h2 with h2 | ⟨h2, _⟩ <;> omega
      subst hv
      have h1' : bytesCompare a x ≠ 1 := by
        rcases h1 with h1 | ⟨_, h1⟩
        · omega
        · exact h1
      have h2' : bytesCompare x d ≠ 1 := by
        rcases h2 with h2 | ⟨_, h2⟩
        · omega
        · exact h2
      have := lcp_mid a x d h1' h2'
      simp only [if_true]; omega
    · simp [e]

theorem lcp_lt_len_of_lt : ∀ (x y : List Nat), bytesCompare x y = -1 → lcp x y < y.length
  | _, [], h => absurd h (bytesCompare_lt_nil _)
  | [], _ :: _, _ => by simp [lcp_nil_left]
  | u :: x, v :: y, h => by
    rw [bytesCompare_cons_lt] at h
    rw [lcp_cons]
    rcases h with h | ⟨e, h⟩
    · have : ¬ u = v := by omega
      simp [this]
    · subst e
      have := lcp_lt_len_of_lt x y h
      simp only [if_true, List.length_cons]; omega

theorem cross_lt : ∀ (x y : List Nat) (l l' : Nat), bytesCompare x y = -1 → lcp x y ≤ l →
    l ≤ x.length → lcp x y < l' → l' ≤ y.length → bytesCompare (x.take l) (y.take l') = -1
  | _, [], _, _, h, _, _, _, _ => absurd h (bytesCompare_lt_nil _)
  | [], v :: y, l, l', _, _, h3, h4, _ => by
    have : l = 0 := by simpa using h3
    obtain ⟨k, rfl⟩ : ∃ k, l' = k + 1 := ⟨l' - 1, by omega⟩
    simp [bytesCompare]
  | u :: x, v :: y, l, l', h, h1, h3, h4, h5 => by
    rw [bytesCompare_cons_lt] at h
    rw [lcp_cons] at h1 h4
    obtain ⟨k', rfl⟩ : ∃ k, l' = k + 1 := ⟨l' - 1, by omega⟩
    rcases h with h | ⟨e, h⟩
    · cases l with
      | zero => simp [bytesCompare]
      | succ k =>
        rw [List.take_succ_cons, List.take_succ_cons, bytesCompare_cons_lt]
        exact Or.inl h
    · subst e
      rw [if_pos rfl] at h1 h4
      obtain ⟨k, rfl⟩ : ∃ k, l = k + 1 := ⟨l - 1, by omega⟩
      rw [List.take_succ_cons, List.take_succ_cons, bytesCompare_cons_lt]
      refine Or.inr ⟨rfl, cross_lt x y k k' h (by omega) ?_ (by omega) ?_⟩
      · simpa using h3
      · simpa using h5

/-- the shard prefixes `keys[b].take l` of a result with boundaries `s :: Bs` and lengths `Ls` -/
def PL (keys : List (List Nat)) : Nat → List Nat → List Nat → List (List Nat)
  | s, l :: Ls, b :: Bs => (keys.getD s []).take l :: PL keys b Ls Bs
  | _, _, _ => []

theorem PL_append (keys : List (List Nat)) {mx s t : Nat} {L1 B1 : List Nat} (L2 B2 : List Nat)
    (h : Valid keys mx s t L1 B1) : PL keys s (L1 ++ L2) (B1 ++ B2) = PL keys s L1 B1 ++ PL keys t L2 B2 := by
  induction h with
  | nil => cases L2 <;> cases B2 <;> simp [PL]
  | cons _ _ _ _ ih => simp only [List.cons_append, PL, ih]

theorem PL_eq_map (keys : List (List Nat)) : ∀ (L Bs : List Nat) (s : Nat), Bs.length = L.length →
    (List.range L.length).map (fun j => (keys.getD ((s :: Bs).getD j 0) []).take (L.getD j 0)) = PL keys s L Bs
  | [], _, _, _ => by cases ‹List Nat› <;> simp [PL]
  | l :: L, b :: Bs, s, h => by
    have ih := PL_eq_map keys L Bs b (by simpa using h)
    simp only [List.length_cons, List.range_succ_eq_map, List.map_cons, List.map_map, PL,
      List.getD_cons_zero]
    congr 1

/-- `p` is a prefix of length at least `g` of some key in `[s, e)` -/
def Cut (keys : List (List Nat)) (s e g : Nat) (p : List Nat) : Prop :=
  ∃ b l, s ≤ b ∧ b < e ∧ p = (keys.getD b []).take l ∧ l ≤ (keys.getD b []).length ∧ g ≤ l

section
variable (keys : List (List Nat)) (fds : List Nat) (mx : Nat)
variable (hbl : ∀ t, t + 1 < keys.length → bl fds t = lcp (keys.getD t []) (keys.getD (t + 1) []))
variable (hsorted : keys.Pairwise (fun a b => bytesCompare a b = -1))

include hbl in
theorem valid_members (g : Nat) {L Bs : List Nat} {s e : Nat} (h : Valid keys mx s e L Bs) (he : e ≤ keys.length) :
    (∀ b, s ≤ b → b < e → g ≤ (keys.getD b []).length) → (∀ i, s ≤ i → i + 1 < e → g ≤ bl fds i) →
    ∀ p ∈ PL keys s L Bs, Cut keys s e g p := by
  induction h with
  | nil => intro _ _ p hp; simp [PL] at hp
  | @cons s b e l L Bs v1 v2 v3 v4 ih =>
    intro h1 h2 p hp
    have hbe := valid_le v4
    simp only [PL, List.mem_cons] at hp
    rcases hp with hp | hp
    · refine ⟨s, l, Nat.le_refl _, by omega, hp, ?_, ?_⟩
      · rw [v3, ← lam_eq_lcpAll keys fds hbl v1 (by omega)]
        exact minFold_le_init _ _ _ _
      · rw [v3, ← lam_eq_lcpAll keys fds hbl v1 (by omega), lam]
        rcases minFold_attained fds (b - 1 - s) s (keys.getD s []).length with h' | ⟨t, t1, t2, t3⟩
        · rw [h']; exact h1 s (Nat.le_refl _) (by omega)
        · rw [t3]; exact h2 t t1 (by omega)
    · obtain ⟨b', l', q1, q2, q3⟩ := ih he (fun c hc hc' => h1 c (by omega) hc') (fun i hi hi' => h2 i (by omega) hi') p hp
      exact ⟨b', l', by omega, q2, q3⟩

theorem groups_mono {P Q : Nat → Nat → List Nat → List Nat → Prop} (hPQ : ∀ s e L B, P s e L B → Q s e L B)
    {es : List Nat} {s : Nat} {Ls Bs : List Nat} (h : Groups P s es Ls Bs) : Groups Q s es Ls Bs := by
  induction h with
  | nil s => exact .nil s
  | cons a _ ih => exact .cons (hPQ _ _ _ _ a) ih

/-- the postcondition carried through the recursion: shape/size/lcp and ordered prefixes -/
def Post (keys : List (List Nat)) (mx : Nat) (s e : Nat) (Ls Bs : List Nat) : Prop :=
  Valid keys mx s e Ls Bs ∧ (PL keys s Ls Bs).Pairwise (fun a b => bytesCompare a b = -1)

theorem getD_lt_of_lt {i j : Nat} (hij : i < j) (hj : j < keys.length)
    (hsorted : keys.Pairwise (fun a b => bytesCompare a b = -1)) :
    bytesCompare (keys.getD i []) (keys.getD j []) = -1 := by
  have hi : i < keys.length := by omega
  have := (List.pairwise_iff_getElem.1 hsorted) i j hi hj hij
  simpa [List.getD, List.getElem?_eq_getElem hi, List.getElem?_eq_getElem hj] using this

theorem getD_le_of_le {i j : Nat} (hij : i ≤ j) (hj : j < keys.length)
    (hsorted : keys.Pairwise (fun a b => bytesCompare a b = -1)) :
    bytesCompare (keys.getD i []) (keys.getD j []) ≠ 1 := by
  by_cases e : i = j
  · subst e; rw [bytesCompare_self]; decide
  · rw [getD_lt_of_lt keys (by omega) hj hsorted]; decide

include hbl hsorted in
/-- ordering of the concatenated group results. `S`, `E`, `lam` describe the range that was split:
    `lam` is at most every key length and adjacent common-prefix length in `[S, E)`. -/
theorem groups_order (S E lam : Nat) (hE : E ≤ keys.length)
    (hA : ∀ i, S ≤ i → i + 1 < E → lam ≤ bl fds i) (hB : lam ≤ (keys.getD S []).length) :
    ∀ (es : List Nat) (s : Nat) (Ls Bs : List Nat), S ≤ s → SplitOK fds lam E s es →
      Groups (Post keys mx) s es Ls Bs →
      (PL keys s Ls Bs).Pairwise (fun a b => bytesCompare a b = -1) ∧
      ∀ p ∈ PL keys s Ls Bs, Cut keys s E (if S < s then lam + 1 else lam) p := by
  have hC : ∀ b, S < b → b < E → lam < (keys.getD b []).length := by
    intro b h1 h2
    obtain ⟨c, rfl⟩ : ∃ c, b = c + 1 := ⟨b - 1, by omega⟩
    have h3 := hA c (by omega) h2
    rw [hbl c (by omega)] at h3
    exact Nat.lt_of_le_of_lt h3 (lcp_lt_len_of_lt _ _ (getD_lt_of_lt keys (Nat.lt_succ_self c) (by omega) hsorted))
  have hlen : ∀ b, S ≤ b → b < E → lam ≤ (keys.getD b []).length := by
    intro b h1 h2
    by_cases e : b = S
    · subst e; exact hB
    · exact Nat.le_of_lt (hC b (by omega) h2)
  have hgroup : ∀ (s t : Nat) (L1 B1 : List Nat), S ≤ s → t ≤ E → Valid keys mx s t L1 B1 →
      (∀ i, s ≤ i → i + 1 < t → lam < bl fds i) →
      ∀ p ∈ PL keys s L1 B1, Cut keys s t (if S < s then lam + 1 else lam) p := by
    intro s t L1 B1 hs ht hv hin
    refine valid_members keys fds mx hbl _ hv (by omega) (fun b hb hb' => ?_) (fun i hi hi' => ?_)
    · split
      · exact hC b (by omega) (by omega)
      · exact hlen b (by omega) (by omega)
    · have := hin i hi hi'
      split <;> omega
  intro es
  induction es with
  | nil => intro s Ls Bs _ h; exact h.elim
  | cons t es ih =>
    intro s Ls Bs hs hsp hg
    cases hg with
    | @cons _ _ _ L1 B1 L2 B2 h1 hg2 =>
      obtain ⟨hv1, hp1⟩ := h1
      cases es with
      | nil =>
        cases hg2
        obtain ⟨rfl, hst, hin⟩ := hsp
        simp only [List.append_nil]
        exact ⟨hp1, hgroup s t L1 B1 hs (Nat.le_refl _) hv1 hin⟩
      | cons t' es' =>
        obtain ⟨hst, htE, hbt, hin, hsp'⟩ := hsp
        obtain ⟨ihp, ihm⟩ := ih t L2 B2 (by omega) hsp' hg2
        have hm1 := hgroup s t L1 B1 hs (by omega) hv1 hin
        rw [PL_append keys L2 B2 hv1]
        refine ⟨List.pairwise_append.2 ⟨hp1, ihp, ?_⟩, ?_⟩
        · intro p hp p' hp'
          obtain ⟨b, l, q1, q2, rfl, q4, q5⟩ := hm1 p hp
          obtain ⟨d, l', r1, r2, rfl, r4, r6'⟩ := ihm p' hp'
          rw [if_pos (show S < t by omega)] at r6'
          replace q5 : lam ≤ l := by split at q5 <;> omega
          have hbd := getD_lt_of_lt keys (show b < d by omega) (by omega) hsorted
          -- lcp (keys[b]) (keys[d]) ≤ lam: both are at least the lcp of the pair around the cut
          obtain ⟨u, rfl⟩ : ∃ u, t = u + 1 := ⟨t - 1, by omega⟩
          rw [Nat.add_sub_cancel] at hbt
          have h1 := (lcp_mid (keys.getD b []) (keys.getD u []) (keys.getD d [])
            (getD_le_of_le keys (by omega) (by omega) hsorted)
            (getD_le_of_le keys (by omega) (by omega) hsorted)).2
          have h2 := (lcp_mid (keys.getD u []) (keys.getD (u + 1) []) (keys.getD d [])
            (getD_le_of_le keys (by omega) (by omega) hsorted)
            (getD_le_of_le keys (by omega) (by omega) hsorted)).1
          rw [← hbl u (by omega), hbt] at h2
          exact cross_lt _ _ l l' hbd (by omega) q4 (by omega) r4
        · intro p hp
          rcases List.mem_append.1 hp with hp | hp
          · obtain ⟨b, l, q1, q2, q3, q4, q5⟩ := hm1 p hp
            exact ⟨b, l, q1, by omega, q3, q4, q5⟩
          · obtain ⟨d, l', r1, r2, r3, r4, r5⟩ := ihm p hp
            rw [if_pos (show S < t by omega)] at r5
            exact ⟨d, l', by omega, r2, r3, r4, by split <;> omega⟩

end

end Low.C17L
