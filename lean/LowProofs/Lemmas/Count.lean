import LowProofs.Lemmas.Bits
/- `bitAt` and `rank` word by word; `bitAt` under appended zero words and a set bit; two generic list facts;
   the index loops of `IndexRank64` / `IndexRank128` (`indexRank64Go_spec`, `indexRank64_eq`,
   `indexRank128Go_spec`) and the block arithmetic `pair_start` of `Rank128` -/
namespace Low

theorem bitAt_getD (ws : List Nat) (i : Nat) : bitAt ws i = (ws[i / 64]?.getD 0).testBit (i % 64) := by
  simp [bitAt, List.getD]

theorem bitAt_eq {ws : List Nat} {i w : Nat} (hw : ws[i / 64]? = some w) : bitAt ws i = w.testBit (i % 64) := by
  rw [bitAt_getD, hw]; rfl

theorem bitAt_word {ws : List Nat} {k j w : Nat} (hw : ws[k]? = some w) (hj : j < 64) :
    bitAt ws (64 * k + j) = w.testBit j := by
  have h1 : (64 * k + j) / 64 = k := by omega
  have h2 : (64 * k + j) % 64 = j := by omega
  rw [bitAt_getD, h1, h2, hw]; rfl

theorem bitAt_oob {ws : List Nat} {i : Nat} (h : 64 * ws.length ≤ i) : bitAt ws i = false := by
  rw [bitAt_getD, List.getElem?_eq_none (show ws.length ≤ i / 64 by omega)]; exact Nat.zero_testBit _

theorem rank_word {ws : List Nat} {k w : Nat} (hw : ws[k]? = some w) :
    ∀ j, j ≤ 64 → rank ws (64 * k + j) = rank ws (64 * k) + popc w j
  | 0, _ => by simp [popc]
  | j+1, h => by
    have e : 64 * k + (j + 1) = (64 * k + j) + 1 := by omega
    rw [e]; simp only [rank, popc]
    rw [rank_word hw j (by omega), bitAt_word hw (by omega)]; omega

theorem rank_mono (ws : List Nat) {a b : Nat} (h : a ≤ b) : rank ws a ≤ rank ws b := by
  induction b with
  | zero => have : a = 0 := by omega
            subst this; exact Nat.le_refl _
  | succ b ih =>
    by_cases hb : a = b + 1
    · subst hb; exact Nat.le_refl _
    · have := ih (by omega); simp only [rank]; omega

theorem bitAt_nil (i : Nat) : bitAt [] i = false := by simp [bitAt_getD]

theorem bitAt_zeros (n i : Nat) : bitAt (zeros n) i = false := by
  simp only [bitAt_getD, zeros, List.getElem?_replicate]
  split <;> simp

theorem bitAt_append_zeros (ws : List Nat) (n i : Nat) : bitAt (ws ++ zeros n) i = bitAt ws i := by
  simp only [bitAt_getD, zeros, List.getElem?_append, List.getElem?_replicate]
  split
  · rfl
  · have h : ws.length ≤ i / 64 := by omega
    rw [List.getElem?_eq_none h]
    split <;> simp

theorem bitAt_cons_add (w : Nat) (r : List Nat) (k : Nat) : bitAt (w :: r) (k + 64) = bitAt r k := by
  have h1 : (k + 64) / 64 = k / 64 + 1 := by omega
  have h2 : (k + 64) % 64 = k % 64 := by omega
  simp [bitAt_getD, h1, h2]

theorem bitAt_cons_lt (w : Nat) (r : List Nat) {k : Nat} (hk : k < 64) : bitAt (w :: r) k = w.testBit k := by
  have h1 : k / 64 = 0 := by omega
  have h2 : k % 64 = k := by omega
  simp [bitAt_getD, h1, h2]

theorem bitAt_set_or {ws : List Nat} {i w : Nat} (hw : ws[i / 64]? = some w) (m : Nat) :
    bitAt (ws.set (i / 64) (w ||| 2 ^ (i % 64))) m = (bitAt ws m || decide (m = i)) := by
  simp only [bitAt_getD, List.getElem?_set]
  by_cases h : i / 64 = m / 64
  · have hlt : i / 64 < ws.length := (List.getElem?_eq_some_iff.mp hw).1
    rw [if_pos h, if_pos hlt, ← h, hw]
    by_cases hm : m = i
    · subst hm; simp
    · have : i % 64 ≠ m % 64 := by omega
      simp [hm, this]
  · rw [if_neg h]
    have : m ≠ i := by intro e; subst e; exact h rfl
    simp [this]

theorem bitAt_in_word {ws : List Nat} {k w p : Nat} (hw : ws[k]? = some w) (h1 : 64 * k ≤ p) (h2 : p < 64 * k + 64) :
    bitAt ws p = w.testBit (p - 64 * k) := by
  have e : p = 64 * k + (p - 64 * k) := by omega
  rw [e, bitAt_word hw (by omega)]
  congr 1
  omega

theorem bitAt_zero_word {ws : List Nat} {k : Nat} (hw : ws[k]? = some 0) {p : Nat}
    (h1 : 64 * k ≤ p) (h2 : p < 64 * k + 64) : bitAt ws p = false := by
  rw [bitAt_in_word hw h1 h2, Nat.zero_testBit]

/-- two strictly ascending lists with the same members are equal -/
theorem eq_of_sorted_of_mem_iff {l1 l2 : List Nat} (h1 : l1.Pairwise (· < ·)) (h2 : l2.Pairwise (· < ·))
    (h : ∀ x, x ∈ l1 ↔ x ∈ l2) : l1 = l2 :=
  List.Perm.eq_of_pairwise (le := (· < ·)) (fun _ _ _ _ hab hba => absurd hab (Nat.lt_asymm hba)) h1 h2
    ((List.perm_ext_iff_of_nodup (h1.imp Nat.ne_of_lt) (h2.imp Nat.ne_of_lt)).mpr h)

theorem getElem?_append_mid (pre : List Nat) (w : Nat) (r : List Nat) :
    (pre ++ w :: r)[pre.length]? = some w := by simp

theorem rank_eq_word {ws : List Nat} {i w : Nat} (hw : ws[i / 64]? = some w) :
    rank ws i = rank ws (64 * (i / 64)) + popc w (i % 64) := by
  have := rank_word hw (i % 64) (by omega)
  rwa [show 64 * (i / 64) + i % 64 = i by omega] at this

/-- start of the 128-bit block whose entry `Rank128` reads for position `i` -/
theorem pair_start (i : Nat) : 128 * ((i + 64) / 128) = 64 * (i / 64) + 64 * (i / 64 % 2) := by omega

/-- the loop of `IndexRank64` with its accumulator: `pre` = the words already consumed -/
theorem indexRank64Go_spec (t : Bool) : ∀ (ws pre : List Nat),
    indexRank64Go t ws (rank (pre ++ ws) (64 * pre.length)) =
      (List.range' pre.length (ws.length + t.toNat)).map (fun k => rank (pre ++ ws) (64 * k))
  | [], pre => by cases t <;> simp [indexRank64Go]
  | w :: r, pre => by
    have hw := getElem?_append_mid pre w r
    have hr := rank_word hw 64 (by omega)
    have ih := indexRank64Go_spec t r (pre ++ [w])
    simp only [List.append_assoc, List.singleton_append, List.length_append, List.length_singleton] at ih
    have e : 64 * (pre.length + 1) = 64 * pre.length + 64 := by omega
    rw [e, hr] at ih
    simp only [indexRank64Go, ih, List.length_cons]
    have e2 : r.length + 1 + t.toNat = (r.length + t.toNat) + 1 := by omega
    rw [e2, List.range'_succ]; simp

theorem indexRank64_eq (ws : List Nat) (t : Bool) :
    indexRank64 ws t = (List.range (ws.length + t.toNat)).map (fun k => rank ws (64 * k)) := by
  have := indexRank64Go_spec t ws []
  simpa [indexRank64, rank, List.range_eq_range'] using this

/-- the loop of `IndexRank128`, two words per round: an even number of words `pre` is already consumed -/
theorem indexRank128Go_spec : ∀ (ws pre : List Nat), pre.length % 2 = 0 →
    indexRank128Go ws (rank (pre ++ ws) (64 * pre.length)) =
      (List.range' (pre.length / 2) (ws.length / 2 + 1)).map (fun k => rank (pre ++ ws) (128 * k))
  | [], pre, h => by
    have e : 128 * (pre.length / 2) = 64 * pre.length := by omega
    simp [indexRank128Go, e]
  | [w], pre, h => by
    have e : 128 * (pre.length / 2) = 64 * pre.length := by omega
    simp [indexRank128Go, e]
  | w0 :: w1 :: r, pre, h => by
    have e : 64 * (pre.length + (0 + 1 + 1)) = 64 * (pre.length + 1) + 64 := by omega
    have e' : 64 * (pre.length + 1) = 64 * pre.length + 64 := by omega
    have e2 : (r.length + 1 + 1) / 2 + 1 = (r.length / 2 + 1) + 1 := by omega
    have e3 : (pre.length + (0 + 1 + 1)) / 2 = pre.length / 2 + 1 := by omega
    have e4 : 128 * (pre.length / 2) = 64 * pre.length := by omega
    have hw0 := getElem?_append_mid pre w0 (w1 :: r)
    have hw1 : (pre ++ w0 :: w1 :: r)[pre.length + 1]? = some w1 := by simp
    have hr0 := rank_word hw0 64 (by omega)
    have hr1 := rank_word hw1 64 (by omega)
    have ih := indexRank128Go_spec r (pre ++ [w0, w1]) (by simp; omega)
    simp only [List.append_assoc, List.cons_append, List.nil_append, List.length_append, List.length_cons, List.length_nil] at ih
    rw [e, hr1, e', hr0, e3] at ih
    simp only [indexRank128Go, ih, List.length_cons]
    rw [e2, show List.range' (pre.length / 2) (r.length / 2 + 1 + 1) =
      pre.length / 2 :: List.range' (pre.length / 2 + 1) (r.length / 2 + 1) from List.range'_succ, List.map_cons, e4]

end Low
