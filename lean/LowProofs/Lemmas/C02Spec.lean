import LowProofs.Lemmas.Count
/- C02 helpers, part 1: how `ones` (list of 1-bit positions) relates to `rank` and `bitAt` -/
namespace Low.C02L

/-- 1-bit positions below `N` -/
def onesUpto (ws : List Nat) (N : Nat) : List Nat := (List.range N).filter (bitAt ws)

theorem onesUpto_succ (ws : List Nat) (N : Nat) :
    onesUpto ws (N+1) = onesUpto ws N ++ (if bitAt ws N then [N] else []) := by
  simp only [onesUpto, List.range_succ, List.filter_append, List.filter_cons, List.filter_nil]

theorem onesUpto_length (ws : List Nat) : ∀ N, (onesUpto ws N).length = rank ws N
  | 0 => by simp [onesUpto, rank]
  | N+1 => by
    rw [onesUpto_succ, List.length_append, onesUpto_length ws N]
    simp only [rank]
    cases bitAt ws N <;> simp

theorem onesUpto_getElem? (ws : List Nat) : ∀ (N i a : Nat), (onesUpto ws N)[i]? = some a →
    a < N ∧ bitAt ws a = true ∧ rank ws a = i
  | 0, i, a, h => by simp [onesUpto] at h
  | N+1, i, a, h => by
    rw [onesUpto_succ] at h
    by_cases hi : i < (onesUpto ws N).length
    · rw [List.getElem?_append_left hi] at h
      have := onesUpto_getElem? ws N i a h
      exact ⟨by omega, this.2.1, this.2.2⟩
    · rw [List.getElem?_append_right (by omega)] at h
      by_cases hb : bitAt ws N = true
      · simp only [hb, if_true] at h
        have hi0 : i - (onesUpto ws N).length = 0 := by
          rcases Nat.eq_zero_or_pos (i - (onesUpto ws N).length) with h0 | h0
          · exact h0
          · rw [List.getElem?_eq_none (by simp; omega)] at h; cases h
        rw [hi0] at h
        simp at h
        subst h
        rw [onesUpto_length] at hi hi0
        exact ⟨by omega, hb, by omega⟩
      · simp [hb] at h

theorem onesUpto_rank (ws : List Nat) : ∀ (N a : Nat), a < N → bitAt ws a = true →
    (onesUpto ws N)[rank ws a]? = some a
  | 0, a, h, _ => by omega
  | N+1, a, h, hb => by
    rw [onesUpto_succ]
    by_cases ha : a = N
    · subst ha
      rw [List.getElem?_append_right (by rw [onesUpto_length]; omega), onesUpto_length]
      simp [hb]
    · have ih := onesUpto_rank ws N a (by omega) hb
      have hlt := (List.getElem?_eq_some_iff.mp ih).1
      rw [List.getElem?_append_left hlt]; exact ih

theorem ones_eq (ws : List Nat) : ones ws = onesUpto ws (64 * ws.length) := rfl

theorem ones_length (ws : List Nat) : (ones ws).length = rank ws (64 * ws.length) :=
  onesUpto_length ws _

theorem ones_getElem? {ws : List Nat} {i a : Nat} (h : (ones ws)[i]? = some a) :
    a < 64 * ws.length ∧ bitAt ws a = true ∧ rank ws a = i :=
  onesUpto_getElem? ws _ i a h

theorem ones_rank {ws : List Nat} {a : Nat} (hb : bitAt ws a = true) :
    (ones ws)[rank ws a]? = some a := by
  have ha : a < 64 * ws.length := by
    apply Nat.lt_of_not_le; intro h
    rw [bitAt_oob h] at hb; cases hb
  exact onesUpto_rank ws _ a ha hb

theorem rank_eq_of_zero (ws : List Nat) (a : Nat) : ∀ b, a ≤ b →
    (∀ c, a ≤ c → c < b → bitAt ws c = false) → rank ws b = rank ws a
  | 0, h, _ => by have : a = 0 := by omega
                  subst this; rfl
  | b+1, h, hz => by
    by_cases hab : a = b + 1
    · subst hab; rfl
    · simp only [rank]
      rw [rank_eq_of_zero ws a b (by omega) (fun c h1 h2 => hz c h1 (by omega)), hz b (by omega) (by omega)]
      simp

/-- `b` is the position of the first 1-bit after `a`, or the bit length when there is none -/
def IsNext (ws : List Nat) (a b : Nat) : Prop :=
  a < b ∧ b ≤ 64 * ws.length ∧ (b < 64 * ws.length → bitAt ws b = true) ∧
    ∀ c, a < c → c < b → bitAt ws c = false

/-- the selected pair, from the local facts the algorithms establish -/
theorem ones_pair {ws : List Nat} {i a b : Nat} (hb : bitAt ws a = true) (hr : rank ws a = i)
    (hn : IsNext ws a b) :
    ∃ h : i < (ones ws).length, (ones ws)[i] = a ∧ (ones ws).getD (i+1) (64 * ws.length) = b := by
  have h1 := ones_rank hb
  rw [hr] at h1
  have hi := (List.getElem?_eq_some_iff.mp h1).1
  refine ⟨hi, ?_, ?_⟩
  · rw [List.getElem?_eq_getElem hi] at h1; exact Option.some.inj h1
  · obtain ⟨hab, hbN, hbb, hz⟩ := hn
    have hrb : rank ws b = i + 1 := by
      rw [rank_eq_of_zero ws (a+1) b (by omega) (fun c h1 h2 => hz c (by omega) h2)]
      simp [rank, hb, hr]
    rcases Nat.lt_or_ge b (64 * ws.length) with hlt | hge
    · have := ones_rank (hbb hlt)
      rw [hrb] at this
      simp [List.getD, this]
    · have hbe : b = 64 * ws.length := by omega
      have hl := ones_length ws
      rw [← hbe, hrb] at hl
      rw [List.getD, List.getElem?_eq_none (by omega)]
      simp [hbe]

end Low.C02L
