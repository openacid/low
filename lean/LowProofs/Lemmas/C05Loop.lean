import LowProofs.Lemmas.C05Word
import LowProofs.Lemmas.Wrap
/-
  C05, part 3: phases B (descent loop) and C (tables).
  Started from `(p2, mask of level r, index i)` with `i` an index of the full subtree of height `r`,
  the loop followed by the table lookup returns `(p2 >>> 1) ||| encPath r (nodeAt r i)`.
-/
namespace Low.C05L

/-- the loop mask `0x0100000001 << r`: bit `r` of each half -/
def mskR (r : Nat) : Nat := W (2 ^ r) (2 ^ r)

/-- what `indexToPath` does after the loop -/
def fin : Nat × Nat × Int → Option Nat
  | (p2, msk, index) =>
    if index < 0 then none else
    match (idxToPathRow (msk &&& 15))[index.toNat]? with
    | none => none
    | some v => some ((p2 >>> 1) ||| v)

theorem two_pow_le_of_le_30 {r : Nat} (hr : r ≤ 30) : 2 ^ r ≤ 1073741824 := by
  have := pow_le_pow hr; simpa using this

theorem mskR_and15_ge {r : Nat} (hr : 4 ≤ r) : mskR r &&& 15 = 0 := by
  have e : (15 : Nat) = 2 ^ 4 - 1 := rfl
  rw [e, Nat.and_two_pow_sub_one_eq_mod]
  obtain ⟨k, rfl⟩ : ∃ k, r = 4 + k := ⟨r - 4, by omega⟩
  simp only [mskR, W, Nat.pow_add]
  generalize 2 ^ k = x
  omega

theorem mskR_and15_lt {r : Nat} (hr : r < 4) : mskR r &&& 15 = 2 ^ r := by
  have : r = 0 ∨ r = 1 ∨ r = 2 ∨ r = 3 := by omega
  rcases this with rfl | rfl | rfl | rfl <;> decide

theorem mskR_shr {r f : Nat} : mskR (r + f) >>> f = mskR r := by
  simp only [mskR, W, Nat.shiftRight_eq_div_pow, Nat.pow_add]
  have e : 2 ^ 32 * (2 ^ r * 2 ^ f) + 2 ^ r * 2 ^ f = (2 ^ 32 * 2 ^ r + 2 ^ r) * 2 ^ f := by
    rw [Nat.add_mul, Nat.mul_assoc]
  rw [e, Nat.mul_div_cancel _ (Nat.two_pow_pos f)]

/-- phase C: every table row is the list of path words of the full tree of that height, in pre-order -/
theorem table_spec : ∀ r : Fin 4, ∀ i : Fin 15, i.val < 2 ^ (r.val + 1) - 1 →
    (idxToPathRow (2 ^ r.val))[i.val]? = some (encPath r.val (nodeAt r.val i.val)) := by
  decide

theorem fin_exit {r i : Nat} (p2 : Nat) (hi : i < 2 ^ (r + 1) - 1) (hx : r < 4 ∨ i = 0) :
    fin (p2, mskR r, (i : Int)) = some ((p2 >>> 1) ||| encPath r (nodeAt r i)) := by
  have hneg : ¬ ((i : Int) < 0) := by omega
  simp only [fin, hneg, if_false, Int.toNat_natCast]
  by_cases hr : r < 4
  · have hi15 : i < 15 := by
      have : r = 0 ∨ r = 1 ∨ r = 2 ∨ r = 3 := by omega
      rcases this with rfl | rfl | rfl | rfl <;> simp at hi <;> omega
    have := table_spec ⟨r, hr⟩ ⟨i, hi15⟩ hi
    rw [mskR_and15_lt hr, this]
  · have h0 : i = 0 := by omega
    subst h0
    rw [mskR_and15_ge (by omega), nodeAt_zero, encPath_nil]
    simp [idxToPathRow]

/-- `uint64(index) << 32 | 0xffffffff` -/
theorem idxWord {i : Nat} (hi : i < 2147483648) :
    shl64 (u64 (i : Int)) 32 ||| 0xffffffff = W i 0xffffffff := by
  have h1 : shl64 (u64 (i : Int)) 32 = W i 0 := by
    rw [u64_ofNat_lt (by omega)]
    unfold shl64
    rw [if_pos (by decide)]
    simp only [W, Nat.shiftLeft_eq, M64]; omega
  rw [h1]
  exact (Nat.two_pow_add_eq_or_of_lt (by decide) i).symm

/-- the int32 index update of one iteration: `P` is the masked path bit, zero or the level bit -/
theorem step_index {i P : Nat} (b : Bool) (hP : 0 < P) (hi0 : 0 < i) (hi : i < 2147483648)
    (hb : b = true → P ≤ i) :
    (if wrap32 ((b.toNat * P : Nat) : Int) = 0 then wrap32 ((i : Int) - 1)
      else wrap32 ((i : Int) - wrap32 ((b.toNat * P : Nat) : Int))) = ((if b then i - P else i - 1 : Nat) : Int) := by
  cases b
  · rw [Bool.toNat_false, Nat.zero_mul, wrap32_ofNat (by omega), if_pos (by rfl), wrap32_id (by omega) (by omega)]
    simp only [Bool.false_eq_true, if_false]
    omega
  · have hPi := hb rfl
    rw [Bool.toNat_true, Nat.one_mul, wrap32_ofNat (by omega), if_neg (by omega), wrap32_id (by omega) (by omega)]
    simp only [if_true]
    omega

/-- one iteration of the loop at level `r+1 ≥ 4`, index `i > 0`: branch = bit `r+1` of `i` -/
theorem loop_step {r i : Nat} (fuel p2 : Nat) (hr4 : 4 ≤ r + 1) (hr : r + 1 ≤ 30)
    (hi0 : 0 < i) (hi : i < 2 ^ (r + 1 + 1) - 1) :
    i2pLoop (fuel + 1) p2 (mskR (r + 1)) (i : Int) =
      i2pLoop fuel (p2 ||| W ((i.testBit (r + 1)).toNat * 2 ^ (r + 1)) (2 ^ (r + 1))) (mskR r)
        ((if i.testBit (r + 1) then i - 2 ^ (r + 1) else i - 1 : Nat) : Int) := by
  have hi31 : i < 2147483648 := by
    have : 2 ^ (r + 1 + 1) ≤ 2 ^ 31 := pow_le_pow (by omega)
    omega
  have hcond : mskR (r + 1) &&& 15 = 0 ∧ (i : Int) > 0 := ⟨mskR_and15_ge hr4, by omega⟩
  have hm32 : 2 ^ (r + 1) < 2 ^ 32 := Nat.pow_lt_pow_right (by omega) (by omega)
  -- maskAndPathBit
  have hmpb : (shl64 (u64 (i : Int)) 32 ||| 0xffffffff) &&& mskR (r + 1) =
      W ((i.testBit (r + 1)).toNat * 2 ^ (r + 1)) (2 ^ (r + 1)) := by
    rw [idxWord hi31, mskR, W_and (by decide) hm32, and_two_pow, and_two_pow]
    have hb : (4294967295 : Nat).testBit (r + 1) = true := by
      rw [show (4294967295 : Nat) = 2 ^ 32 - 1 from rfl, Nat.testBit_two_pow_sub_one]; simp; omega
    simp [hb]
  rw [i2pLoop, if_pos hcond]
  simp only [hmpb, W_shr32 hm32, @mskR_shr r 1,
    step_index _ (Nat.two_pow_pos (r + 1)) hi0 hi31 Nat.ge_two_pow_of_testBit]

/-- the half-shifted contribution of one iteration is the first branch of the path word -/
theorem encPath_cons {r : Nat} (b : Bool) {rest : List Bool} (hl : rest.length ≤ r) (hr : r + 1 ≤ 32) :
    encPath (r + 1) (b :: rest) =
      (W (b.toNat * 2 ^ (r + 1)) (2 ^ (r + 1)) >>> 1) ||| encPath r rest := by
  have h := encPath_append (f := 1) (r := r) (pfx := [b]) (rest := rest) rfl hl (by omega)
  have e1 : 1 + r = r + 1 := by omega
  rw [e1] at h
  simp only [List.singleton_append] at h
  rw [h]
  congr 1
  have e2 : 2 ^ (r + 1) = 2 * 2 ^ r := by rw [Nat.pow_succ]; omega
  have e3 : b.toNat * (2 * 2 ^ r) = 2 * (b.toNat * 2 ^ r) := by
    rw [Nat.mul_left_comm]
  rw [e2, e3, W_shr1]
  congr 1
  · simp [bitsVal]
  · omega

theorem loop_spec : ∀ (fuel r p2 i : Nat), r ≤ fuel → r ≤ 30 → i < 2 ^ (r + 1) - 1 →
    fin (i2pLoop fuel p2 (mskR r) (i : Int)) = some ((p2 >>> 1) ||| encPath r (nodeAt r i))
  | 0, r, p2, i, hf, _, hi => by
    have : r = 0 := by omega
    exact fin_exit p2 hi (Or.inl (by omega))
  | fuel + 1, r, p2, i, hf, hr, hi => by
    by_cases hx : r < 4 ∨ i = 0
    · have hcond : ¬ (mskR r &&& 15 = 0 ∧ (i : Int) > 0) := by
        rcases hx with h | h
        · rw [mskR_and15_lt h]
          have := Nat.two_pow_pos r; omega
        · omega
      rw [i2pLoop, if_neg hcond]
      exact fin_exit p2 hi hx
    · obtain ⟨r', rfl⟩ : ∃ r', r = r' + 1 := ⟨r - 1, by omega⟩
      have hi0 : 0 < i := by omega
      obtain ⟨hn, hlt⟩ := nodeAt_step hi0 hi
      rw [loop_step fuel p2 (by omega) hr hi0 hi, hn, loop_spec fuel r' _ _ (by omega) (by omega) hlt,
        encPath_cons _ (nodeAt_spec r' _ hlt).1 (by omega), Nat.shiftRight_or_distrib, Nat.or_assoc]

end Low.C05L
