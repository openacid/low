import LowProofs.Lemmas.C16Fd
/-
  C17 (reading order Scan → Dfs → Valid → Main → Order → Final): the scan of an oversized range (`shardScan`) and the minimum it computes.
-/
namespace Low.C17L
open Low.C16L

/-- common-prefix byte length of the adjacent pair `(t, t+1)`, as the code computes it -/
def bl (fds : List Nat) (t : Nat) : Nat := fds.getD t 0 / 8

/-- running minimum of `bl` over `[i, i+cnt)` starting from `m` -/
def minFold (fds : List Nat) (i cnt m : Nat) : Nat :=
  (List.range' i cnt).foldl (fun m t => min m (bl fds t)) m

theorem minFold_zero (fds : List Nat) (i m : Nat) : minFold fds i 0 m = m := rfl

theorem minFold_succ (fds : List Nat) (i cnt m : Nat) :
    minFold fds i (cnt + 1) m = minFold fds (i + 1) cnt (min m (bl fds i)) := by
  simp [minFold, List.range'_succ]

/-- `minFold` as the minimum loop of the code over the list of `bl` values -/
theorem minFold_eq (fds : List Nat) (i cnt m : Nat) :
    minFold fds i cnt m = ((List.range' i cnt).map (bl fds)).foldl (fun mn d => if mn > d then d else mn) m := by
  rw [List.foldl_map, minFold]
  congr 1
  funext mn t
  split <;> omega

theorem minFold_le_init (fds : List Nat) (cnt i m : Nat) : minFold fds i cnt m ≤ m := by
  rw [minFold_eq]
  exact (foldl_min_spec _ _).1

theorem minFold_le_bl (fds : List Nat) (cnt i m t : Nat) (h1 : i ≤ t) (h2 : t < i + cnt) :
    minFold fds i cnt m ≤ bl fds t := by
  rw [minFold_eq]
  exact (foldl_min_spec _ _).2.1 _ (List.mem_map.2 ⟨t, List.mem_range'_1.2 ⟨h1, h2⟩, rfl⟩)

theorem minFold_attained (fds : List Nat) (cnt i m : Nat) :
    minFold fds i cnt m = m ∨ ∃ t, i ≤ t ∧ t < i + cnt ∧ minFold fds i cnt m = bl fds t := by
  rw [minFold_eq]
  rcases (foldl_min_spec _ m).2.2 with h | h
  · exact Or.inl h
  · obtain ⟨t, ht, e⟩ := List.mem_map.1 h
    exact Or.inr ⟨t, (List.mem_range'_1.1 ht).1, (List.mem_range'_1.1 ht).2, e.symm⟩

/-- positions `t+1` for `t` in `[i, i+cnt)` whose adjacent pair has common-prefix length `lam` -/
def cuts (fds : List Nat) (lam i cnt : Nat) : List Nat :=
  ((List.range' i cnt).filter (fun t => bl fds t = lam)).map (· + 1)

theorem cuts_zero (fds : List Nat) (lam i : Nat) : cuts fds lam i 0 = [] := rfl

theorem cuts_succ (fds : List Nat) (lam i cnt : Nat) :
    cuts fds lam i (cnt + 1) = (if bl fds i = lam then [i + 1] else []) ++ cuts fds lam (i + 1) cnt := by
  by_cases h : bl fds i = lam <;> simp [cuts, List.range'_succ, h]

/-- the scan returns exactly the positions where the final minimum is attained -/
theorem shardScan_spec (fds : List Nat) : ∀ (cnt i longest : Nat) (ends : List Nat),
    shardScan fds cnt i longest ends =
      (if minFold fds i cnt longest < longest then [] else ends) ++ cuts fds (minFold fds i cnt longest) i cnt
  | 0, i, longest, ends => by simp [shardScan, minFold_zero, cuts_zero]
  | cnt+1, i, longest, ends => by
    rw [shardScan, minFold_succ, cuts_succ]
    show (if bl fds i < longest then shardScan fds cnt (i + 1) (bl fds i) [i + 1]
      else if bl fds i = longest then shardScan fds cnt (i + 1) longest (ends ++ [i + 1])
      else shardScan fds cnt (i + 1) longest ends) = _
    by_cases h1 : bl fds i < longest
    · have e : min longest (bl fds i) = bl fds i := by omega
      have hle := minFold_le_init fds cnt (i + 1) (bl fds i)
      rw [if_pos h1, shardScan_spec fds cnt (i + 1) (bl fds i) [i + 1], e]
      generalize minFold fds (i + 1) cnt (bl fds i) = mf at *
      have c1 : mf < longest := by omega
      by_cases h2 : mf < bl fds i
      · have c2 : ¬ bl fds i = mf := by omega
        simp [c1, h2, c2]
      · have c2 : bl fds i = mf := by omega
        simp [c1, c2]
    · have e : min longest (bl fds i) = longest := by omega
      have hle := minFold_le_init fds cnt (i + 1) longest
      rw [if_neg h1, e]
      by_cases h2 : bl fds i = longest
      · rw [if_pos h2, shardScan_spec fds cnt (i + 1) longest (ends ++ [i + 1])]
        generalize minFold fds (i + 1) cnt longest = mf at *
        by_cases h3 : mf < longest
        · have c2 : ¬ bl fds i = mf := by omega
          simp [h3, c2]
        · have c2 : bl fds i = mf := by omega
          simp [h3, c2]
      · rw [if_neg h2, shardScan_spec fds cnt (i + 1) longest ends]
        generalize minFold fds (i + 1) cnt longest = mf at *
        have c2 : ¬ bl fds i = mf := by omega
        simp [c2]

theorem shardScan_eq (fds : List Nat) (cnt i longest : Nat) :
    shardScan fds cnt i longest [] = cuts fds (minFold fds i cnt longest) i cnt := by
  rw [shardScan_spec]; simp

/-- `SplitOK lam e s es`: `es` is a strictly ascending list of positions in `(s, e]` ending in `e`; every
    member except the last is a position whose adjacent pair `(t-1, t)` has common-prefix length `lam`; every
    other adjacent pair inside `[s, e)` has a longer common prefix. -/
def SplitOK (fds : List Nat) (lam e : Nat) : Nat → List Nat → Prop
  | _, [] => False
  | s, [t] => t = e ∧ s < t ∧ ∀ i, s ≤ i → i + 1 < t → lam < bl fds i
  | s, t :: t' :: es => s < t ∧ t < e ∧ bl fds (t - 1) = lam ∧ (∀ i, s ≤ i → i + 1 < t → lam < bl fds i) ∧
      SplitOK fds lam e t (t' :: es)

theorem splitOK_cuts (fds : List Nat) (lam : Nat) : ∀ (cnt s0 s : Nat), s0 ≤ s →
    (∀ i, s0 ≤ i → i < s → lam < bl fds i) → (∀ i, s ≤ i → i < s + cnt → lam ≤ bl fds i) →
    SplitOK fds lam (s + cnt + 1) s0 (cuts fds lam s cnt ++ [s + cnt + 1])
  | 0, s0, s, h0, h1, _ => by
    exact ⟨rfl, by omega, fun i hi hi' => h1 i hi (by omega)⟩
  | cnt+1, s0, s, h0, h1, h2 => by
    rw [cuts_succ]
    have ih1 := splitOK_cuts fds lam cnt (s + 1) (s + 1) (Nat.le_refl _) (fun i _ _ => by omega)
      (fun i hi hi' => h2 i (by omega) (by omega))
    have e : s + 1 + cnt + 1 = s + (cnt + 1) + 1 := by omega
    rw [e] at ih1
    by_cases hb : bl fds s = lam
    · rw [if_pos hb]
      cases hc : cuts fds lam (s + 1) cnt ++ [s + (cnt + 1) + 1] with
      | nil => simp at hc
      | cons t' es =>
        rw [hc] at ih1
        rw [List.append_assoc, hc]
        exact ⟨by omega, by omega, by simpa using hb, fun i hi hi' => h1 i hi (by omega), ih1⟩
    · rw [if_neg hb, List.nil_append]
      have ih2 := splitOK_cuts fds lam cnt s0 (s + 1) (by omega)
        (fun i hi hi' => by
          by_cases e : i = s
          · subst e; have := h2 i (by omega) (by omega); omega
          · exact h1 i hi (by omega))
        (fun i hi hi' => h2 i (by omega) (by omega))
      rw [e] at ih2; exact ih2

/-- chain used for fuel: `s :: es` strictly ascending, below `n`, with gaps at most `fuel` -/
def Asc (fuel n : Nat) : Nat → List Nat → Prop
  | _, [] => True
  | s, t :: es => s < t ∧ t ≤ n ∧ t ≤ s + fuel ∧ Asc fuel n t es

theorem asc_of_splitOK (fds : List Nat) (lam e n fuel s0 : Nat) (he : e ≤ n) (hf : e ≤ s0 + fuel + 1) :
    ∀ (es : List Nat) (s : Nat), SplitOK fds lam e s es → (s0 < s ∨ (s0 = s ∧ 2 ≤ es.length)) → Asc fuel n s es
  | [], _, h, _ => by simp [SplitOK] at h
  | [t], s, h, h0 => by
    simp only [SplitOK] at h
    simp only [Asc, and_true]
    simp at h0
    omega
  | t :: t' :: es, s, h, h0 => by
    simp only [SplitOK] at h
    refine ⟨h.1, by omega, by omega, ?_⟩
    exact asc_of_splitOK fds lam e n fuel s0 he hf (t' :: es) t h.2.2.2.2 (by omega)

theorem splitOK_last (fds : List Nat) (lam e : Nat) : ∀ (es : List Nat) (s : Nat), SplitOK fds lam e s es →
    (s :: es).getLast? = some e
  | [], _, h => by simp [SplitOK] at h
  | [t], s, h => by simp only [SplitOK] at h; simp [h.1]
  | t :: t' :: es, s, h => by
    have := splitOK_last fds lam e (t' :: es) t h.2.2.2.2
    rw [List.getLast?_cons_cons]; exact this

theorem take_drop_eq_map (l : List Nat) (s c : Nat) (h : s + c ≤ l.length) :
    (l.drop s).take c = (List.range' s c).map (fun t => l.getD t 0) := by
  apply List.ext_getElem
  · simp; omega
  · intro i h1 h2
    simp only [List.length_map, List.length_range'] at h2
    simp [List.getD, List.getElem?_eq_getElem (show s + i < l.length by omega)]

theorem leaf_fold (fds : List Nat) (s c m : Nat) (h : s + c ≤ fds.length) :
    ((fds.drop s).take c).foldl (fun mn d => if mn > d / 8 then d / 8 else mn) m = minFold fds s c m := by
  rw [minFold_eq, take_drop_eq_map fds s c h, List.foldl_map, List.foldl_map]
  rfl

end Low.C17L
