import LowModel
import LowProofs.Lemmas.Wrap
/-
  Helper lemmas for C06/C07 (pbcmpl framing): little-endian round trip, version padding,
  `readFull` on a reader whose available bytes start with a known block,
  the layout of the 32-byte header, and the capacity writer as a scripted writer.
-/
namespace Low.C06L

theorem le64_length (x : Nat) : (le64 x).length = 8 := by simp [le64]

theorem le64_bytesOK (x : Nat) : BytesOK (le64 x) := by
  intro b hb
  simp only [le64, List.mem_map] at hb
  obtain ⟨j, _, rfl⟩ := hb
  exact Nat.mod_lt _ (by decide)

theorem unle_bytes : ∀ (n x : Nat), unle ((List.range n).map fun j => (x >>> (8 * j)) % 256) = x % 256 ^ n
  | 0, x => by simp [unle, Nat.mod_one]
  | n+1, x => by
    have ih := unle_bytes n (x >>> 8)
    have e : ∀ j, x >>> (8 * (j + 1)) = x >>> 8 >>> (8 * j) := fun j => by
      rw [← Nat.shiftRight_add, Nat.mul_succ, Nat.add_comm]
    rw [List.range_succ_eq_map, List.map_cons, List.map_map, unle]
    simp only [Function.comp_def, Nat.succ_eq_add_one, e]
    rw [ih, Nat.mul_zero, Nat.shiftRight_zero, Nat.shiftRight_eq_div_pow, Nat.pow_succ 256, Nat.mul_comm (256 ^ n),
      Nat.mod_mul]

theorem unle_le64 (x : Nat) (h : x < 2 ^ 64) : unle (le64 x) = x := by
  rw [le64, unle_bytes, Nat.mod_eq_of_lt h]

theorem unle_lt : ∀ (l : List Nat), BytesOK l → unle l < 256 ^ l.length
  | [], _ => by simp [unle]
  | b :: r, h => by
    have hb : b < 256 := h b (by simp)
    have hr := unle_lt r (fun c hc => h c (by simp [hc]))
    simp only [unle, List.length_cons, Nat.pow_succ]
    generalize 256 ^ r.length = p at hr ⊢
    omega

theorem dropWhile_replicate_zero (k : Nat) (l : List Nat) :
    (List.replicate k 0 ++ l).dropWhile (· = 0) = l.dropWhile (· = 0) := by
  induction k with
  | zero => simp
  | succ k ih => simp [List.replicate_succ, ih]

theorem verStr_append_nuls (ver : List Nat) (k : Nat) :
    verStr (ver ++ List.replicate k 0) = verStr ver := by
  unfold verStr
  rw [List.reverse_append, List.reverse_replicate, dropWhile_replicate_zero]

theorem verStr_of_last {ver : List Nat} (h : ver.getLast? ≠ some 0) : verStr ver = ver := by
  unfold verStr
  rw [List.getLast?_eq_head?_reverse] at h
  have key : ver.reverse.dropWhile (· = 0) = ver.reverse := by
    cases hr : ver.reverse with
    | nil => rfl
    | cons a t =>
      rw [hr] at h
      have ha : a ≠ 0 := by simpa using h
      simp [ha]
  rw [key, List.reverse_reverse]

theorem verStr_pad (ver : List Nat) (k : Nat) (h : ver.getLast? ≠ some 0) :
    verStr (ver ++ List.replicate k 0) = ver := by
  rw [verStr_append_nuls, verStr_of_last h]

def pad16 (ver : List Nat) : List Nat := ver ++ List.replicate (16 - ver.length) 0

theorem pad16_length (ver : List Nat) (h : ver.length ≤ 16) : (pad16 ver).length = 16 := by
  simp [pad16]; omega

theorem pbHeader_eq (ver : List Nat) (bs : Nat) (h : ver.length ≤ 16) :
    pbHeader ver bs = some (pad16 ver ++ le64 32 ++ le64 bs) := by
  simp [pbHeader, pad16]; omega

theorem pbHeader_length {ver : List Nat} {bs : Nat} {h : List Nat} (hh : pbHeader ver bs = some h) :
    h.length = 32 := by
  unfold pbHeader at hh
  split at hh
  · cases hh
  · cases hh; simp [le64_length]; omega

theorem pbHeader_some_iff (ver : List Nat) (bs : Nat) :
    (∃ h, pbHeader ver bs = some h) ↔ ver.length ≤ 16 := by
  unfold pbHeader
  constructor
  · rintro ⟨h, hh⟩; split at hh
    · cases hh
    · omega
  · intro h; exact ⟨_, by rw [if_neg (by omega)]⟩

theorem pbFrame_eq (ver body : List Nat) (h : ver.length ≤ 16) :
    pbFrame ver body = some (pad16 ver ++ le64 32 ++ le64 body.length ++ body) := by
  simp [pbFrame, pbHeader_eq ver body.length h]

theorem pbFrame_some {ver body frame : List Nat} (hf : pbFrame ver body = some frame) :
    ver.length ≤ 16 ∧ frame = pad16 ver ++ le64 32 ++ le64 body.length ++ body := by
  by_cases h : ver.length ≤ 16
  · rw [pbFrame_eq ver body h] at hf; cases hf; exact ⟨h, rfl⟩
  · have : pbHeader ver body.length = none := by simp [pbHeader]; omega
    simp [pbFrame, this] at hf

theorem frame_length (ver body : List Nat) (h : ver.length ≤ 16) :
    (pad16 ver ++ le64 32 ++ le64 body.length ++ body).length = 32 + body.length := by
  simp [pad16_length ver h, le64_length]; omega

/-- fields of a 32-byte block `p(16) ++ a(8) ++ b(8)` -/
theorem fields {p a b : List Nat} (hp : p.length = 16) (ha : a.length = 8) (hb : b.length = 8) :
    (p ++ a ++ b).take 16 = p ∧ ((p ++ a ++ b).drop 16).take 8 = a ∧ ((p ++ a ++ b).drop 24).take 8 = b := by
  refine ⟨?_, ?_, ?_⟩
  · rw [List.append_assoc, List.take_left' hp]
  · rw [List.append_assoc, List.drop_left' hp, List.take_left' ha]
  · rw [List.drop_left' (by simp [hp, ha]), List.take_of_length_le (by omega)]

theorem readFull_append (a rest : List Nat) (e : PbErr) :
    readFull ⟨a ++ rest, e⟩ a.length = (a, none, ⟨rest, e⟩) := by
  unfold readFull
  by_cases h0 : a.length = 0
  · have : a = [] := List.eq_nil_of_length_eq_zero h0
    subst this; simp
  · simp [h0]

theorem readFull_short (a : List Nat) (e : PbErr) (n : Nat) (h : a.length < n) :
    readFull ⟨a, e⟩ n =
      (a, some (if e = .eof then (if a.length = 0 then .eof else .unexpectedEOF) else e), ⟨[], e⟩) := by
  unfold readFull
  have h0 : n ≠ 0 := by omega
  have h1 : ¬ a.length ≥ n := by omega
  simp [h0, h1]

theorem readFull_cases (r : PbReader) (n : Nat) :
    (readFull r n = (r.avail.take n, none, ⟨r.avail.drop n, r.endErr⟩) ∧ n ≤ r.avail.length) ∨
    (∃ err, readFull r n = (r.avail, some err, ⟨[], r.endErr⟩) ∧ r.avail.length < n) := by
  unfold readFull
  by_cases h0 : n = 0
  · subst h0; left; simp
  · by_cases h1 : r.avail.length ≥ n
    · left; simp [h0, h1]
    · right; simp [h0, h1]; omega

/-- the three header fields as `pbReadHeader` decodes them from a 32-byte block -/
def hdrInfo (hdr : List Nat) : PbHeaderInfo :=
  ⟨verStr (hdr.take 16), wrap64 (unle ((hdr.drop 16).take 8)), wrap64 (unle ((hdr.drop 24).take 8))⟩

theorem pbReadHeader_hdr (hdr rest : List Nat) (e : PbErr) (h : hdr.length = 32) :
    pbReadHeader ⟨hdr ++ rest, e⟩ = (32, some (hdrInfo hdr), none, ⟨rest, e⟩) := by
  have := readFull_append hdr rest e
  rw [h] at this
  simp only [pbReadHeader, this, h, hdrInfo]

theorem pbReadHeader_short (a : List Nat) (e : PbErr) (h : a.length < 32) :
    pbReadHeader ⟨a, e⟩ =
      (a.length, none, some (if e = .eof then (if a.length = 0 then .eof else .unexpectedEOF) else e), ⟨[], e⟩) := by
  simp only [pbReadHeader, readFull_short a e 32 h]

/-- `pbUnmarshal` once `pbReadHeader` has succeeded, in terms of the decoded fields
    (stated for an abstract `hi` so that the kernel never unfolds the field decoders) -/
theorem pbUnmarshal_of_header (r r' : PbReader) (n : Nat) (hi : PbHeaderInfo)
    (hh : pbReadHeader r = (n, some hi, none, r')) :
    pbUnmarshal r =
      if hi.headerSize ≠ 32 then ⟨n, hi.ver, none, some .invalidHeaderSize, r'⟩ else
      if hi.bodySize < 0 then ⟨n, hi.ver, none, some .invalidBodySize, r'⟩ else
      match readFull r' hi.bodySize.toNat with
      | (b, some err, r'') => ⟨n + b.length, hi.ver, none, some err, r''⟩
      | (b, none, r'') => ⟨n + b.length, hi.ver, some b, none, r''⟩ := by
  unfold pbUnmarshal; rw [hh]
  simp only []
  split
  · rfl
  · split
    · rfl
    · rcases hq : readFull r' hi.bodySize.toNat with ⟨b, err, r''⟩
      cases err <;> rfl

theorem pbUnmarshal_hdr (hdr rest : List Nat) (e : PbErr) (h : hdr.length = 32) :
    pbUnmarshal ⟨hdr ++ rest, e⟩ =
      if (hdrInfo hdr).headerSize ≠ 32 then ⟨32, (hdrInfo hdr).ver, none, some .invalidHeaderSize, ⟨rest, e⟩⟩ else
      if (hdrInfo hdr).bodySize < 0 then ⟨32, (hdrInfo hdr).ver, none, some .invalidBodySize, ⟨rest, e⟩⟩ else
      match readFull ⟨rest, e⟩ (hdrInfo hdr).bodySize.toNat with
      | (b, some err, r'') => ⟨32 + b.length, (hdrInfo hdr).ver, none, some err, r''⟩
      | (b, none, r'') => ⟨32 + b.length, (hdrInfo hdr).ver, some b, none, r''⟩ :=
  pbUnmarshal_of_header _ _ _ _ (pbReadHeader_hdr hdr rest e h)

theorem pbUnmarshal_short (a : List Nat) (e : PbErr) (h : a.length < 32) :
    pbUnmarshal ⟨a, e⟩ =
      ⟨a.length, [], none, some (if e = .eof then (if a.length = 0 then .eof else .unexpectedEOF) else e), ⟨[], e⟩⟩ := by
  simp only [pbUnmarshal, pbReadHeader_short a e h]

theorem hdrInfo_frame (ver : List Nat) (bs : Nat) (hv : ver.length ≤ 16) (hb : bs < 2 ^ 63) :
    hdrInfo (pad16 ver ++ le64 32 ++ le64 bs) = ⟨verStr ver, 32, (bs : Int)⟩ := by
  obtain ⟨f1, f2, f3⟩ := fields (pad16_length ver hv) (le64_length 32) (le64_length bs)
  unfold hdrInfo
  rw [f1, f2, f3, unle_le64 32 (by omega), unle_le64 bs (by omega), wrap64_ofNat (n := bs) hb, wrap64_ofNat (n := 32) (by omega)]
  simp [pad16, verStr_append_nuls]

end Low.C06L

namespace Low
open C06L

/-- `capAns m cap k`: the answer of a writer with capacity `cap` (of kind `m`, as `wWrite`) to a write of `k` bytes -/
def Tie5.capAns (allOrNothing : Bool) (cap len : Nat) : WAns :=
  if len ≤ cap then ⟨len, false⟩ else if allOrNothing then ⟨0, true⟩ else ⟨cap, true⟩

open Tie5 in
theorem pbMarshal_eq_script (m : Bool) (cap : Nat) (ver body : List Nat) :
    pbMarshal m cap ver body = pbMarshalScript (capAns m cap 32) (capAns m (cap - 32) body.length) ver body := by
  unfold pbMarshal pbMarshalScript
  cases hh : pbHeader ver body.length with
  | none => rfl
  | some h =>
    have hl := pbHeader_length hh
    simp only [wWrite, capAns, hl]
    by_cases h1 : 32 ≤ cap
    · by_cases h2 : body.length ≤ cap - 32
      · simp [h1, h2]
      · cases m <;> simp [h1, h2] <;> omega
    · cases m <;> simp [h1] <;> omega

end Low
