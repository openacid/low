import LowProofs.Lemmas.C16Lcp
/-
  C16 (read after C16Lcp; C16Order is independent of this file, C16Count comes last): `get64Bits`, `lz` of an xor,
  the chunk loop of `sFirstDiffBit`, the minimum loop.
-/
namespace Low.C16L
open Low Low.C08L

theorem lz_xor : ∀ (x y : List Bool), x.length = y.length →
    lz (bitsVal x ^^^ bitsVal y) x.length = lcp x y
  | [], [], _ => by simp [lz, bitLen, lcp]
  | [], _ :: _, h => by simp at h
  | _ :: _, [], h => by simp at h
  | b :: r, c :: t, h => by
    have hl : r.length = t.length := by simpa using h
    have ih := lz_xor r t hl
    have hr := bitsVal_lt r
    have ht := bitsVal_lt t
    rw [← hl] at ht
    simp only [lz] at ih ⊢
    simp only [bitsVal, List.length_cons, bitLen, Nat.testBit_xor, lcp_cons]
    rw [← hl, testBit_bit_add_eq b hr, testBit_bit_add_eq c ht]
    by_cases e : b = c
    · subst e
      have hc : bitLen ((b.toNat * 2 ^ r.length + bitsVal r) ^^^ (b.toNat * 2 ^ r.length + bitsVal t)) r.length
          = bitLen (bitsVal r ^^^ bitsVal t) r.length := by
        apply bitLen_congr
        intro k hk
        simp only [Nat.testBit_xor, testBit_bit_add_lt b hr hk, testBit_bit_add_lt b ht hk]
      have hle := Low.bitLen_le (bitsVal r ^^^ bitsVal t) r.length
      have hbb : (b != b) = false := by simp
      simp only [hbb, Bool.false_eq_true, if_false, if_true, hc]
      omega
    · have : (b != c) = true := by simpa using e
      simp [this, e]

/-- the first `n` bytes, zero padded -/
def pad : Nat → List Nat → List Nat
  | 0, _ => []
  | n+1, [] => 0 :: pad n []
  | n+1, x :: s => x :: pad n s

theorem pad_length : ∀ (n : Nat) (s : List Nat), (pad n s).length = n
  | 0, _ => rfl
  | n+1, [] => by simp [pad, pad_length n]
  | n+1, x :: s => by simp [pad, pad_length n]

theorem pad_eq_map : ∀ (n : Nat) (s : List Nat), pad n s = (List.range n).map (fun j => s.getD j 0)
  | 0, _ => rfl
  | n+1, [] => by
    have := pad_eq_map n []
    simp only [pad, this, List.range_succ_eq_map, List.map_cons, List.map_map]
    simp
  | n+1, x :: s => by
    have := pad_eq_map n s
    simp only [pad, this, List.range_succ_eq_map, List.map_cons, List.map_map]
    simp

theorem pad_succ (n : Nat) (s : List Nat) : pad (n + 1) s = pad n s ++ [s.getD n 0] := by
  simp only [pad_eq_map, List.range_succ, List.map_append, List.map_cons, List.map_nil]

/-- after `n ≤ 8` rounds the accumulator holds the first `n` padded bytes, shifted to the top of the word -/
theorem get64Bits_fold {s : List Nat} (h : BytesOK s) : ∀ n, n ≤ 8 →
    (List.range n).foldl (fun acc j => add64 acc (shl64 (s.getD j 0) (56 - 8 * j))) 0
      = bitsVal (bitsBE (pad n s)) * 2 ^ (64 - 8 * n)
  | 0, _ => by simp [pad, bitsBE_nil, bitsVal]
  | n+1, hn => by
    have hv := bitsVal_lt (bitsBE (pad n s))
    rw [length_bitsBE, pad_length] at hv
    have hx := getD_lt h n
    rw [List.range_succ, List.foldl_append, get64Bits_fold h n (by omega), pad_succ, bitsBE_append,
      bitsVal_append, length_bitsBE, bitsBE_cons, bitsBE_nil, List.append_nil, bitsVal_byteBits hx]
    simp only [List.foldl_cons, List.foldl_nil, List.length_cons, List.length_nil]
    generalize bitsVal (bitsBE (pad n s)) = v at *
    generalize s.getD n 0 = x at *
    -- with `k` the new shift amount: `v·256·2^k + x·2^k = (v·256 + x)·2^k < 2^(8n+8)·2^k = 2^64`
    obtain ⟨k, hk⟩ : ∃ k, k = 56 - 8 * n := ⟨_, rfl⟩
    have e1 : 64 - 8 * n = 8 + k := by omega
    have e2 : 64 - 8 * (n + 1) = k := by omega
    have hlt : (v * 256 + x) * 2 ^ k < 2 ^ 64 := by
      have : v * 256 + x < 2 ^ (8 * n + 8) := by rw [Nat.pow_add]; omega
      calc _ < 2 ^ (8 * n + 8) * 2 ^ k := Nat.mul_lt_mul_of_pos_right this (Nat.two_pow_pos _)
        _ = 2 ^ 64 := by rw [← Nat.pow_add]; congr 1; omega
    have hx' : x * 2 ^ k < 2 ^ 64 := Nat.lt_of_le_of_lt (Nat.mul_le_mul_right _ (by omega)) hlt
    rw [e1, e2, ← hk, add64, shl64, if_pos (by omega), Nat.shiftLeft_eq, Nat.mod_eq_of_lt hx', Nat.pow_add,
      ← Nat.mul_assoc, ← Nat.add_mul, Nat.mod_eq_of_lt hlt]

theorem get64Bits_eq {s : List Nat} (h : BytesOK s) : get64Bits s = bitsVal (bitsBE (pad 8 s)) := by
  rw [get64Bits, get64Bits_fold h 8 (Nat.le_refl 8), Nat.mul_one]

theorem lz_chunks {a b : List Nat} (ha : BytesOK a) (hb : BytesOK b) :
    lz (get64Bits a ^^^ get64Bits b) 64 = lcp (bitsBE (pad 8 a)) (bitsBE (pad 8 b)) := by
  have h1 : (bitsBE (pad 8 a)).length = 64 := by rw [length_bitsBE, pad_length]
  have h2 : (bitsBE (pad 8 b)).length = 64 := by rw [length_bitsBE, pad_length]
  have := lz_xor (bitsBE (pad 8 a)) (bitsBE (pad 8 b)) (by rw [h1, h2])
  rw [h1] at this
  rw [get64Bits_eq ha, get64Bits_eq hb, this]

/-- comparing zero-padded chunks: clipped to the shorter key it is the true bit lcp, capped at the chunk size -/
theorem pad_lcp : ∀ (n : Nat) (a b : List Nat), BytesOK a → BytesOK b →
    min (lcp (bitsBE (pad n a)) (bitsBE (pad n b))) (8 * min a.length b.length) =
      min (lcp (bitsBE a) (bitsBE b)) (8 * n)
  | 0, a, b, _, _ => by simp [pad, bitsBE_nil, lcp_nil_left]
  | n+1, [], b, _, _ => by simp [bitsBE_nil, lcp_nil_left]
  | n+1, _ :: _, [], _, _ => by simp [bitsBE_nil, lcp_nil_right]
  | n+1, x :: a, y :: b, hxa, hyb => by
    obtain ⟨hx, ha⟩ := bytesOK_cons.1 hxa
    obtain ⟨hy, hb⟩ := bytesOK_cons.1 hyb
    simp only [pad, List.length_cons]
    by_cases e : x = y
    · subst e
      rw [lcp_bits_cons_eq, lcp_bits_cons_eq, Nat.add_min_add_right, Nat.mul_add, Nat.mul_add, Nat.mul_one,
        Nat.add_comm _ 8, Nat.add_comm _ 8, Nat.add_min_add_left, Nat.add_min_add_left, pad_lcp n a b ha hb]
    · have h1 := lcp_bits_cons_ne hx hy e (pad n a) (pad n b)
      have h2 := lcp_bits_cons_ne hx hy e a b
      rw [h1.1, h2.1, Nat.min_eq_left (by omega), Nat.min_eq_left (by omega)]

theorem lcp_bits_take_drop {a b : List Nat} {i : Nat} (h : a.take i = b.take i) (hia : i ≤ a.length) :
    lcp (bitsBE a) (bitsBE b) = 8 * i + lcp (bitsBE (a.drop i)) (bitsBE (b.drop i)) := by
  have e1 : bitsBE a = bitsBE (a.take i) ++ bitsBE (a.drop i) := by rw [← bitsBE_append, List.take_append_drop]
  have e2 : bitsBE b = bitsBE (a.take i) ++ bitsBE (b.drop i) := by rw [h, ← bitsBE_append, List.take_append_drop]
  rw [e1, e2, lcp_append_left, length_bitsBE, List.length_take, Nat.min_eq_left hia]

theorem take_eq_of_le_lcp_bits : ∀ (i : Nat) (a b : List Nat), BytesOK a → BytesOK b →
    8 * i ≤ lcp (bitsBE a) (bitsBE b) → a.take i = b.take i
  | 0, _, _, _, _, _ => by simp
  | i+1, [], b, _, _, h => by simp [bitsBE_nil, lcp_nil_left] at h
  | i+1, _ :: _, [], _, _, h => by simp [bitsBE_nil, lcp_nil_right] at h
  | i+1, x :: a, y :: b, hxa, hyb, h => by
    obtain ⟨hx, ha⟩ := bytesOK_cons.1 hxa
    obtain ⟨hy, hb⟩ := bytesOK_cons.1 hyb
    by_cases e : x = y
    · subst e
      rw [lcp_bits_cons_eq] at h
      simp only [List.take_succ_cons, List.cons.injEq, true_and]
      exact take_eq_of_le_lcp_bits i a b ha hb (by omega)
    · have h2 := lcp_bits_cons_ne hx hy e a b
      omega

theorem sFirstDiffLoop_done (a b : List Nat) (minl : Nat) : ∀ (fuel i : Nat),
    ¬ (i < a.length ∧ i < b.length) → sFirstDiffLoop a b minl fuel i = minl
  | 0, _, _ => rfl
  | fuel+1, i, h => by simp only [sFirstDiffLoop, h, if_false]

/-- what comparing one 8-byte chunk tells: `c` is the bit lcp of the zero-padded chunks, `F` that of the rest of
    the keys, `m` the bit length of the shorter rest (`hp` is `pad_lcp`) -/
theorem chunk_cases {c F m : Nat} (hp : min c m = min F 64) (hc : c ≤ 64) (hF : F ≤ m) :
    (c < 64 → min c m = F) ∧ (¬ c < 64 → 64 ≤ m → 64 ≤ F) ∧ (¬ c < 64 → m < 64 → F = m) := by
  omega

theorem sFirstDiffLoop_spec {a b : List Nat} (ha : BytesOK a) (hb : BytesOK b) : ∀ (fuel i : Nat),
    a.take i = b.take i → i ≤ a.length → i ≤ b.length → a.length < i + 8 * fuel →
    sFirstDiffLoop a b (min (a.length * 8) (b.length * 8)) fuel i = lcp (bitsBE a) (bitsBE b)
  | 0, i, _, h1, _, h3 => by omega
  | fuel+1, i, ht, h1, h2, h3 => by
    have hm : min (a.length * 8) (b.length * 8) = 8 * i + 8 * min (a.length - i) (b.length - i) := by omega
    rw [lcp_bits_take_drop ht h1, hm]
    have hFm : lcp (bitsBE (a.drop i)) (bitsBE (b.drop i)) ≤ 8 * min (a.length - i) (b.length - i) := by
      have hle1 := lcp_le_left (bitsBE (a.drop i)) (bitsBE (b.drop i))
      have hle2 := lcp_le_right (bitsBE (a.drop i)) (bitsBE (b.drop i))
      rw [length_bitsBE, List.length_drop] at hle1 hle2
      omega
    have hp := pad_lcp 8 (a.drop i) (b.drop i) (bytesOK_drop ha i) (bytesOK_drop hb i)
    rw [List.length_drop, List.length_drop] at hp
    have hc64 := lcp_le_left (bitsBE (pad 8 (a.drop i))) (bitsBE (pad 8 (b.drop i)))
    rw [length_bitsBE, pad_length] at hc64
    obtain ⟨k1, k2, k3⟩ := chunk_cases hp hc64 hFm
    -- `hp` carries four `min`s that every later `omega` would split on
    clear hp
    by_cases hc : i < a.length ∧ i < b.length
    · simp only [sFirstDiffLoop, hc, and_self, if_true, lz_chunks (bytesOK_drop ha i) (bytesOK_drop hb i)]
      generalize lcp (bitsBE (pad 8 (a.drop i))) (bitsBE (pad 8 (b.drop i))) = c at *
      by_cases hc' : c < 64
      · simp only [hc', if_true, ← k1 hc']
        clear k1 k2 k3 hFm hm
        split <;> omega
      · simp only [hc', if_false]
        clear k1 hFm
        by_cases hn : i + 8 ≤ a.length ∧ i + 8 ≤ b.length
        · have hF64 := k2 hc' (by clear k2 k3; omega)
          clear k2 k3
          have ht' : a.take (i + 8) = b.take (i + 8) :=
            take_eq_of_le_lcp_bits (i + 8) a b ha hb (by rw [lcp_bits_take_drop ht h1]; omega)
          rw [← hm, ← lcp_bits_take_drop ht h1]
          exact sFirstDiffLoop_spec ha hb fuel (i + 8) ht' hn.1 hn.2 (by omega)
        · have hFm' := k3 hc' (by clear k2 k3; omega)
          clear k2 k3
          rw [sFirstDiffLoop_done a b _ fuel (i + 8) (by omega), hFm']
    · rw [sFirstDiffLoop_done a b _ (fuel + 1) i hc]
      clear k1 k2 k3 hm
      omega

theorem sFirstDiffBit_eq {a b : List Nat} (ha : BytesOK a) (hb : BytesOK b) :
    sFirstDiffBit a b = fdSpec a b := by
  simp only [sFirstDiffBit, fdSpec]
  exact sFirstDiffLoop_spec ha hb (a.length / 8 + 1) 0 (by simp) (by omega) (by omega) (by omega)

theorem zipWith_congr_mem {α β γ} {f g : α → β → γ} : ∀ (l1 : List α) (l2 : List β),
    (∀ a ∈ l1, ∀ b ∈ l2, f a b = g a b) → List.zipWith f l1 l2 = List.zipWith g l1 l2
  | [], _, _ => by simp
  | _ :: _, [], _ => by simp
  | a :: l1, b :: l2, h => by
    simp only [List.zipWith_cons_cons]
    rw [h a (by simp) b (by simp), zipWith_congr_mem l1 l2 (fun a ha b hb => h a (by simp [ha]) b (by simp [hb]))]

theorem firstDiffBits_eq {keys : List (List Nat)} (hne : keys ≠ []) (hok : ∀ k ∈ keys, BytesOK k) :
    firstDiffBits keys = some (List.zipWith fdSpec keys keys.tail) := by
  cases keys with
  | nil => exact absurd rfl hne
  | cons k ks =>
    simp only [firstDiffBits, List.tail_cons, Option.some.injEq]
    apply zipWith_congr_mem
    intro a ha b hb
    exact sFirstDiffBit_eq (hok a ha) (hok b (by simp [hb]))

theorem foldl_min_spec : ∀ (fds : List Nat) (m0 : Nat),
    fds.foldl (fun mn d => if mn > d then d else mn) m0 ≤ m0 ∧
    (∀ d ∈ fds, fds.foldl (fun mn d => if mn > d then d else mn) m0 ≤ d) ∧
    (fds.foldl (fun mn d => if mn > d then d else mn) m0 = m0 ∨
      fds.foldl (fun mn d => if mn > d then d else mn) m0 ∈ fds)
  | [], m0 => by simp
  | d :: fds, m0 => by
    obtain ⟨h1, h2, h3⟩ := foldl_min_spec fds (if m0 > d then d else m0)
    simp only [List.foldl_cons]
    generalize List.foldl (fun mn d => if mn > d then d else mn) (if m0 > d then d else m0) fds = r at *
    refine ⟨by split at h1 <;> omega, ?_, ?_⟩
    · intro x hx
      rcases List.mem_cons.1 hx with e | hx
      · subst e; split at h1 <;> omega
      · exact h2 x hx
    · rcases h3 with h3 | h3
      · by_cases c : m0 > d
        · rw [if_pos c] at h3; right; simp [h3]
        · rw [if_neg c] at h3; left; exact h3
      · right; simp [h3]

end Low.C16L
