import LowModel.GoSem8
/-
  Lemmas about the vocabulary `GoSem8` (the contract checks of the `-tags debug` build) shared by the ties of
  generation 8.  `chk b` is "the contract `b` holds, else panic": the right-hand side of every contract tie.
-/
namespace Low.Tie8L
open Low.GoSem8

/-- a contract as a computation: `some ()` when it holds, `none` (panic) when it does not -/
def chk (b : Bool) : Option Unit := if b = true then some () else none

@[simp] theorem chk_true : chk true = some () := rfl
@[simp] theorem chk_false : chk false = none := rfl

theorem chk_eq_some {b : Bool} : chk b = some () ↔ b = true := by cases b <;> simp
theorem chk_eq_none {b : Bool} : chk b = none ↔ b = false := by cases b <;> simp

theorem chk_bind (a : Bool) (k : Unit → Option Unit) (b : Bool) (hk : k () = chk b) :
    (chk a).bind k = chk (a && b) := by
  cases a <;> simp [hk]

theorem chk_bind' {a a' b : Bool} {k : Unit → Option Unit} (ha : a = a') (hk : k () = chk b) :
    (chk a).bind k = chk (a' && b) := by
  subst ha; exact chk_bind a k b hk

theorem chk_bind_some (a : Bool) : ((chk a).bind fun _ => some ()) = chk a := by cases a <;> simp

/-- a contract followed by a computation: the pattern of the `…Debug` model functions -/
theorem chk_bind_val {α : Type} (a : Bool) (v : α) : ((chk a).bind fun _ => some v) = if a = true then some v else none := by
  cases a <;> simp

theorem mustTrue_eq (c : Bool) : mustTrue c = chk c := rfl

theorem mustFalse_eq (c : Bool) : mustFalse c = chk (!c) := by cases c <;> rfl

theorem mustEqual_int32 (a b : Int) : mustEqual (.int32 a) (.int32 b) = chk (decide (a = b)) := by
  simp only [mustEqual, chk, Iface.int32.injEq, decide_eq_true_eq]

theorem mustEqual_int (a b : Int) : mustEqual (.int a) (.int b) = chk (decide (a = b)) := by
  simp only [mustEqual, chk, Iface.int.injEq, decide_eq_true_eq]

theorem mustEqual_uint32 (a b : Nat) : mustEqual (.uint32 a) (.uint32 b) = chk (decide (a = b)) := by
  simp only [mustEqual, chk, Iface.uint32.injEq, decide_eq_true_eq]

theorem mustEqual_uint64 (a b : Nat) : mustEqual (.uint64 a) (.uint64 b) = chk (decide (a = b)) := by
  simp only [mustEqual, chk, Iface.uint64.injEq, decide_eq_true_eq]

theorem mustNotEqual_int32 (a b : Int) : mustNotEqual (.int32 a) (.int32 b) = chk (decide (a ≠ b)) := by
  simp only [mustNotEqual, chk, Iface.int32.injEq, ne_eq, decide_not, Bool.not_eq_eq_eq_not, Bool.not_true,
    decide_eq_false_iff_not]
  by_cases h : a = b <;> simp [h]

/-- the contracts are written `Equal(expected, got)`, the model compares `got == expected` -/
theorem chk_decide_eq_comm {α : Type} [DecidableEq α] (a b : α) : chk (decide (a = b)) = chk (b == a) :=
  congrArg chk (Bool.eq_iff_iff.mpr (by rw [decide_eq_true_eq, beq_iff_eq]; exact eq_comm))

-- the dynamic type matters: an `int64` never equals an `int`, whatever the values
example : mustEqual (.int64 1) (.int 1) = none := by decide +kernel
example : mustNotEqual (.int64 1) (.int 1) = some () := by decide +kernel
example : mustEqual (.int32 1) (.int32 1) = some () := by decide +kernel

end Low.Tie8L
