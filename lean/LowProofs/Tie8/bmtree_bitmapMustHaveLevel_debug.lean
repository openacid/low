import Generated.Ssa8.bmtree_bitmapMustHaveLevel_debug
import LowProofs.Tie8.Lemmas
import LowProofs.Tie.Lemmas
import LowModel.Bmtree.Index
/-
  Tie: the definition regenerated from the SSA form of `bmtree.bitmapMustHaveLevel` in the `-tags debug` build
  (`must.Be.Equal(int32(1), (bitmapSize>>uint(l))&1, "level[pathlen] must be stored by bitmap")`) equals the model
  contract `bitmapMustHaveLevel`.  The message argument is not translated (it only builds the panic message).
-/
namespace Low
open Low.TieL Low.Tie8L

/-- Domain: `bitmapSize` a non-negative `int32` given as `t : Nat` (the equation needs no bound on `t`), `l` a
    non-negative level (`l < 2^63`, so that `uint(l)` is `l`; the callers pass `PathLen(path) ≤ 32`).  A shift count
    `≥ 32` gives `0` on both sides. -/
theorem Tie_bmtree_bitmapMustHaveLevel_debug (t l : Nat) (hl : l < 2^63) :
    Gen.Ssa8.bmtree_bitmapMustHaveLevel_debug (t : Int) (l : Int) = chk (bitmapMustHaveLevel t l) := by
  rw [Gen.Ssa8.bmtree_bitmapMustHaveLevel_debug, bitmapMustHaveLevel]
  simp only [toU64_ofNat_lt (show l < 18446744073709551616 by omega), shrI32_ofNat, andI32_1, mustEqual_int32,
    chk_bind_some, chk_decide_eq_comm]
  congr 1
  exact Bool.eq_iff_iff.mpr (by simp only [beq_iff_eq]; exact Int.natCast_inj)

example : Gen.Ssa8.bmtree_bitmapMustHaveLevel_debug 0x72 4 = some () := by decide +kernel
example : bitmapMustHaveLevel 0x72 4 = true := by decide +kernel
example : Gen.Ssa8.bmtree_bitmapMustHaveLevel_debug 0x72 3 = none := by decide +kernel
example : bitmapMustHaveLevel 0x72 3 = false := by decide +kernel
example : Gen.Ssa8.bmtree_bitmapMustHaveLevel_debug 0x72 40 = none := by decide +kernel

end Low
