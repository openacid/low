import Generated.Ssa8.bmtree_Decode_debug
import LowProofs.Tie8.bmtree_PathToIndex_debug
import LowProofs.Tie8.bmtree_AllPaths_debug
import LowProofs.Tie.BmtreeDecode
import LowModel.Bmtree.Index
/-
  Tie: the definition regenerated from the SSA form of `bmtree.Decode` in the `-tags debug` build equals the model
  `decode` (there is no separate debug model of `Decode`: the function itself contains no contract; in the debug
  build every `PathToIndex` call it makes runs the four contracts first).  The tie applies `TieBm.decode_body`
  (`LowProofs/Tie/BmtreeDecode.lean`), as the release tie does; the calls are replaced by the ties
  `Tie_bmtree_AllPaths_debug'` and `Tie_bmtree_PathToIndex_debug`, which gives `pathToIndexDebug t p` for every path
  `p` the loop visits.

  That NO CONTRACT FIRES on these calls is the property clause `C04_decode_debug_safe` (`LowProofs/Props/C04`):
  every `p ∈ allPaths t 0 (2^63)` is the path word of a stored node, so `pathToIndexDebug t p = some (pathToIndex t p)`;
  it enters through `TieBm.paths_facts`, next to the facts the release tie takes from C03 / C04 as well (`p < 2^63`,
  `pathToIndex t p = preIdx ≥ 0`, `t` paths).  A change of a contract, of the order "contracts first", or of
  `PathToIndex` itself breaks `Tie_bmtree_PathToIndex_debug`, which this file imports.
-/
namespace Low
open Low.GoSem Low.TieBm

/-- Domain:
    * `1 ≤ t < 2^31`: `bitmapSize` a positive `int32` (the domain of `AllPaths`, which panics for `bitmapSize = 0`,
      in the debug build as in the release build: `AllPaths` has no contract);
    * `bm.length < 2^31`: `int32(len(bm))` is `len(bm)`; beyond that the Go conversion wraps while the model compares
      the exact length.  No hypothesis on the words of `bm`, nor on its length relative to `t` (a short, even empty,
      bitmap reads as zeros: the guard `int32(len(bm)) > wordI`).
    Fuel: every `fuel ≥ t + 32`: `AllPaths` needs `2^height + 32 ≤ t + 32`, the `range` loop visits the
    `len(paths) = t` stored paths (`t + 1`), every `PathToIndex` call needs `33`.
    `bm[wordI]` with a NEGATIVE `wordI` would panic in Go (the guard is only `int32(len(bm)) > wordI`) where the
    model's conjunct `wordI ≥ 0 &&` says "skip": this difference is not reachable, because every path that `AllPaths`
    produces on this domain is the path word of a stored node and its index is `preIdx ≥ 0` (C03, C04); no extra
    hypothesis is needed.  On this domain the debug build of the Go function neither panics — in particular no
    contract of the `PathToIndex` calls fires (`C04_decode_debug_safe`) — nor diverges, and returns what the release
    build returns. -/
theorem Tie_bmtree_Decode_debug (t : Nat) (bm : List Nat) (fuel : Nat) (ht : 1 ≤ t) (ht' : t < 2^31)
    (hbm : bm.length < 2^31) (hfuel : t + 32 ≤ fuel) :
    Gen.Ssa8.bmtree_Decode_debug fuel (t : Int) bm = some (decode t bm) := by
  obtain ⟨h, hh, _, hlo, _⟩ := height_nat30 ht ht'
  rw [Gen.Ssa8.bmtree_Decode_debug, show (9223372036854775808 : Nat) = 2^63 by decide]
  exact decode_body t bm fuel (Gen.Ssa8.bmtree_AllPaths_debug fuel (t : Int) 0 (2^63)) (Gen.Ssa8.bmtree_PathToIndex_debug fuel (t : Int)) (fun paths => Gen.Ssa8.bmtree_Decode_debug_loop1 fuel (t : Int) bm paths (len paths))
    ht ht' hbm (by omega)
    (Tie_bmtree_AllPaths_debug' t 0 (2^63) fuel ht ht' (by decide) (by decide) (by rw [hh, Int.toNat_natCast]; omega))
    (fun _ _ _ _ => rfl) (fun p hp64 hdbg => (Tie_bmtree_PathToIndex_debug t p fuel ht' hp64 (by omega)).trans hdbg)

private theorem run1 : Gen.Ssa8.bmtree_Decode_debug 40 5 [0b10101] = some [0, 0x100000003, 0x300000003] := by decide +kernel
example : Gen.Ssa8.bmtree_Decode_debug 40 5 [0b10101] = some [0, 0x100000003, 0x300000003] := run1
example : decode 5 [0b10101] = [0, 0x100000003, 0x300000003] :=
  Option.some.inj ((Tie_bmtree_Decode_debug 5 [0b10101] 40 (by decide +kernel) (by decide +kernel) (by decide +kernel) (by decide +kernel)).symm.trans run1)
-- an empty bitmap reads as zeros; garbage beyond bit `t` is never consulted
example : Gen.Ssa8.bmtree_Decode_debug 40 5 [] = some [] := by decide +kernel
example : Gen.Ssa8.bmtree_Decode_debug 40 5 [0xffffffffffffffe0 + 0b10101, 0xffff] = some [0, 0x100000003, 0x300000003] := by
  decide +kernel
-- out of fuel
example : Gen.Ssa8.bmtree_Decode_debug 4 5 [0b10101] = none := by decide +kernel
-- `bitmapSize = 0` panics (inside `AllPaths`)
example : Gen.Ssa8.bmtree_Decode_debug 40 0 [0b10101] = none := by decide +kernel

end Low
