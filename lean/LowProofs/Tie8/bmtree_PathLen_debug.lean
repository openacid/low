import Generated.Ssa8.bmtree_PathLen_debug
import LowProofs.Tie.Bmtree
import LowModel.Bmtree.Path
/-
  Tie: the definition regenerated from the SSA form of `bmtree.PathLen` in the `-tags debug` build equals the hand-written
  model.  The function contains no contract check, so its debug build has the same SSA form as its release build and
  the tie is the same lemma about that body (`TieBm.pathLen_body`); it is tied separately so that nothing under Tie8 rests
  on a definition regenerated from the RELEASE build.
-/
namespace Low

/-- Domain: every `p` (the equation does not even need `p < 2^64`).  Total: no panic. -/
theorem Tie_bmtree_PathLen_debug (p : Nat) : Gen.Ssa8.bmtree_PathLen_debug p = ((pathLen p : Nat) : Int) :=
  TieBm.pathLen_body p

example : Gen.Ssa8.bmtree_PathLen_debug 0x5_0000000e = 3 := by decide +kernel
example : pathLen 0x5_0000000e = 3 := by decide +kernel

end Low
