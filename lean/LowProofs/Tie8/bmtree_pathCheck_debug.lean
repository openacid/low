import Generated.Ssa8.bmtree_pathCheck_debug
import LowProofs.Tie8.Lemmas
import LowProofs.Tie.Lemmas
import LowModel.Bmtree.Index
/-
  Tie: the definition regenerated from the SSA form of `bmtree.pathCheck` in the `-tags debug` build (three
  `must.Be.Equal` checks, the last two skipped when the mask half of the path word is zero) equals the model contract
  `pathCheck`.
-/
namespace Low
open Low.GoSem Low.TieL Low.Tie8L

namespace Tie8PC

/-- `^x` on `uint32` is the low half of `^x` on `uint64` -/
theorem not64_mod (x : Nat) (hx : x < M32) : (not64 x) % M32 = (M32 - 1) ^^^ x := by
  have e64 : M64 - 1 = 2^64 - 1 := by decide
  have e32 : M32 - 1 = 2^32 - 1 := by decide
  have e : M32 = 2^32 := by decide
  rw [not64, e64, e]
  apply Nat.eq_of_testBit_eq; intro i
  rw [Nat.testBit_mod_two_pow, Nat.testBit_xor, Nat.testBit_xor, Nat.testBit_two_pow_sub_one,
    Nat.testBit_two_pow_sub_one]
  by_cases hi : i < 32
  · have : i < 64 := by omega
    simp [hi, this]
  · have : x.testBit i = false := Nat.testBit_lt_two_pow (Nat.lt_of_lt_of_le (e ▸ hx) (Nat.pow_le_pow_right (by omega) (by omega)))
    simp [hi, this]

end Tie8PC
open Tie8PC

/-- Domain: `path < 2^64` (a `uint64`; used for `path - 1` without wrap-around when the mask half is non-zero, and
    for `uint32(path >> 32) = path >> 32`).  No other hypothesis: the tie covers accepted and rejected path words. -/
theorem Tie_bmtree_pathCheck_debug (path : Nat) (hp : path < 2^64) :
    Gen.Ssa8.bmtree_pathCheck_debug path = chk (pathCheck path) := by
  have hl : lz (path % M32) 32 ≤ 32 := lz_le _ _
  have hpc : popc ((path ||| (path - 1)) % M32) 32 ≤ 32 := popc_le _ _
  have hb : path >>> 32 < M32 := by rw [Nat.shiftRight_eq_div_pow]; simp only [M32]; omega
  rw [Gen.Ssa8.bmtree_pathCheck_debug]
  simp only [toU32, u32_ofNat, andU64_eq, mustEqual_uint64, shrU64_lt path (show 32 < 64 by omega),
    Nat.mod_eq_of_lt hb, orU64_eq, leadingZeros32, onesCount32, notU32, andU32, chk_decide_eq_comm]
  refine chk_bind _ _ _ ?_
  by_cases h0 : path % M32 = 0
  · simp only [h0, decide_true, ↓reduceIte, chk_true]
  · have hne : path ≠ 0 := by intro h; rw [h] at h0; exact h0 rfl
    have hs : subU64 path 1 = path - 1 := by rw [subU64, sub64]; simp only [M64]; omega
    simp only [h0, decide_false, Bool.false_eq_true, ↓reduceIte, hs, mustEqual_int, mustEqual_uint32,
      chk_decide_eq_comm]
    generalize lz (path % M32) 32 = l at hl
    rw [subI64, wrap64_id (by omega) (by omega), ← not64_mod _ (Nat.mod_lt _ (by decide)), chk_bind_some]
    refine chk_bind' ?_ rfl
    rw [show ((32 : Int) - (l : Int)) = ((32 - l : Nat) : Int) by omega]
    exact Bool.eq_iff_iff.mpr (by simp only [beq_iff_eq, Int.natCast_inj]; exact eq_comm)

example : Gen.Ssa8.bmtree_pathCheck_debug 0xa_0000000e = some () := by decide +kernel
example : pathCheck 0xa_0000000e = true := by decide +kernel
-- the empty path
example : Gen.Ssa8.bmtree_pathCheck_debug 0 = some () := by decide +kernel
-- a mask that is not a run of ones; path bits outside the mask; more than 30 bits
example : Gen.Ssa8.bmtree_pathCheck_debug 0x0_0000000a = none := by decide +kernel
example : Gen.Ssa8.bmtree_pathCheck_debug 0x1_0000000e = none := by decide +kernel
example : Gen.Ssa8.bmtree_pathCheck_debug 0x0_40000000 = none := by decide +kernel
example : pathCheck 0x1_0000000e = false := by decide +kernel

end Low
