import Generated.Ssa8.bmtree_PathToIndexLoose_debug
import LowProofs.Tie8.bmtree_PathToIndex_debug
/-
  Tie: the definition regenerated from the SSA form of `bmtree.PathToIndexLoose` in the `-tags debug` build equals the
  model's `pathToIndexLooseDebug`: the closure handed to `must.Be.OK` (`bmtree_PathToIndexLoose_debug_fn1`:
  `bitmapSizeCheck`, `pathCheck`, `bitmapPathMustHaveEqualHeight`) is called first, then the function computes as in
  the release build.  Helper lemmas: `Low.TieBm` (`LowProofs/Tie/Bmtree.lean`).
-/
namespace Low
open Low.GoSem Low.TieL Low.Tie8L Low.TieBm

/-- the closure of `PathToIndexLoose` (the argument of `must.Be.OK`) is the model's `contractsLoose` -/
theorem PathToIndexLoose_debug_fn1 (t path : Nat) (ht' : t < 2^31) (hp : path < 2^64) :
    Gen.Ssa8.bmtree_PathToIndexLoose_debug_fn1 (t : Int) path = chk (contractsLoose t path) := by
  rw [Gen.Ssa8.bmtree_PathToIndexLoose_debug_fn1, contractsLoose]
  simp only [Tie_bmtree_bitmapSizeCheck_debug t ht', Tie_bmtree_pathCheck_debug path hp,
    Tie_bmtree_bitmapPathMustHaveEqualHeight_debug t path ht' hp, Bool.and_assoc]
  apply chk_bind
  apply chk_bind
  rw [chk_bind_some]

/-- Domain: `t < 2^31` (a non-negative `int32`, `t = 0` included: rejected by `bitmapSizeCheck` on both sides) and
    `path < 2^64` (needed by the tie of `pathCheck`; the release tie needs no bound on `path`).  NO contract is
    assumed.  The second component is `int32` on the Go side and `Nat` (0 or 1) in the model, hence the cast.
    Fuel: every `fuel ≥ 32`, as for the release build. -/
theorem Tie_bmtree_PathToIndexLoose_debug (t path fuel : Nat) (ht' : t < 2^31) (hp : path < 2^64)
    (hfuel : 32 ≤ fuel) :
    Gen.Ssa8.bmtree_PathToIndexLoose_debug fuel (t : Int) path
      = (pathToIndexLooseDebug t path).map fun r => (r.1, (r.2 : Int)) := by
  rw [Gen.Ssa8.bmtree_PathToIndexLoose_debug, pathToIndexLooseDebug]
  simp only [PathToIndexLoose_debug_fn1 t path ht' hp]
  cases hc : contractsLoose t path with
  | false => simp only [chk_false, Option.bind_none, Bool.false_eq_true, ↓reduceIte, Option.map_none]
  | true =>
    have ht : 1 ≤ t := by
      simp only [contractsLoose, Bool.and_eq_true] at hc
      exact pos_of_sizeCheck hc.1.1
    obtain ⟨h, hh, hh31⟩ := height_nat ht ht'
    have hpl : pathLen path ≤ 32 := popc_le _ _
    have e14 : andI32 (shrI32 (t : Int) (pathLen path)) 1 = (((t >>> pathLen path) % 2 : Nat) : Int) := by
      rw [shrI32_ofNat, andI32_1]; omega
    have h := indexCode_eq (fun x => (x, (((t >>> pathLen path) % 2 : Nat) : Int))) true t path ht ht'
      (Gen.Ssa8.bmtree_shiftMulti_debug fuel (shrU64 path 32) t (toU64 (height t))) (by
        rw [shrU64_lt path (show 32 < 64 by omega), hh, Int.toNat_natCast,
          toU64_ofNat_lt (show h < 18446744073709551616 by omega),
          Tie_bmtree_shiftMulti_debug_bits (path >>> 32) t h fuel 31 ht' (by omega) hfuel, if_pos rfl])
    simp only [chk_true, Option.bind_some, ↓reduceIte, Option.map_some, Tie_bmtree_Height_debug,
      Tie_bmtree_PathLen_debug, toU64_ofNat_lt (show t < 18446744073709551616 by omega),
      toU64_ofNat_lt (show pathLen path < 18446744073709551616 by omega), e14]
    exact h

-- level 3 is not stored: the loose variant accepts the path and reports 0; level 4 is stored
example : Gen.Ssa8.bmtree_PathToIndexLoose_debug 32 0x72 0x28_00000038 = some (72, 0) := by decide +kernel
example : pathToIndexLooseDebug 0x72 0x28_00000038 = some (72, 0) := by decide +kernel
example : Gen.Ssa8.bmtree_PathToIndexLoose_debug 32 0x72 0x28_0000003c = some (72, 1) := by decide +kernel
-- contracts: `bitmapSize = 0`; a path of another height; path bits outside the mask
example : Gen.Ssa8.bmtree_PathToIndexLoose_debug 32 0 0x28_0000003c = none := by decide +kernel
example : Gen.Ssa8.bmtree_PathToIndexLoose_debug 32 0x72 0x5_00000007 = none := by decide +kernel
example : Gen.Ssa8.bmtree_PathToIndexLoose_debug 32 0x72 0x29_00000038 = none := by decide +kernel
example : pathToIndexLooseDebug 0x72 0x29_00000038 = none := by decide +kernel

end Low
