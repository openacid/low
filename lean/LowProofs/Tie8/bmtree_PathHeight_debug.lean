import Generated.Ssa8.bmtree_PathHeight_debug
import LowProofs.Tie.Bmtree
import LowModel.Bmtree.Path
/-
  Tie: the definition regenerated from the SSA form of `bmtree.PathHeight` in the `-tags debug` build equals the hand-written
  model.  The function contains no contract check, so its debug build has the same SSA form as its release build and
  the tie is the same lemma about that body (`TieBm.pathHeight_body`); it is tied separately so that nothing under Tie8 rests
  on a definition regenerated from the RELEASE build.
-/
namespace Low

/-- Domain: every `path` (the equation does not even need `path < 2^64`).  Total: no panic. -/
theorem Tie_bmtree_PathHeight_debug (p : Nat) : Gen.Ssa8.bmtree_PathHeight_debug p = ((pathHeight p : Nat) : Int) :=
  TieBm.pathHeight_body p

example : Gen.Ssa8.bmtree_PathHeight_debug 0x5_0000000e = 4 := by decide +kernel
example : pathHeight 0x5_0000000e = 4 := by decide +kernel

end Low
