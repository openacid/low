import Generated.Ssa8.bmtree_PathToIndex_debug
import LowProofs.Tie8.bmtree_PathLen_debug
import LowProofs.Tie8.bmtree_shiftMulti_debug
import LowProofs.Tie8.bmtree_bitmapMustHaveLevel_debug
import LowProofs.Tie8.bmtree_bitmapPathMustHaveEqualHeight_debug
import LowModel.Bmtree.Index
/-
  Tie: the definition regenerated from the SSA form of `bmtree.PathToIndex` in the `-tags debug` build equals the
  model's `pathToIndexDebug`: the closure handed to `must.Be.OK` is CALLED first (generated definition
  `bmtree_PathToIndex_debug_fn1`: `bitmapSizeCheck`, `pathCheck`, `bitmapPathMustHaveEqualHeight`,
  `bitmapMustHaveLevel(bitmapSize, PathLen(path))`, in this order, reading the captured parameters), then the function
  computes exactly as in the release build.  Helper lemmas: `Low.TieBm` (`LowProofs/Tie/Bmtree.lean`), shared with the
  release tie; nothing here rests on a definition regenerated from the release build.
-/
namespace Low
open Low.GoSem Low.TieL Low.Tie8L Low.TieBm

theorem pos_of_sizeCheck {t : Nat} (h : bitmapSizeCheck t = true) : 1 ≤ t := by
  simp only [bitmapSizeCheck, Bool.and_eq_true, decide_eq_true_eq] at h
  have := h.2
  omega

/-- the closure of `PathToIndex` (the argument of `must.Be.OK`) is the model's `contractsStrict` -/
theorem PathToIndex_debug_fn1 (t path : Nat) (ht' : t < 2^31) (hp : path < 2^64) :
    Gen.Ssa8.bmtree_PathToIndex_debug_fn1 (t : Int) path = chk (contractsStrict t path) := by
  have hpl : pathLen path ≤ 32 := popc_le _ _
  rw [Gen.Ssa8.bmtree_PathToIndex_debug_fn1, contractsStrict, contractsLoose]
  simp only [Tie_bmtree_bitmapSizeCheck_debug t ht', Tie_bmtree_pathCheck_debug path hp,
    Tie_bmtree_bitmapPathMustHaveEqualHeight_debug t path ht' hp, Tie_bmtree_PathLen_debug,
    Tie_bmtree_bitmapMustHaveLevel_debug t (pathLen path) (by omega), Bool.and_assoc]
  apply chk_bind
  apply chk_bind
  apply chk_bind
  rw [chk_bind_some]

/-- Domain:
    * `t < 2^31`: `bitmapSize` is a NON-NEGATIVE `int32`; `t = 0` is INCLUDED, differently from the release tie
      (`Tie_bmtree_PathToIndex` needs `1 ≤ t` because the release build panics on `MaskUpto[-1]` where the total model
      returns a number): in the debug build `bitmapSizeCheck` rejects `0` first, and the model's `pathToIndexDebug`
      is `none` as well;
    * `path < 2^64`: a `uint64`.
    NO contract is assumed: on arguments that violate a contract both sides are `none` (panic), on the others both
    are `some` of the release value.
    Fuel: every `fuel ≥ 33`, as for the release build (`shiftMulti` on `b = path >> 32 < 2^32`). -/
theorem Tie_bmtree_PathToIndex_debug (t path fuel : Nat) (ht' : t < 2^31) (hp : path < 2^64)
    (hfuel : 33 ≤ fuel) :
    Gen.Ssa8.bmtree_PathToIndex_debug fuel (t : Int) path = pathToIndexDebug t path := by
  rw [Gen.Ssa8.bmtree_PathToIndex_debug, pathToIndexDebug]
  simp only [PathToIndex_debug_fn1 t path ht' hp]
  cases hc : contractsStrict t path with
  | false => simp only [chk_false, Option.bind_none, Bool.false_eq_true, ↓reduceIte]
  | true =>
    have ht : 1 ≤ t := by
      simp only [contractsStrict, contractsLoose, Bool.and_eq_true] at hc
      exact pos_of_sizeCheck hc.1.1.1
    obtain ⟨h, hh, hh31⟩ := height_nat ht ht'
    have hb : path >>> 32 < 2^32 := by
      omega
    have h := indexCode_eq (fun x => x) false t path ht ht'
      (Gen.Ssa8.bmtree_shiftMulti_debug fuel t (shrU64 path 32) (toU64 (height t))) (by
        rw [shrU64_lt path (show 32 < 64 by omega), hh, Int.toNat_natCast,
          toU64_ofNat_lt (show h < 18446744073709551616 by omega),
          Tie_bmtree_shiftMulti_debug_bits t (path >>> 32) h fuel 32 hb (by omega) hfuel, if_neg Bool.false_ne_true])
    simp only [chk_true, Option.bind_some, ↓reduceIte, Tie_bmtree_Height_debug, Tie_bmtree_PathLen_debug,
      toU64_ofNat_lt (show t < 18446744073709551616 by omega)]
    exact h

-- bitmap 0b1110010 (levels 1, 4, 5, 6 of a tree of height 6), path "1010" of length 4: stored
example : Gen.Ssa8.bmtree_PathToIndex_debug 33 0x72 0x28_0000003c = some 72 := by decide +kernel
example : pathToIndexDebug 0x72 0x28_0000003c = some 72 := by decide +kernel
-- path "101" of length 3: level 3 is not stored — the release build computes a number, the debug build panics
example : Gen.Ssa8.bmtree_PathToIndex_debug 33 0x72 0x28_00000038 = none := by decide +kernel
example : pathToIndexDebug 0x72 0x28_00000038 = none := by decide +kernel
-- `bitmapSize = 0` and a path of another height: rejected by the contracts
example : Gen.Ssa8.bmtree_PathToIndex_debug 33 0 0x28_0000003c = none := by decide +kernel
example : Gen.Ssa8.bmtree_PathToIndex_debug 33 0x72 0x5_00000007 = none := by decide +kernel
-- out of fuel (32 one-bits in `path >> 32` would be needed to exhaust 32; such a path violates a contract first)
example : Gen.Ssa8.bmtree_PathToIndex_debug 2 0x75 0x3f_0000003f = none := by decide +kernel

end Low
