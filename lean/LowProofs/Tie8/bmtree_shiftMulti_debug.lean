import Generated.Ssa8.bmtree_shiftMulti_debug
import LowProofs.Tie.Bmtree
import LowModel.Bmtree.Index
/-
  Tie: the definition regenerated from the SSA form of `bmtree.shiftMulti` in the `-tags debug` build equals the
  hand-written model `shiftMulti`.  The function contains no contract check, so its debug build has the same SSA form
  as its release build: the loop of either is an instance of `TieBm.shiftMulti_loop` (see there for the termination
  argument).  It is tied separately so that nothing under Tie8 rests on a definition regenerated from the
  RELEASE build.
-/
namespace Low

/-- `b < 2^m` with `m ≤ 64` needs only `fuel ≥ m + 1` (at most `m` iterations — `b` at least halves in each one —
    plus the final test). -/
theorem Tie_bmtree_shiftMulti_debug_bits (a b shift fuel m : Nat) (hb : b < 2^m) (hm : m ≤ 64) (hfuel : m + 1 ≤ fuel) :
    Gen.Ssa8.bmtree_shiftMulti_debug fuel a b shift = some (shiftMulti a b shift) :=
  TieBm.shiftMulti_body a b shift fuel m (Gen.Ssa8.bmtree_shiftMulti_debug_loop3 fuel a b shift) (fun _ _ _ _ => rfl) hb hm hfuel

/-- Domain: `b < 2^64` (a `uint64`; it bounds the number of iterations: `b` at least halves in each one, and the
    model's own loop is cut off after 65 rounds).  `a` and `shift` are arbitrary (every operation on them is the
    same truncating `uint64` operation on both sides; in particular `shift - tz` may wrap and `a >> shift` may be
    `0`, identically in the model).
    Fuel: every `fuel ≥ 65` (at most 64 iterations plus the final test; 64 is not enough for `b = 2^64-1`, see the
    example below).  Total: the Go function cannot panic, and it terminates. -/
theorem Tie_bmtree_shiftMulti_debug (a b shift fuel : Nat) (hb : b < 2^64) (hfuel : 65 ≤ fuel) :
    Gen.Ssa8.bmtree_shiftMulti_debug fuel a b shift = some (shiftMulti a b shift) :=
  Tie_bmtree_shiftMulti_debug_bits a b shift fuel 64 hb (by omega) hfuel

example : Gen.Ssa8.bmtree_shiftMulti_debug 65 0b10110 0b1010 4 = some 13 := by decide +kernel
example : shiftMulti 0b10110 0b1010 4 = 13 := by decide +kernel
-- out of fuel
example : Gen.Ssa8.bmtree_shiftMulti_debug 2 0b10110 0b1010 4 = none := by decide +kernel
-- the bound 65 is sharp: 64 set bits need 64 iterations and the final test
example : Gen.Ssa8.bmtree_shiftMulti_debug 64 1 0xffffffffffffffff 0 = none := by decide +kernel

end Low
