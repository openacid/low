import Generated.Ssa8.bmtree_bitmapSizeCheck_debug
import LowProofs.Tie8.Lemmas
import LowProofs.Tie.Bmtree
import LowModel.Bmtree.Index
/-
  Tie: the definition regenerated from the SSA form of `bmtree.bitmapSizeCheck` in the `-tags debug` build
  (`must.Be.True(height <= 30)`, `must.Be.NotEqual(int32(0), bitmapSize)`) equals the model contract
  `bitmapSizeCheck`: it returns (`some ()`) exactly when the model's Boolean is `true` and panics (`none`) otherwise.
-/
namespace Low
open Low.GoSem Low.Tie8L

/-- Domain: `bitmapSize` any NON-NEGATIVE `int32` (`t < 2^31`, the model takes a `Nat`); `t = 0` is included (both
    sides reject it).  Total on the Go side: the only panics are the contract checks themselves. -/
theorem Tie_bmtree_bitmapSizeCheck_debug (t : Nat) (_ht' : t < 2^31) :
    Gen.Ssa8.bmtree_bitmapSizeCheck_debug (t : Int) = chk (bitmapSizeCheck t) := by
  rw [Gen.Ssa8.bmtree_bitmapSizeCheck_debug]
  simp only [TieBm.height_body, mustTrue_eq, mustNotEqual_int32]
  apply chk_bind
  rw [chk_bind_some]
  exact congrArg chk (Bool.eq_iff_iff.mpr (by simp only [decide_eq_true_eq]; omega))

/-- A NEGATIVE `int32` is rejected by the debug build (`Height` is 31): outside the model's domain (`Nat`), stated
    for completeness. -/
theorem Tie_bmtree_bitmapSizeCheck_debug_neg (x : Int) (h1 : -2^31 ≤ x) (h2 : x < 0) :
    Gen.Ssa8.bmtree_bitmapSizeCheck_debug x = none := by
  have hu : u32 x = (x + 4294967296).toNat := by
    unfold u32; simp only [M32]; omega
  have hb : (x + 4294967296).toNat.testBit 31 = true := by
    rw [Nat.testBit_eq_decide_div_mod_eq]; simp only [decide_eq_true_eq]; omega
  have hz : lz (x + 4294967296).toNat 32 = 0 := by
    simp only [lz, bitLen, hb, ↓reduceIte]
  rw [Gen.Ssa8.bmtree_bitmapSizeCheck_debug]
  simp only [toU32, hu, leadingZeros32, hz]
  rfl

example : Gen.Ssa8.bmtree_bitmapSizeCheck_debug 0x72 = some () := by decide +kernel
example : bitmapSizeCheck 0x72 = true := by decide +kernel
example : Gen.Ssa8.bmtree_bitmapSizeCheck_debug 0x7fffffff = some () := by decide +kernel
example : Gen.Ssa8.bmtree_bitmapSizeCheck_debug 0 = none := by decide +kernel
example : bitmapSizeCheck 0 = false := by decide +kernel
example : Gen.Ssa8.bmtree_bitmapSizeCheck_debug (-5) = none := by decide +kernel

end Low
