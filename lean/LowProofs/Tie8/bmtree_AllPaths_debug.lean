import Generated.Ssa8.bmtree_AllPaths_debug
import LowProofs.Tie8.bmtree_Height_debug
import LowModel.Bmtree.Index
/-
  Tie: the definition regenerated from the SSA form of `bmtree.AllPaths` in the `-tags debug` build (two NESTED loops that append to a slice
  the function allocates, with an early `return paths` inside the inner loop) equals the hand-written model
  `allPaths`.
  The function contains no contract check, so its debug build has the same SSA form as its release build; it is
  tied separately so that nothing under Tie8 rests on a definition regenerated from the RELEASE build.

  The generated inner loop `bmtree_AllPaths_debug_loop9` receives the outer loop's continuation `blk5` (`bmtree_AllPaths_debug_loop5 … gas`,
  i.e. "go on with `i + 1`"); the outer loop `bmtree_AllPaths_debug_loop5` walks `i` from `from >> 32` up to `min(to>>32 + 1, Bit[height])` and starts every instance
  of the inner loop with the full `fuel`.  The tie applies `TieBm.allPaths_body` (`LowProofs/Tie/Bmtree.lean`), whose
  loop lemmas `allPaths_inner`, `allPaths_outer` relate the code's list `L` (the code APPENDS) to the
  model's accumulator `acc` (the model conses and reverses at the end) by `L = acc.reverse`.
-/
namespace Low
open Low.TieBm

/-- Domain:
    * `1 ≤ t < 2^31`: `bitmapSize` a positive `int32` (for `bitmapSize = 0` `Height` is `-1` and `bitmap.Bit[-1]`
      panics; the model is documented for `1 ≤ bitmapSize`); the height `h` is then in `0..30`, so `Bit[h]`,
      `Mask[h]`, `Bit[h - tz]`, `Mask[tz]` are in range and `int32(Bit[h - tz])` is `2^(h-tz)`;
    * `frm`, `to` any `uint64` (the bounds `< 2^64` state the domain; the equation holds without them).
    Fuel: with `cnt = min (to>>32 + 1) 2^h - from>>32` (the number of values of `i` the outer loop visits) every
    `fuel ≥ cnt + 32`: the outer loop needs `cnt + 1`, every instance of the inner loop (which starts with the full
    `fuel`) at most `h + 2 ≤ 32`.
    On this domain the Go function neither panics nor diverges. -/
theorem Tie_bmtree_AllPaths_debug (t frm to fuel : Nat) (ht : 1 ≤ t) (ht' : t < 2^31) (_hfrm : frm < 2^64) (_hto : to < 2^64)
    (hfuel : (min (add64 (to >>> 32) 1) (2 ^ (height t).toNat) - frm >>> 32) + 32 ≤ fuel) :
    Gen.Ssa8.bmtree_AllPaths_debug fuel (t : Int) frm to = some (allPaths t frm to) := by
  rw [Gen.Ssa8.bmtree_AllPaths_debug, Tie_bmtree_Height_debug]
  exact allPaths_body fuel t frm to (Gen.Ssa8.bmtree_AllPaths_debug_loop9 fuel (t : Int) frm to) (Gen.Ssa8.bmtree_AllPaths_debug_loop5 fuel (t : Int) frm to)
    (fun _ _ _ _ _ _ => rfl) (fun _ _ _ _ _ => rfl) ht ht' hfuel

/-- The same with the simpler (weaker) fuel bound `2^height + 32`. -/
theorem Tie_bmtree_AllPaths_debug' (t frm to fuel : Nat) (ht : 1 ≤ t) (ht' : t < 2^31) (hfrm : frm < 2^64) (hto : to < 2^64)
    (hfuel : 2 ^ (height t).toNat + 32 ≤ fuel) :
    Gen.Ssa8.bmtree_AllPaths_debug fuel (t : Int) frm to = some (allPaths t frm to) :=
  Tie_bmtree_AllPaths_debug t frm to fuel ht ht' hfrm hto
    (by
      generalize 2 ^ (height t).toNat = P at hfuel ⊢
      have := Nat.min_le_right (add64 (to >>> 32) 1) P; omega)

private theorem run1 : Gen.Ssa8.bmtree_AllPaths_debug 40 5 0 (2^63) = some [0, 3, 0x100000003, 0x200000003, 0x300000003] := by decide +kernel
example : Gen.Ssa8.bmtree_AllPaths_debug 40 5 0 (2^63) = some [0, 3, 0x100000003, 0x200000003, 0x300000003] := run1
example : allPaths 5 0 (2^63) = [0, 3, 0x100000003, 0x200000003, 0x300000003] :=
  Option.some.inj ((Tie_bmtree_AllPaths_debug 5 0 (2^63) 40 (by decide +kernel) (by decide +kernel) (by decide +kernel) (by decide +kernel) (by decide +kernel)).symm.trans run1)
-- `from` / `to` cut the enumeration (the early `return paths` of the inner loop)
private theorem run2 : Gen.Ssa8.bmtree_AllPaths_debug 40 7 2 0x200000002 = some [2, 3, 0x100000003] := by decide +kernel
example : Gen.Ssa8.bmtree_AllPaths_debug 40 7 2 0x200000002 = some [2, 3, 0x100000003] := run2
example : allPaths 7 2 0x200000002 = [2, 3, 0x100000003] :=
  Option.some.inj ((Tie_bmtree_AllPaths_debug 7 2 0x200000002 40 (by decide +kernel) (by decide +kernel) (by decide +kernel) (by decide +kernel)
    (by decide +kernel)).symm.trans run2)
-- out of fuel
example : Gen.Ssa8.bmtree_AllPaths_debug 3 5 0 (2^63) = none := by decide +kernel
-- `bitmapSize = 0`: `bitmap.Bit[-1]` panics
example : Gen.Ssa8.bmtree_AllPaths_debug 40 0 0 (2^63) = none := by decide +kernel

end Low
