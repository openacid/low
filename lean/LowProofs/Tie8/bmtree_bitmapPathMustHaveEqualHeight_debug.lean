import Generated.Ssa8.bmtree_bitmapPathMustHaveEqualHeight_debug
import LowProofs.Tie8.bmtree_Height_debug
import LowProofs.Tie8.bmtree_PathHeight_debug
import LowProofs.Tie8.bmtree_bitmapSizeCheck_debug
import LowProofs.Tie8.bmtree_pathCheck_debug
import LowModel.Bmtree.Index
/-
  Tie: the definition regenerated from the SSA form of `bmtree.bitmapPathMustHaveEqualHeight` in the `-tags debug`
  build (calls of `bitmapSizeCheck` and `pathCheck`, then — unless the mask half of the path word is zero —
  `must.Be.Equal(Height(bitmapSize), PathHeight(path), "bitmap height == path height")`) equals the model contract
  `bitmapPathMustHaveEqualHeight`.
-/
namespace Low
open Low.GoSem Low.Tie8L

/-- Domain: `bitmapSize` a non-negative `int32` (`t < 2^31`, `t = 0` included), `path < 2^64`; no contract is
    assumed: the tie covers accepted and rejected arguments. -/
theorem Tie_bmtree_bitmapPathMustHaveEqualHeight_debug (t path : Nat) (ht' : t < 2^31) (hp : path < 2^64) :
    Gen.Ssa8.bmtree_bitmapPathMustHaveEqualHeight_debug (t : Int) path
      = chk (bitmapPathMustHaveEqualHeight t path) := by
  rw [Gen.Ssa8.bmtree_bitmapPathMustHaveEqualHeight_debug, bitmapPathMustHaveEqualHeight,
    Tie_bmtree_bitmapSizeCheck_debug t ht', Tie_bmtree_pathCheck_debug path hp, Bool.and_assoc]
  simp only [toU32, u32_ofNat, Tie_bmtree_Height_debug, Tie_bmtree_PathHeight_debug, mustEqual_int32]
  apply chk_bind
  apply chk_bind
  by_cases h0 : path % M32 = 0
  · simp only [h0, ne_eq, not_true_eq_false, decide_false, Bool.false_eq_true, ↓reduceIte, chk_true]
  · simp only [h0, ne_eq, not_false_eq_true, decide_true, ↓reduceIte, chk_bind_some]

example : Gen.Ssa8.bmtree_bitmapPathMustHaveEqualHeight_debug 0x72 0x28_0000003c = some () := by decide +kernel
example : bitmapPathMustHaveEqualHeight 0x72 0x28_0000003c = true := by decide +kernel
-- the empty path has no height: accepted for every bitmap
example : Gen.Ssa8.bmtree_bitmapPathMustHaveEqualHeight_debug 0x72 0 = some () := by decide +kernel
-- a path of another height
example : Gen.Ssa8.bmtree_bitmapPathMustHaveEqualHeight_debug 0x72 0xa_0000000e = none := by decide +kernel
example : bitmapPathMustHaveEqualHeight 0x72 0xa_0000000e = false := by decide +kernel

end Low
