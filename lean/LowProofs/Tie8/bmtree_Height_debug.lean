import Generated.Ssa8.bmtree_Height_debug
import LowProofs.Tie.Bmtree
import LowModel.Bmtree.Path
/-
  Tie: the definition regenerated from the SSA form of `bmtree.Height` in the `-tags debug` build equals the hand-written
  model.  The function contains no contract check, so its debug build has the same SSA form as its release build and
  the tie is the same lemma about that body (`TieBm.height_body`); it is tied separately so that nothing under Tie8 rests
  on a definition regenerated from the RELEASE build.
-/
namespace Low

/-- Domain: `bitmapSize` any non-negative `int32` (the model takes a `Nat`; the equation needs no bound).
    Total: the Go function cannot panic. -/
theorem Tie_bmtree_Height_debug (t : Nat) : Gen.Ssa8.bmtree_Height_debug (t : Int) = height t :=
  TieBm.height_body t

example : Gen.Ssa8.bmtree_Height_debug 16 = 4 := by decide +kernel
example : height 16 = 4 := by decide +kernel

end Low
